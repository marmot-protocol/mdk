import MdkVerif.Model.Locks
import MdkVerif.Proofs.LocksNested
import MdkVerif.Proofs.LocksStore
/-
  MdkVerif.Proofs.LocksNestedStore — the memory backend's nested snapshot operations as an instance
  of `Proofs.LocksNested`: no method that runs under the `inner` lock alone reads or writes the
  snapshot map (the part of the store the `group_snapshots` lock protects).  Then: the lock order of
  the generated shape table carried over to `lockProg`.
-/
namespace MdkVerif.Locks
open MdkVerif MdkVerif.Store

/-- changing the snapshot map before or after the step is the same (the step does not read it),
    and the step leaves it as it is (does not write it) -/
def SnapIndep (op : Op) : Prop :=
  ∀ (s : Store) (x : List Snap),
    Store.step { s with snaps := x } op = ({ (Store.step s op).1 with snaps := x }, (Store.step s op).2) ∧
    (Store.step s op).1.snaps = s.snaps

theorem okErr_indep (f : Store → Option Store) (s : Store) (x : List Snap)
    (h1 : f { s with snaps := x } = (f s).map ({ · with snaps := x }))
    (h2 : ∀ s', f s = some s' → s'.snaps = s.snaps) :
    okErr (f { s with snaps := x }) { s with snaps := x } = ({ (okErr (f s) s).1 with snaps := x }, (okErr (f s) s).2) ∧
    (okErr (f s) s).1.snaps = s.snaps := by
  rw [h1]
  cases hf : f s with
  | none => exact ⟨rfl, rfl⟩
  | some s' => exact ⟨rfl, h2 s' hf⟩

theorem saveGroup_snaps (g : Group) (s : Store) (x : List Snap) :
    saveGroup { s with snaps := x } g = (saveGroup s g).map ({ · with snaps := x }) := by
  obtain ⟨bk, gs, bn, rl, sc, ms, pm, wl, pw, ml, sn⟩ := s
  unfold saveGroup
  cases bk
  · dsimp only
    cases alookup g.nid bn <;> simp only [apply_ite (Option.map _)] <;> rfl
  · simp only [apply_ite (Option.map _)]; rfl

theorem saveMessage_snaps (m : Msg) (s : Store) (x : List Snap) :
    saveMessage { s with snaps := x } m = (saveMessage s m).map ({ · with snaps := x }) := by
  simp only [saveMessage, apply_ite (Option.map _)]; rfl

theorem markRetryable_snaps (w : Nat) (s : Store) (x : List Snap) :
    markRetryable { s with snaps := x } w = (markRetryable s w).map ({ · with snaps := x }) := by
  show (match findPm s w with
    | some p => _
    | none => _) = Option.map _ (match findPm s w with
    | some p => _
    | none => _)
  cases findPm s w with
  | none => rfl
  | some p => simp only [apply_ite (Option.map _)]; rfl

theorem replaceRelays_snaps (g : Nat) (rs : List Nat) (s : Store) (x : List Snap) :
    replaceRelays { s with snaps := x } g rs = (replaceRelays s g rs).map ({ · with snaps := x }) := by
  simp only [replaceRelays, apply_ite (Option.map _)]; rfl

theorem saveSecret_snaps (g e v : Nat) (s : Store) (x : List Snap) :
    saveSecret { s with snaps := x } g e v = (saveSecret s g e v).map ({ · with snaps := x }) := by
  simp only [saveSecret, apply_ite (Option.map _)]; rfl

theorem saveWelcome_snaps (w : Welcome) (s : Store) (x : List Snap) :
    saveWelcome { s with snaps := x } w = (saveWelcome s w).map ({ · with snaps := x }) := by
  obtain ⟨bk, gs, bn, rl, sc, ms, pm, wl, pw, ml, sn⟩ := s
  cases bk <;> simp only [saveWelcome, apply_ite (Option.map _)] <;> rfl

/-- the operations whose memory method runs under the `inner` lock only -/
def innerOnly : Op → Bool
  | .snapCreate _ _ _ | .snapRollback _ _ | .snapRelease _ _ | .snapList _ | .snapPrune _ | .dump | .updLast _ _ _ _ => false
  | _ => true

theorem snapIndep_of_innerOnly (op : Op) (h : innerOnly op = true) : SnapIndep op := by
  intro s x
  cases op with
  | saveGroup g =>
    exact okErr_indep (saveGroup · g) s x (saveGroup_snaps g s x) fun s' h => by
      rw [saveGroup_some h]
  | saveMessage m =>
    exact okErr_indep (saveMessage · m) s x (saveMessage_snaps m s x) fun s' h => by rw [(saveMessage_some h).2]
  | markRetryable w =>
    exact okErr_indep (markRetryable · w) s x (markRetryable_snaps w s x) fun s' h => by
      obtain ⟨_, _, rfl⟩ := markRetryable_some h; rfl
  | replaceRelays g rs =>
    exact okErr_indep (replaceRelays · g rs) s x (replaceRelays_snaps g rs s x) fun s' h => by
      rw [replaceRelays_some h]
  | saveSecret g e v =>
    exact okErr_indep (saveSecret · g e v) s x (saveSecret_snaps g e v s x) fun s' h => by rw [saveSecret_some h]
  | saveWelcome w =>
    exact okErr_indep (saveWelcome · w) s x (saveWelcome_snaps w s x) fun s' h => by rw [saveWelcome_some h]
  | snapCreate | snapRollback | snapRelease | snapList | snapPrune | dump | updLast => cases h
  | _ => exact ⟨rfl, rfl⟩

/-- a one-section method whose function neither reads nor writes the snapshot map -/
theorem good_atomic_of_indep (lk : Lock) (f : Store → Store × String)
    (h : ∀ (s : Store) (x : List Snap), f { s with snaps := x } = ({ (f s).1 with snaps := x }, (f s).2) ∧ (f s).1.snaps = s.snaps) :
    memNest.good (Prog.atomic lk f) := by
  refine ⟨fun _ s x => ?_, fun _ => trivial⟩
  obtain ⟨h1, h2⟩ := h s x
  refine ⟨?_, ?_, h2⟩
  · show (f { s with snaps := x }).1 = _
    rw [h1]; rfl
  · show Prog.done (f { s with snaps := x }).2 = _
    rw [h1]

theorem good_whole_inner (lk : Lock) (op : Op) (h : SnapIndep op) : memNest.good (whole lk op) :=
  good_atomic_of_indep lk _ h

theorem updLast_act_indep (G : Group) (r : String) (s : Store) (x : List Snap) :
    let f : Store → Store × String := fun s' =>
      match saveGroup s' G with
      | some s'' => (s'', r)
      | none => (s', "err")
    f { s with snaps := x } = ({ (f s).1 with snaps := x }, (f s).2) ∧ (f s).1.snaps = s.snaps := by
  intro f
  simp only [f]
  rw [saveGroup_snaps]
  cases hs : saveGroup s G with
  | none => exact ⟨rfl, rfl⟩
  | some s'' =>
    rw [saveGroup_some hs]; exact ⟨rfl, rfl⟩

/-- `memNest.describes`: the nested form of the memory snapshot methods is what `memProgWith true` runs -/
theorem memNest_describes : memNest.describes (memProgWith true) := by
  intro op h
  cases op with
  | snapCreate | snapRollback => rfl
  | _ => cases h

/-- every other memory method (the harness composite `dump`, which is not a storage method, apart)
    is made of un-nested sections that take the `group_snapshots` lock or neither read nor write
    the snapshot map -/
theorem memProgN_good (op : Op) (hop : op ≠ .dump) (hno : memNest.is op = false) :
    memNest.good (memProgWith true op) := by
  cases op
  case dump => exact absurd rfl hop
  case snapCreate | snapRollback => cases hno
  case snapRelease | snapList | snapPrune => exact ⟨fun h => absurd rfl h, fun _ => trivial⟩
  case updLast g c p i =>
    refine ⟨fun _ s x => ⟨rfl, rfl, rfl⟩, fun s => ?_⟩
    dsimp only
    split
    · trivial
    · exact good_atomic_of_indep _ _ (updLast_act_indep _ _)
  all_goals exact good_whole_inner _ _ (snapIndep_of_innerOnly _ rfl)

/-- the fused snapshot operations ARE the sequential model's operations -/
theorem memN_fuse_run (op : Op) (s : Store) (hb : s.backend = .mem) :
    (memNest.fuse (memProgWith true) op).run s = Store.step s op := by
  rw [← memProgWith_run true op s hb]
  unfold NestOps.fuse
  cases h : memNest.is op
  · rfl
  · rw [if_pos rfl, run_atomic, ← run_nested, ← memNest_describes op h]

/-- … and, for a storage method, ONE section -/
theorem memN_fuse_single (op : Op) (h : methodOf op ≠ none) : (memNest.fuse (memProgWith true) op).single := by
  cases op with
  | updLast | dump => exact absurd rfl h
  | _ => exact single_atomic _ _

/-! ## the lock order of the generated shape table -/

/-- GENERATED FACT: every section of every storage method of both backends takes its locks in
    strictly increasing `lockRank` (`group_snapshots` before `inner`; never the same lock twice;
    the sqlite connection never together with another lock) -/
theorem lock_order_table :
    Generated.lockShape.all (fun e => e.2.2.2.1.all (stackOrdered lockRank 0)) = true := by
  decide +kernel

theorem lockRank_lt (i : Nat) : lockRank i < 3 := by
  unfold lockRank; split <;> omega

theorem shapeOf_ordered (b : Backend) (m : Nat) (l : List (List Lock)) (h : shapeOf b m = some l) :
    ∀ st, st ∈ l → stackOrdered lockRank 0 st = true := by
  simp only [shapeOf, Option.map_eq_some_iff] at h
  obtain ⟨e, he, rfl⟩ := h
  exact List.all_eq_true.mp (List.all_eq_true.mp lock_order_table e (List.mem_of_find?_eq_some he))

theorem ordered_atomic {σ ρ : Type} (rank : Nat → Nat) (lk : Lock) (f : σ → σ × ρ) : (Prog.atomic lk f).ordered rank 0 :=
  ⟨Nat.zero_le _, fun _ => trivial⟩

/-- every storage method, as modelled, acquires its locks in the order the table exhibits -/
theorem lockProg_ordered (b : Backend) (op : Op) : (lockProg b op).ordered lockRank 0 := by
  cases hm : methodOf op with
  | some m =>
    obtain ⟨l, hl, hf⟩ := lockProg_shape b op m hm
    exact ordered_of_follows lockRank _ [] l hf (shapeOf_ordered b m l hl)
  | none =>
    cases op with
    | dump => cases b <;> exact ordered_atomic _ _ _
    | updLast g c p i =>
      cases b
      all_goals
        refine ⟨Nat.zero_le _, fun s => ?_⟩
        dsimp only
        split
        · trivial
        · exact ordered_atomic _ _ _
    | _ => cases hm

theorem step_backend (s : Store) (op : Op) : (Store.step s op).1.backend = s.backend := Store.step_backend s op

/-- a sequential run of the fused memory operations is the sequential store model's run -/
theorem memN_fuse_seqRun (l : List Op) (s : Store) (hb : s.backend = .mem) :
    seqRun (memNest.fuse (memProgWith true)) l s = seqRun (fun op => whole lkInnerW op) l s := by
  induction l generalizing s with
  | nil => rfl
  | cons op l ih =>
    simp only [seqRun]
    rw [memN_fuse_run op s hb, run_whole, ih _ (by rw [step_backend]; exact hb)]

end MdkVerif.Locks
