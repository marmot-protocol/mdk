namespace MdkVerif

/-- `P (if p then x else y)` from `P x` under `p` and `P y` under `¬ p`: how a cascade of `if`s is walked, one
    branch at a time, when a relation says how a step function ends -/
theorem ite_elim {α : Sort _} {P : α → Prop} {p : Prop} [Decidable p] {x y : α} (ht : p → P x) (hf : ¬ p → P y) :
    P (if p then x else y) := by
  by_cases h : p
  · rw [if_pos h]; exact ht h
  · rw [if_neg h]; exact hf h

/-- the same for two runs that branch on the same condition -/
theorem ite_elim₂ {α β : Sort _} {P : α → β → Prop} {p : Prop} [Decidable p] {x y : α} {x' y' : β}
    (ht : p → P x x') (hf : ¬ p → P y y') : P (if p then x else y) (if p then x' else y') := by
  by_cases h : p
  · rw [if_pos h, if_pos h]; exact ht h
  · rw [if_neg h, if_neg h]; exact hf h

/-- what every step keeps, the fold keeps -/
theorem foldl_invariant {α : Type _} {β : Type _} {P : α → Prop} {f : α → β → α} (hstep : ∀ a b, P a → P (f a b)) :
    ∀ (l : List β) (a : α), P a → P (l.foldl f a)
  | [], _, h => h
  | b :: l, a, h => foldl_invariant hstep l (f a b) (hstep a b h)

end MdkVerif
