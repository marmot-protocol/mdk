import MdkVerif.Model.Store
import MdkVerif.Proofs.Lru
/- helper lemmas about the store model: association lists, row filters, group lists, and what each
   accepted write of `Model/Store.lean` changes -/
namespace MdkVerif.Store
open MdkVerif List

/-! ## association lists (`Model/Basic.lean`): those of `Model/Lru.lean` at key type `Nat` -/

theorem alookup_eq {α : Type} (k : Nat) (l : List (Nat × α)) : alookup k l = Lru.lookup k l := by
  induction l with
  | nil => rfl
  | cons h t ih => rw [alookup, Lru.lookup, ih]

theorem ainsert_eq {α : Type} (k : Nat) (v : α) (l : List (Nat × α)) : ainsert k v l = Lru.insert k v l := by
  induction l with
  | nil => rfl
  | cons h t ih => rw [ainsert, Lru.insert, ih]

theorem aerase_eq {α : Type} (k : Nat) (l : List (Nat × α)) : aerase k l = Lru.erase k l :=
  List.filter_congr (fun p _ => by simp only [bne_iff_ne, ne_eq, decide_not]; rfl)

theorem alookup_ainsert_self {α : Type} (k : Nat) (v : α) (l : List (Nat × α)) :
    alookup k (ainsert k v l) = some v := by
  rw [ainsert_eq, alookup_eq]; exact Lru.lookup_insert_self k v l

theorem alookup_ainsert_ne {α : Type} (k k2 : Nat) (v : α) (l : List (Nat × α)) (h : k2 ≠ k) :
    alookup k2 (ainsert k v l) = alookup k2 l := by
  rw [ainsert_eq, alookup_eq, alookup_eq]; exact Lru.lookup_insert_ne k k2 v l h

theorem alookup_aerase_self {α : Type} (k : Nat) (l : List (Nat × α)) : alookup k (aerase k l) = none := by
  rw [aerase_eq, alookup_eq]; exact Lru.lookup_erase_self k l

theorem alookup_aerase_ne {α : Type} (k k2 : Nat) (l : List (Nat × α)) (h : k2 ≠ k) :
    alookup k2 (aerase k l) = alookup k2 l := by
  rw [aerase_eq, alookup_eq, alookup_eq]; exact Lru.lookup_erase_ne k k2 l h

theorem alookup_ainsert {α : Type} (k n : Nat) (v : α) (l : List (Nat × α)) :
    alookup n (ainsert k v l) = if n = k then some v else alookup n l := by
  split
  · next c => rw [c]; exact alookup_ainsert_self k v l
  · next c => exact alookup_ainsert_ne k n v l c

theorem alookup_aerase {α : Type} (k n : Nat) (l : List (Nat × α)) :
    alookup n (aerase k l) = if k = n then none else alookup n l := by
  split
  · next c => rw [c]; exact alookup_aerase_self n l
  · next c => exact alookup_aerase_ne k n l (fun e => c e.symm)

theorem mem_keys_ainsert {β : Type} (k : Nat) (v : β) (l : List (Nat × β)) (x : Nat) :
    x ∈ (ainsert k v l).map (·.1) ↔ x = k ∨ x ∈ l.map (·.1) := by
  induction l with
  | nil => simp [ainsert]
  | cons a t ih =>
    obtain ⟨a1, a2⟩ := a
    by_cases c : a1 = k
    · simp [ainsert, c]
    · simp only [ainsert, c, if_false, List.map_cons, List.mem_cons, ih]
      exact or_left_comm

theorem mem_keys_aerase {β : Type} (k : Nat) (l : List (Nat × β)) (x : Nat) :
    x ∈ (aerase k l).map (·.1) ↔ x ∈ l.map (·.1) ∧ x ≠ k := by
  rw [aerase_eq]; exact Lru.mem_keys_erase k x l

/-- the shape all insert-or-replace functions of the store model share: the first element that `same` accepts is
    replaced, a new element goes to the end -/
def upsertBy {α : Type} (same : α → Bool) (x : α) : List α → List α
  | [] => [x]
  | h :: t => if same h then x :: t else h :: upsertBy same x t

theorem replaceGroup_eq (g : Group) (l : List Group) : replaceGroup g l = upsertBy (·.gid == g.gid) g l := by
  induction l with
  | nil => rfl
  | cons h t ih => rw [replaceGroup, upsertBy, ih]

theorem upsertMsg_eq (m : Msg) (l : List Msg) : upsertMsg m l = upsertBy (fun h => h.gid == m.gid && h.id == m.id) m l := by
  induction l with
  | nil => rfl
  | cons h t ih => rw [upsertMsg, upsertBy, ih]

theorem upsertPm_eq (p : PM) (l : List PM) : upsertPm p l = upsertBy (·.wrapper == p.wrapper) p l := by
  induction l with
  | nil => rfl
  | cons h t ih => rw [upsertPm, upsertBy, ih]

theorem upsertWelcome_eq (w : Welcome) (l : List Welcome) : upsertWelcome w l = upsertBy (·.id == w.id) w l := by
  induction l with
  | nil => rfl
  | cons h t ih => rw [upsertWelcome, upsertBy, ih]

theorem upsertPw_eq (p : PW) (l : List PW) : upsertPw p l = upsertBy (·.wrapper == p.wrapper) p l := by
  induction l with
  | nil => rfl
  | cons h t ih => rw [upsertPw, upsertBy, ih]

theorem upsertSecret_eq (gid epoch v : Nat) (l : List (Nat × Nat × Nat)) :
    upsertSecret gid epoch v l = upsertBy (fun h => h.1 == gid && h.2.1 == epoch) (gid, epoch, v) l := by
  induction l with
  | nil => rfl
  | cons h t ih => rw [upsertSecret, upsertBy, ih]

theorem upsertMls_eq (gid key v : Nat) (l : List (Nat × Nat × Nat)) :
    upsertMls gid key v l = upsertBy (fun h => h.1 == gid && h.2.1 == key) (gid, key, v) l := by
  induction l with
  | nil => rfl
  | cons h t ih => rw [upsertMls, upsertBy, ih]

section
variable {α : Type} {same : α → Bool} {x : α}

theorem mem_map_upsertBy {κ : Type} {f : α → κ} (hf : ∀ h, same h = true → f h = f x) (l : List α) (k : κ) :
    k ∈ (upsertBy same x l).map f ↔ k = f x ∨ k ∈ l.map f := by
  induction l with
  | nil => simp [upsertBy]
  | cons a t ih =>
    cases c : same a with
    | true => simp [upsertBy, c, hf a c]
    | false =>
      simp only [upsertBy, c, Bool.false_eq_true, if_false, List.map_cons, List.mem_cons, ih]
      exact or_left_comm

theorem mem_upsertBy_self (l : List α) : x ∈ upsertBy same x l := by
  induction l with
  | nil => exact List.mem_singleton.mpr rfl
  | cons a t ih =>
    rw [upsertBy]; split
    · exact List.mem_cons_self
    · exact List.mem_cons_of_mem _ ih

theorem find?_upsertBy_self (hx : same x = true) (l : List α) : (upsertBy same x l).find? same = some x := by
  induction l with
  | nil => rw [upsertBy, List.find?_cons, hx]
  | cons a t ih =>
    cases c : same a with
    | true => rw [upsertBy, if_pos c, List.find?_cons, hx]
    | false => rw [upsertBy, if_neg (by simp [c]), List.find?_cons, c, ih]

theorem filter_upsertBy_ne {p : α → Bool} (hx : p x = false)
    (hs : ∀ h, same h = true → p h = false) (l : List α) : (upsertBy same x l).filter p = l.filter p := by
  induction l with
  | nil => rw [upsertBy, List.filter_cons, hx]; rfl
  | cons a t ih =>
    cases c : same a with
    | true => rw [upsertBy, if_pos c, List.filter_cons, List.filter_cons, hx, hs a c]; rfl
    | false => rw [upsertBy, if_neg (by simp [c]), List.filter_cons, List.filter_cons, ih]

theorem find?_upsertBy_ne {p : α → Bool} (hx : p x = false) (hs : ∀ h, same h = true → p h = false) (l : List α) :
    (upsertBy same x l).find? p = l.find? p := by
  rw [← List.head?_filter, filter_upsertBy_ne hx hs, List.head?_filter]

theorem upsertBy_fresh (l : List α) (h : ∀ y ∈ l, same y = false) : upsertBy same x l = l ++ [x] := by
  induction l with
  | nil => rfl
  | cons a t ih =>
    rw [upsertBy, if_neg (by simp [h a List.mem_cons_self]), ih (fun y hy => h y (List.mem_cons_of_mem _ hy))]
    rfl

end

theorem eq_of_pairwise_ne {α β : Type} {f : α → β} {l : List α} (h : l.Pairwise (fun a b => f a ≠ f b))
    {x y : α} (hx : x ∈ l) (hy : y ∈ l) (e : f x = f y) : x = y := by
  induction l with
  | nil => cases hx
  | cons a t ih =>
    obtain ⟨ha, ht⟩ := List.pairwise_cons.mp h
    rcases List.mem_cons.mp hx with rfl | hx' <;> rcases List.mem_cons.mp hy with rfl | hy'
    · rfl
    · exact absurd e (ha y hy')
    · exact absurd e.symm (ha x hx')
    · exact ih ht hx' hy'

theorem find?_beq_iff {α : Type} {f : α → Nat} {l : List α} (h : l.Pairwise (fun a b => f a ≠ f b)) (k : Nat) (x : α) :
    l.find? (fun a => f a == k) = some x ↔ x ∈ l ∧ f x = k := by
  constructor
  · intro hf
    exact ⟨List.mem_of_find?_eq_some hf, by simpa using List.find?_some hf⟩
  · rintro ⟨hx, hn⟩
    cases hf : l.find? (fun a => f a == k) with
    | none => exact absurd (by simpa using hn) (List.find?_eq_none.mp hf x hx)
    | some y =>
      have hyn : f y = k := by simpa using List.find?_some hf
      rw [eq_of_pairwise_ne h (List.mem_of_find?_eq_some hf) hx (hyn.trans hn.symm)]

theorem find_replaceGroup_self (g : Group) (l : List Group) :
    (replaceGroup g l).find? (·.gid == g.gid) = some g := by
  rw [replaceGroup_eq]; exact find?_upsertBy_self (same := (·.gid == g.gid)) (beq_self_eq_true _) l

theorem find_replaceGroup_ne (g : Group) (l : List Group) (k : Nat) (hk : k ≠ g.gid) :
    (replaceGroup g l).find? (·.gid == k) = l.find? (·.gid == k) := by
  rw [replaceGroup_eq]
  refine find?_upsertBy_ne (p := (·.gid == k)) (beq_false_of_ne (Ne.symm hk)) (fun h c => ?_) l
  rw [eq_of_beq c]; exact beq_false_of_ne (Ne.symm hk)

theorem find_upsertMsg_self (m : Msg) (l : List Msg) :
    (upsertMsg m l).find? (fun x => x.gid == m.gid && x.id == m.id) = some m := by
  rw [upsertMsg_eq]
  exact find?_upsertBy_self (same := fun x => x.gid == m.gid && x.id == m.id) (by rw [beq_self_eq_true, beq_self_eq_true]; rfl) l

theorem find_upsertMsg_ne (m : Msg) (l : List Msg) (g i : Nat) (hne : ¬ (g = m.gid ∧ i = m.id)) :
    (upsertMsg m l).find? (fun x => x.gid == g && x.id == i) = l.find? (fun x => x.gid == g && x.id == i) := by
  have hm : (m.gid == g && m.id == i) = false := by
    refine Bool.eq_false_iff.mpr (fun c => ?_)
    have c' := (Bool.and_eq_true _ _).mp c
    exact hne ⟨(eq_of_beq c'.1).symm, (eq_of_beq c'.2).symm⟩
  rw [upsertMsg_eq]
  refine find?_upsertBy_ne (p := fun x => x.gid == g && x.id == i) hm (fun h c => ?_) l
  have c' := (Bool.and_eq_true _ _).mp c
  rw [eq_of_beq c'.1, eq_of_beq c'.2]; exact hm

theorem find_upsertPm_self (p : PM) (l : List PM) : (upsertPm p l).find? (·.wrapper == p.wrapper) = some p := by
  rw [upsertPm_eq]; exact find?_upsertBy_self (same := (·.wrapper == p.wrapper)) (beq_self_eq_true _) l

theorem find_upsertPm_ne (p : PM) (l : List PM) (w : Nat) (hw : w ≠ p.wrapper) :
    (upsertPm p l).find? (·.wrapper == w) = l.find? (·.wrapper == w) := by
  rw [upsertPm_eq]
  refine find?_upsertBy_ne (p := (·.wrapper == w)) (beq_false_of_ne (Ne.symm hw)) (fun h c => ?_) l
  rw [eq_of_beq c]; exact beq_false_of_ne (Ne.symm hw)

theorem find_filter_ne_self (l : List Group) (gid : Nat) :
    (l.filter (·.gid != gid)).find? (·.gid == gid) = none := by
  apply List.find?_eq_none.mpr; intro a ha; simp at ha; simp [ha.2]

theorem find_filter_ne_other (l : List Group) (gid k : Nat) (hk : k ≠ gid) :
    (l.filter (·.gid != gid)).find? (·.gid == k) = l.find? (·.gid == k) := by
  induction l with
  | nil => simp
  | cons h t ih =>
    by_cases c : h.gid = gid
    · subst c
      have : (h.gid == k) = false := by simp; omega
      simp [List.filter_cons, ih, List.find?_cons, this]
    · by_cases c2 : h.gid = k
      · subst c2; simp [List.filter_cons, c]
      · simp [List.filter_cons, c, c2, ih]

theorem rows_restore_self (rows : List (Nat × Nat × Nat)) (gid : Nat) (kv : List (Nat × Nat)) :
    ((rows.filter (·.1 != gid) ++ kv.map (fun x => (gid, x.1, x.2))).filter (·.1 == gid)).map (·.2) = kv := by
  rw [List.filter_append]
  have h1 : (rows.filter (·.1 != gid)).filter (·.1 == gid) = [] := by
    rw [List.filter_filter]; apply List.filter_eq_nil_iff.mpr; intro a _; simp
  have h2 : (kv.map (fun x => (gid, x.1, x.2))).filter (·.1 == gid) = kv.map (fun x => (gid, x.1, x.2)) := by
    apply List.filter_eq_self.mpr; intro a ha; simp at ha; obtain ⟨_, _, _, rfl⟩ := ha; simp
  rw [h1, h2]; simp [Function.comp_def]

theorem rows_restore_ne (rows : List (Nat × Nat × Nat)) (gid k : Nat) (kv : List (Nat × Nat)) (hk : k ≠ gid) :
    ((rows.filter (·.1 != gid) ++ kv.map (fun x => (gid, x.1, x.2))).filter (·.1 == k)) = rows.filter (·.1 == k) := by
  rw [List.filter_append]
  have h2 : (kv.map (fun x => (gid, x.1, x.2))).filter (·.1 == k) = [] := by
    apply List.filter_eq_nil_iff.mpr; intro a ha; simp at ha; obtain ⟨_, _, _, rfl⟩ := ha; simp; omega
  rw [h2, List.append_nil, List.filter_filter]
  apply List.filter_congr; intro a _
  by_cases c : a.1 = k <;> simp [c]; omega

theorem findGroup_gid {s : Store} {gid : Nat} {g : Group} (h : findGroup s gid = some g) : g.gid = gid := by
  unfold findGroup at h
  have := List.find?_some h
  simpa using this

theorem findSnap_spec {s : Store} {gid name : Nat} {p : Snap} (h : findSnap s gid name = some p) :
    p ∈ s.snaps ∧ p.gid = gid ∧ p.name = name := by
  unfold findSnap at h
  have h1 := List.find?_some h
  have h2 := List.mem_of_find?_eq_some h
  simp at h1
  exact ⟨h2, h1.1, h1.2⟩

theorem findSnap_drop_append (snaps : List Snap) (p : Snap) :
    (dropSnap p.gid p.name snaps ++ [p]).find? (fun q => q.gid == p.gid && q.name == p.name) = some p := by
  have : (dropSnap p.gid p.name snaps).find? (fun q => q.gid == p.gid && q.name == p.name) = none := by
    refine List.find?_eq_none.mpr fun q hq => ?_
    have := (List.mem_filter.mp hq).2
    cases hx : (q.gid == p.gid && q.name == p.name)
    · simp
    · simp [hx] at this
  simp [List.find?_append, this]

theorem dropSnap_not_found (l : List Snap) (gid name : Nat)
    (h : l.find? (fun p => p.gid == gid && p.name == name) = none) : dropSnap gid name l = l := by
  simp only [dropSnap, List.filter_eq_self]
  intro p hp
  have := List.find?_eq_none.mp h p hp
  cases hx : (p.gid == gid && p.name == name) with
  | false => rfl
  | true => exact absurd hx this

/-! ## what a write changes: every saving function of `Model/Store.lean` is `if refused then none else some { s with … }` -/

theorem backend_cases (s : Store) : s.backend = .mem ∨ s.backend = .sql := by
  cases s.backend
  · exact Or.inl rfl
  · exact Or.inr rfl

theorem isSome_ite_none {α : Type} {c : Prop} [Decidable c] {o : Option α} :
    (if c then none else o).isSome = true ↔ ¬ c ∧ o.isSome = true := by
  by_cases h : c
  · rw [if_pos h]; exact ⟨fun x => (by cases x), fun x => absurd h x.1⟩
  · rw [if_neg h]; exact ⟨fun x => ⟨h, x⟩, fun x => x.2⟩

theorem okErr_ind (P : Store → Prop) {o : Option Store} {s : Store} (h0 : P s) (h1 : ∀ s', o = some s' → P s') :
    P (okErr o s).1 := by
  cases o with
  | none => exact h0
  | some s' => exact h1 s' rfl

/-- memory's index update in `save_group` -/
def memIdx (m : Store) (g : Group) : List (Nat × Group) :=
  ainsert g.nid g (match findGroup m g.gid with
    | some old => if old.nid != g.nid then aerase old.nid m.byNid else m.byNid
    | none => m.byNid)

theorem saveGroup_some {s s' : Store} {g : Group} (h : saveGroup s g = some s') :
    s' = { s with groups := replaceGroup g s.groups,
                  byNid := match s.backend with | .mem => memIdx s g | .sql => s.byNid } := by
  unfold saveGroup at h
  rw [Option.ite_none_left_eq_some, Option.ite_none_left_eq_some, Option.ite_none_left_eq_some] at h
  obtain ⟨_, _, _, h⟩ := h
  cases hb : s.backend with
  | mem =>
    simp only [hb] at h ⊢
    cases hl : alookup g.nid s.byNid with
    | none => rw [hl] at h; exact (Option.some.inj h).symm
    | some o =>
      rw [hl] at h
      exact (Option.some.inj (Option.ite_none_left_eq_some.mp h).2).symm
  | sql =>
    simp only [hb] at h ⊢
    exact (Option.some.inj (Option.ite_none_left_eq_some.mp h).2).symm

theorem saveGroup_some_mem {s s' : Store} {g : Group} (hb : s.backend = .mem) (h : saveGroup s g = some s') :
    s' = { s with groups := replaceGroup g s.groups, byNid := memIdx s g } := by
  have e := saveGroup_some h
  rwa [show (match s.backend with | .mem => memIdx s g | .sql => s.byNid) = memIdx s g by rw [hb]] at e

theorem saveGroup_some_sql {s s' : Store} {g : Group} (hb : s.backend = .sql) (h : saveGroup s g = some s') :
    s' = { s with groups := replaceGroup g s.groups } := by
  have e := saveGroup_some h
  rwa [show (match s.backend with | .mem => memIdx s g | .sql => s.byNid) = s.byNid by rw [hb]] at e

/-- `save_group` is accepted iff the record is within the backend's limits and its nostr group id is not
    held by another group (memory asks its index, SQLite its UNIQUE constraint) -/
theorem saveGroup_isSome (s : Store) (g : Group) :
    (saveGroup s g).isSome ↔ g.nameLen ≤ nameLimit s.backend ∧ g.descLen ≤ descLimit s.backend ∧
      match s.backend with
      | .mem => g.admins ≤ Generated.memMaxAdminsPerGroup ∧ ∀ o, alookup g.nid s.byNid = some o → o.gid = g.gid
      | .sql => s.groups.any (fun h => h.nid == g.nid && h.gid != g.gid) = false := by
  unfold saveGroup
  rw [isSome_ite_none, isSome_ite_none, isSome_ite_none, Nat.not_lt, Nat.not_lt]
  refine and_congr_right (fun _ => and_congr_right (fun _ => ?_))
  rcases backend_cases s with hb | hb <;> simp only [hb]
  · rw [show (Backend.mem == Backend.mem) = true from rfl, Bool.true_and, decide_eq_true_eq, Nat.not_lt]
    refine and_congr_right (fun _ => ?_)
    cases alookup g.nid s.byNid with
    | none => exact ⟨fun _ o ho => (by cases ho), fun _ => rfl⟩
    | some o =>
      simp only [isSome_ite_none, bne_iff_ne, ne_eq, Decidable.not_not, Option.isSome_some, and_true, Option.some.injEq]
      exact ⟨fun h o' e => e ▸ h, fun h => h o rfl⟩
  · rw [show (Backend.sql == Backend.mem) = false from rfl, Bool.false_and]
    simp only [Bool.false_eq_true, not_false_eq_true, true_and, isSome_ite_none, Bool.not_eq_true, Option.isSome_some, and_true]

theorem saveMessage_some {s s' : Store} {m : Msg} (h : saveMessage s m = some s') :
    findGroup s m.gid ≠ none ∧ s' = { s with msgs := upsertMsg m s.msgs } := by
  unfold saveMessage at h
  rw [Option.ite_none_left_eq_some, Option.ite_none_left_eq_some] at h
  exact ⟨fun c => h.2.1 (by rw [c]; rfl), (Option.some.inj h.2.2).symm⟩

theorem saveMessage_mem {s : Store} (m : Msg) (hb : s.backend = .mem) :
    saveMessage s m = if (findGroup s m.gid).isNone then none else some { s with msgs := upsertMsg m s.msgs } := by
  unfold saveMessage
  rw [hb, if_neg (by simp only [Bool.and_eq_true]; exact fun c => absurd c.1 (by decide))]

theorem markRetryable_some {s s' : Store} {w : Nat} (h : markRetryable s w = some s') :
    ∃ p, findPm s w = some p ∧ s' = { s with pms := upsertPm { p with state := 5 } s.pms } := by
  unfold markRetryable at h
  cases hf : findPm s w with
  | none => rw [hf] at h; cases h
  | some p =>
    rw [hf] at h
    exact ⟨p, rfl, (Option.some.inj (Option.ite_none_right_eq_some.mp h).2).symm⟩

theorem replaceRelays_some {s s' : Store} {gid : Nat} {rs : List Nat} (h : replaceRelays s gid rs = some s') :
    s' = { s with relays := ainsert gid (sortBy natLt rs.eraseDups) s.relays } := by
  unfold replaceRelays at h
  rw [Option.ite_none_left_eq_some, Option.ite_none_left_eq_some, Option.ite_none_left_eq_some] at h
  exact (Option.some.inj h.2.2.2).symm

theorem saveSecret_some {s s' : Store} {gid epoch v : Nat} (h : saveSecret s gid epoch v = some s') :
    s' = { s with secrets := upsertSecret gid epoch v s.secrets } := by
  unfold saveSecret at h
  exact (Option.some.inj (Option.ite_none_left_eq_some.mp h).2).symm

theorem saveWelcome_some {s s' : Store} {w : Welcome} (h : saveWelcome s w = some s') :
    s' = { s with welcomes := upsertWelcome w s.welcomes } := by
  unfold saveWelcome at h
  cases hb : s.backend with
  | mem =>
    simp only [hb] at h
    rw [Option.ite_none_left_eq_some, Option.ite_none_left_eq_some, Option.ite_none_left_eq_some] at h
    exact (Option.some.inj h.2.2.2).symm
  | sql =>
    simp only [hb] at h
    rw [Option.ite_none_left_eq_some, Option.ite_none_left_eq_some] at h
    exact (Option.some.inj h.2.2).symm

theorem updLastOp_cases (s : Store) (gid : Nat) (k : Nat × Nat × Nat) :
    (updLastOp s gid k).1 = s ∨ ∃ g, findGroup s gid = some g ∧ saveGroup s (updLast g k) = some (updLastOp s gid k).1 := by
  unfold updLastOp
  cases findGroup s gid with
  | none => exact Or.inl rfl
  | some g =>
    dsimp only
    cases hs : saveGroup s (updLast g k) with
    | none => exact Or.inl rfl
    | some s' => exact Or.inr ⟨g, rfl, hs⟩

theorem snapCreate_some {s s' : Store} {gid name ts : Nat} (h : snapCreate s gid name ts = some s') :
    (s' = s ∧ s.backend = .sql ∧ (takeSnap s gid name ts).rows = 0) ∨
    s' = { s with snaps := dropSnap gid name s.snaps ++ [takeSnap s gid name ts] } := by
  unfold snapCreate at h
  cases hb : s.backend with
  | mem => simp only [hb] at h; exact Or.inr (Option.some.inj h).symm
  | sql =>
    simp only [hb] at h
    by_cases c0 : ((takeSnap s gid name ts).rows == 0) = true
    · rw [if_pos c0] at h; exact Or.inl ⟨(Option.some.inj h).symm, rfl, by simpa using c0⟩
    · rw [if_neg c0, Option.ite_none_left_eq_some] at h
      right
      by_cases cf : (findSnap s gid name).isSome = true
      · rw [if_pos cf] at h
        exact (Option.some.inj (Option.ite_none_right_eq_some.mp h.2).2).symm
      · rw [if_neg cf] at h
        have hn : s.snaps.find? (fun p => p.gid == gid && p.name == name) = none := by
          simpa [findSnap] using cf
        rw [dropSnap_not_found _ _ _ hn]
        exact (Option.some.inj h.2).symm

theorem snapCreate_mem {s : Store} (gid name ts : Nat) (hb : s.backend = .mem) :
    snapCreate s gid name ts = some { s with snaps := dropSnap gid name s.snaps ++ [takeSnap s gid name ts] } := by
  unfold snapCreate; simp only [hb]

/-- taking a snapshot of a group that has a record always succeeds, whether or not the name is in use
    (SQLite: `Generated.sqlSnapshotRetakeReplaces`) -/
theorem snapCreate_of_group {s : Store} {gid : Nat} (name ts : Nat) (hg : (findGroup s gid).isSome) :
    snapCreate s gid name ts = some { s with snaps := dropSnap gid name s.snaps ++ [takeSnap s gid name ts] } := by
  have hre : Generated.sqlSnapshotRetakeReplaces = true := by decide
  have hgrp : (takeSnap s gid name ts).group.isSome = true := hg
  have hnone : (takeSnap s gid name ts).group.isNone = false := by
    rw [Option.isNone_eq_false_iff]; exact hgrp
  have hrows : ((takeSnap s gid name ts).rows == 0) = false := by
    simp only [Snap.rows, hgrp, if_true, beq_eq_false_iff_ne]; omega
  rcases backend_cases s with hb | hb
  · simp only [snapCreate, hb]
  · simp only [snapCreate, hb, hrows, hnone, hre, Bool.false_eq_true, if_false, if_true]
    cases hf : (findSnap s gid name).isSome with
    | true => rfl
    | false =>
      have hn : s.snaps.find? (fun p => p.gid == gid && p.name == name) = none := by
        simpa [findSnap] using hf
      simp only [Bool.false_eq_true, if_false, dropSnap_not_found _ _ _ hn]

theorem snapRollback_some {s s' : Store} {gid name : Nat} (h : snapRollback s gid name = some s') :
    ∃ p, findSnap s gid name = some p ∧ restoreFrom s p = some s' := by
  unfold snapRollback at h
  cases hf : findSnap s gid name with
  | none => rw [hf] at h; cases h
  | some p => rw [hf] at h; exact ⟨p, rfl, h⟩

theorem restoreFrom_mem {s : Store} (p : Snap) (hb : s.backend = .mem) :
    restoreFrom s p = some { s with
      groups := (match p.group with | some g => replaceGroup g s.groups | none => s.groups.filter (·.gid != p.gid)),
      byNid := (match p.group with
        | some g => ainsert g.nid g (match findGroup s p.gid with | some old => aerase old.nid s.byNid | none => s.byNid)
        | none => (match findGroup s p.gid with | some old => aerase old.nid s.byNid | none => s.byNid)),
      relays := (if p.relays.isEmpty then aerase p.gid s.relays else ainsert p.gid p.relays (aerase p.gid s.relays)),
      secrets := s.secrets.filter (·.1 != p.gid) ++ p.secrets.map (fun kv => (p.gid, kv.1, kv.2)),
      mls := s.mls.filter (·.1 != p.gid) ++ p.mls.map (fun kv => (p.gid, kv.1, kv.2)),
      snaps := dropSnap p.gid p.name s.snaps } := by
  unfold restoreFrom
  simp only [hb]
  cases p.group <;> rfl

theorem restoreFrom_sql {s : Store} (p : Snap) (hb : s.backend = .sql) :
    restoreFrom s p = match p.group with
      | none => none
      | some g =>
        if s.groups.any (fun h => h.nid == g.nid && h.gid != p.gid) then none
        else some { s with
          groups := replaceGroup g s.groups, relays := ainsert p.gid p.relays (aerase p.gid s.relays),
          secrets := s.secrets.filter (·.1 != p.gid) ++ p.secrets.map (fun kv => (p.gid, kv.1, kv.2)),
          mls := s.mls.filter (·.1 != p.gid) ++ p.mls.map (fun kv => (p.gid, kv.1, kv.2)),
          msgs := if Generated.sqlRestoreCascadesMessages then s.msgs.filter (·.gid != p.gid) else s.msgs,
          snaps := dropSnap p.gid p.name s.snaps } := by
  unfold restoreFrom
  simp only [hb]
  rfl

theorem restoreFrom_some {s s' : Store} {p : Snap} (h : restoreFrom s p = some s') :
    s'.backend = s.backend ∧ s'.snaps = dropSnap p.gid p.name s.snaps := by
  rcases backend_cases s with hb | hb
  · rw [restoreFrom_mem p hb] at h; cases h; exact ⟨rfl, rfl⟩
  · rw [restoreFrom_sql p hb] at h
    cases hg : p.group with
    | none => rw [hg] at h; cases h
    | some g =>
      rw [hg] at h
      have := (Option.some.inj (Option.ite_none_left_eq_some.mp h).2).symm
      subst this; exact ⟨rfl, rfl⟩

theorem step_frame (s : Store) (op : Op) :
    (step s op).1.backend = s.backend ∧
    ∀ p ∈ (step s op).1.snaps, p ∈ s.snaps ∨ ∃ gid name ts, op = .snapCreate gid name ts ∧ p = takeSnap s gid name ts := by
  have sub : ∀ (f : Snap → Bool) p, p ∈ s.snaps.filter f → p ∈ s.snaps := fun f p h => (List.mem_filter.mp h).1
  have fr : ∀ t : Store, t.backend = s.backend ∧ t.snaps = s.snaps → t.backend = s.backend ∧
      ∀ p ∈ t.snaps, p ∈ s.snaps ∨ ∃ gid name ts, op = .snapCreate gid name ts ∧ p = takeSnap s gid name ts :=
    fun t h => ⟨h.1, fun p hp => Or.inl (h.2 ▸ hp)⟩
  have keep : ∀ o : Option Store, (∀ s', o = some s' → s'.backend = s.backend ∧ s'.snaps = s.snaps) →
      (okErr o s).1.backend = s.backend ∧ (okErr o s).1.snaps = s.snaps :=
    fun o h => okErr_ind (fun t => t.backend = s.backend ∧ t.snaps = s.snaps) ⟨rfl, rfl⟩ h
  cases op
  case saveGroup g => exact fr _ (keep _ fun s' h => by rw [saveGroup_some h]; exact ⟨rfl, rfl⟩)
  case saveMessage m => exact fr _ (keep _ fun s' h => by rw [(saveMessage_some h).2]; exact ⟨rfl, rfl⟩)
  case markRetryable w =>
    exact fr _ (keep _ fun s' h => by obtain ⟨x, _, rfl⟩ := markRetryable_some h; exact ⟨rfl, rfl⟩)
  case replaceRelays gid rs => exact fr _ (keep _ fun s' h => by rw [replaceRelays_some h]; exact ⟨rfl, rfl⟩)
  case saveSecret gid e v => exact fr _ (keep _ fun s' h => by rw [saveSecret_some h]; exact ⟨rfl, rfl⟩)
  case saveWelcome w => exact fr _ (keep _ fun s' h => by rw [saveWelcome_some h]; exact ⟨rfl, rfl⟩)
  case updLast gid c pr i =>
    refine fr (updLastOp s gid (c, pr, i)).1 ?_
    rcases updLastOp_cases s gid (c, pr, i) with e | ⟨g, _, e⟩
    · rw [e]; exact ⟨rfl, rfl⟩
    · rw [saveGroup_some e]; exact ⟨rfl, rfl⟩
  case snapCreate gid name ts =>
    refine okErr_ind (fun t => t.backend = s.backend ∧ ∀ p ∈ t.snaps, p ∈ s.snaps ∨
      ∃ g n t', Op.snapCreate gid name ts = .snapCreate g n t' ∧ p = takeSnap s g n t') (fr s ⟨rfl, rfl⟩) (fun s' h => ?_)
    rcases snapCreate_some h with ⟨e, _⟩ | rfl
    · exact e ▸ fr s ⟨rfl, rfl⟩
    · refine ⟨rfl, fun p hp => ?_⟩
      rcases List.mem_append.mp hp with h1 | h1
      · exact Or.inl (sub _ p h1)
      · exact Or.inr ⟨gid, name, ts, rfl, List.mem_singleton.mp h1⟩
  case snapRollback gid name =>
    refine okErr_ind (fun t => t.backend = s.backend ∧ ∀ p ∈ t.snaps, p ∈ s.snaps ∨
      ∃ g n t', Op.snapRollback gid name = .snapCreate g n t' ∧ p = takeSnap s g n t') (fr s ⟨rfl, rfl⟩) (fun s' h => ?_)
    obtain ⟨q, _, hr⟩ := snapRollback_some h
    exact ⟨(restoreFrom_some hr).1, fun p hp => Or.inl (sub _ p ((restoreFrom_some hr).2 ▸ hp))⟩
  case snapRelease gid name => exact ⟨rfl, fun p hp => Or.inl (sub _ p hp)⟩
  case snapPrune t => exact ⟨rfl, fun p hp => Or.inl (sub _ p hp)⟩
  all_goals exact fr _ ⟨rfl, rfl⟩

theorem step_backend (s : Store) (op : Op) : (step s op).1.backend = s.backend := (step_frame s op).1

theorem step_snaps (s : Store) (op : Op) (p : Snap) (hp : p ∈ (step s op).1.snaps) :
    p ∈ s.snaps ∨ ∃ gid name ts, op = .snapCreate gid name ts ∧ p = takeSnap s gid name ts := (step_frame s op).2 p hp

end MdkVerif.Store
