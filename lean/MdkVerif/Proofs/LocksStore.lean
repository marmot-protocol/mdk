import MdkVerif.Model.Locks
import MdkVerif.Proofs.Locks
import MdkVerif.Proofs.Store
/-
  MdkVerif.Proofs.LocksStore — lemmas tying `Locks.lockProg` (the section structure of the storage
  methods) to `Generated.lockShape` and to the sequential store model, and list lemmas for the
  cross-group frame property.
-/
namespace MdkVerif.Locks
open MdkVerif MdkVerif.Store

theorem follows_done {σ ρ : Type} (r : ρ) (h : List Lock) (l : List (List Lock)) : (Prog.done r : Prog σ ρ).follows h l := by
  simp [Prog.follows]

theorem follows_atomic {σ ρ : Type} (lk : Lock) (f : σ → σ × ρ) (h : List Lock) (l : List (List Lock)) :
    (Prog.atomic lk f).follows h ((h ++ [lk]) :: l) :=
  ⟨rfl, fun _ => follows_done _ _ _⟩

theorem follows_whole (lk : Lock) (op : Op) : (whole lk op).follows [] [[lk]] := follows_atomic _ _ _ _

theorem follows_cta {σ ρ : Type} (lk1 lk2 : Lock) (chk : σ → Bool) (err : ρ) (act : σ → σ × ρ) :
    (Prog.cta lk1 lk2 chk err act).follows [] [[lk1], [lk2]] := by
  refine ⟨rfl, fun s => ?_⟩
  show Prog.follows (if chk s then Prog.atomic lk2 act else .done err) [] [[lk2]]
  cases chk s
  · exact follows_done _ _ _
  · exact follows_atomic _ _ _ _

/-- a nested operation: the outer lock alone, then the inner lock with the outer one held -/
theorem follows_nested {ι σ ρ β : Type} (K : NestOps ι σ ρ β) (i : ι) :
    (K.nested i).follows [] [[(K.S, 1)], [(K.S, 1), K.lkI i]] := by
  refine ⟨rfl, fun s => ?_⟩
  show Prog.follows (match K.early i (K.L.get s) with
    | some r => .done r
    | none => K.inner i (K.L.get s)) _ _
  cases K.early i (K.L.get s) with
  | some r => exact follows_done _ _ _
  | none => exact ⟨rfl, fun _ _ => follows_done _ _ _⟩

def methodNumbers : List Nat := List.range 32 ++ [90, 91, 92]

/-- the sections `lockProg` gives method `m`; `nested` says which of its two forms the two memory
    methods that use both locks have.  The first list holds the numbers (`methodOf`) of the six sqlite
    check-then-act methods (`sqlCtaOps.is`), the second those of the operations `isRead`; that they are
    the right ones is part of `lockProg_follows`. -/
def progShape (nested : Bool) : Backend → Nat → List (List Lock)
  | .sql, m => if m ∈ [6, 7, 18, 19, 20, 21] then [[lkConn], [lkConn]] else [[lkConn]]
  | .mem, 27 => if nested then shapeNested.1 else shapeTwoSections.1
  | .mem, 28 => if nested then shapeNested.2 else shapeTwoSections.2
  | .mem, 29 | .mem, 31 => [[lkSnapsW]]
  | .mem, 30 => [[lkSnapsR]]
  | .mem, m =>
    [[if m ∈ [1, 2, 3, 5, 6, 7, 9, 12, 13, 14, 16, 17, 18, 20, 23, 24, 26, 91] then lkInnerR else lkInnerW]]

/-- GENERATED FACT: the table lists, for every method number on both backends, the sections the model
    has.  For the two memory methods that use both locks this says that the CURRENT source has one of
    the two known shapes (anything else: the tie is broken and this no longer checks). -/
theorem shape_table : ∀ m ∈ methodNumbers,
    shapeOf .mem m = some (progShape memSnapNested .mem m) ∧ shapeOf .sql m = some (progShape memSnapNested .sql m) := by
  decide +kernel

/-- (the first part says `m ∈ methodNumbers` by comparisons: cheap to decide in each of the 35 cases) -/
theorem lockProg_follows (nb : Bool) (op : Op) (m : Nat) (h : methodOf op = some m) :
    (m < 32 ∨ 90 ≤ m ∧ m < 93) ∧ (memProgWith nb op).follows [] (progShape nb .mem m) ∧
      (sqlProg op).follows [] (progShape nb .sql m) := by
  cases op with
  | snapCreate g n ts =>
    cases h
    refine ⟨by decide, ?_, follows_whole _ _⟩
    cases nb
    · exact ⟨rfl, fun s => follows_atomic _ _ _ _⟩
    · exact follows_nested memNest _
  | snapRollback g n =>
    cases h
    refine ⟨by decide, ?_, follows_whole _ _⟩
    cases nb
    · refine ⟨rfl, fun s => ?_⟩
      show Prog.follows (match findSnap s g n with
        | none => .done "err"
        | some p => Prog.atomic lkInnerW _) _ _
      cases findSnap s g n with
      | none => exact follows_done _ _ _
      | some p => exact follows_atomic _ _ _ _
    · exact follows_nested memNest _
  | messages g l o so =>
    cases h
    refine ⟨by decide, follows_whole _ _, ?_⟩
    show Prog.follows (if _ then _ else _) _ _
    split
    · exact follows_done _ _ _
    · exact follows_cta _ _ _ _ _
  | lastMessage | relays | replaceRelays | getSecret | saveSecret =>
    cases h; exact ⟨by decide, follows_whole _ _, follows_cta _ _ _ _ _⟩
  | _ => cases h <;> exact ⟨by decide, follows_whole _ _, follows_whole _ _⟩

theorem lockProg_shape (b : Backend) (op : Op) (m : Nat) (h : methodOf op = some m) :
    ∃ l, shapeOf b m = some l ∧ (lockProg b op).follows [] l := by
  obtain ⟨hm, hmem, hsql⟩ := lockProg_follows memSnapNested op m h
  have hm : m ∈ methodNumbers := by
    simp only [methodNumbers, List.mem_append, List.mem_range, List.mem_cons, List.not_mem_nil]; omega
  cases b
  · exact ⟨_, (shape_table m hm).1, hmem⟩
  · exact ⟨_, (shape_table m hm).2, hsql⟩

/-! ## read sections are pure -/

theorem readsPure_atomic_w {σ ρ : Type} (l : Nat) (f : σ → σ × ρ) : (Prog.atomic (l, 1) f).readsPure :=
  ⟨fun h => (nomatch h), fun _ => trivial⟩

theorem readsPure_atomic_r {σ ρ : Type} (lk : Lock) (f : σ → σ × ρ) (h : ∀ s, (f s).1 = s) : (Prog.atomic lk f).readsPure :=
  ⟨fun _ => h, fun _ => trivial⟩

theorem readsPure_cta {σ ρ : Type} (lk1 : Lock) (l2 : Nat) (chk : σ → Bool) (err : ρ) (act : σ → σ × ρ) :
    (Prog.cta lk1 (l2, 1) chk err act).readsPure := by
  refine ⟨fun _ _ => rfl, fun s => ?_⟩
  show Prog.readsPure (if chk s then Prog.atomic (l2, 1) act else .done err)
  cases chk s
  · trivial
  · exact readsPure_atomic_w _ _

theorem readsPure_nested {ι σ ρ β : Type} (K : NestOps ι σ ρ β) (i : ι)
    (h : (K.lkI i).2 = 0 → ∀ b s, K.mid i b s = s) : (K.nested i).readsPure := by
  refine ⟨fun h0 => (nomatch h0), fun s => ?_⟩
  show Prog.readsPure (match K.early i (K.L.get s) with
    | some r => .done r
    | none => K.inner i (K.L.get s))
  cases K.early i (K.L.get s) with
  | some r => trivial
  | none => exact ⟨fun h0 => h h0 _, fun _ _ => trivial⟩

theorem memProgWith_readsPure (nb : Bool) (op : Op) : (memProgWith nb op).readsPure := by
  cases op
  case snapCreate g n ts =>
    cases nb
    · exact ⟨fun _ _ => rfl, fun s => readsPure_atomic_w _ _⟩
    · exact readsPure_nested memNest _ (fun _ _ _ => rfl)
  case snapRollback g n =>
    cases nb
    · refine ⟨fun h => absurd h (by decide), fun s => ?_⟩
      dsimp only
      split
      · trivial
      · exact readsPure_atomic_w _ _
    · exact readsPure_nested memNest _ (fun h => nomatch h)
  case updLast g c p i =>
    refine ⟨fun _ _ => rfl, fun s => ?_⟩
    dsimp only
    split
    · trivial
    · exact readsPure_atomic_w _ _
  all_goals first
    | exact readsPure_atomic_w _ _
    | exact readsPure_atomic_r _ _ (fun s => rfl)

theorem sqlProg_readsPure (op : Op) : (sqlProg op).readsPure := by
  cases op
  case messages g l o so =>
    show Prog.readsPure (if _ then _ else _)
    split
    · trivial
    · exact readsPure_cta _ _ _ _ _
  case lastMessage | relays | replaceRelays | getSecret | saveSecret => exact readsPure_cta _ _ _ _ _
  case updLast g c p i =>
    refine ⟨fun h => absurd h (by decide), fun s => ?_⟩
    dsimp only
    split
    · trivial
    · exact readsPure_atomic_w _ _
  all_goals exact readsPure_atomic_w _ _

/-! ## the sections run back to back are the sequential step -/

theorem run_whole (lk : Lock) (op : Op) (s : Store) : (whole lk op).run s = Store.step s op := run_atomic _ _ _

theorem lookSnap_eq (s : Store) (gid name : Nat) : lookSnap s.snaps gid name = findSnap s gid name := rfl

theorem mem_restoreFrom (s : Store) (p : Snap) (hb : s.backend = .mem) :
    restoreFrom s p = some (restoreInner { s with snaps := dropSnap p.gid p.name s.snaps } p) := by
  obtain ⟨bk, gs, bn, rl, sc, ms, pm, wl, pw, ml, sn⟩ := s
  obtain ⟨nm, gid, ts, grp, prl, psc, pml⟩ := p
  subst hb
  cases grp <;> rfl

theorem mem_rollback_step (s : Store) (hb : s.backend = .mem) (g n : Nat) :
    Store.step s (.snapRollback g n) =
      match findSnap s g n with
      | none => ({ s with snaps := dropSnap g n s.snaps }, "err")
      | some p => (restoreInner { s with snaps := dropSnap g n s.snaps } p, "ok") := by
  show okErr (match findSnap s g n with
    | none => none
    | some p => restoreFrom s p) s = _
  cases hf : findSnap s g n with
  | none => show (s, "err") = _; rw [dropSnap_not_found _ g n hf]
  | some p =>
    obtain ⟨_, rfl, rfl⟩ := findSnap_spec hf
    show okErr (restoreFrom s p) s = _
    rw [mem_restoreFrom s p hb]; rfl

theorem memProgWith_run (nb : Bool) (op : Op) (s : Store) (hb : s.backend = .mem) :
    (memProgWith nb op).run s = Store.step s op := by
  cases op
  case snapCreate g n ts =>
    obtain ⟨bk, gs, bn, rl, sc, ms, pm, wl, pw, ml, sn⟩ := s
    subst hb
    cases nb <;> rfl
  case snapRollback g n =>
    rw [mem_rollback_step s hb]
    cases nb
    · show Prog.run (match findSnap s g n with
        | none => .done "err"
        | some p => Prog.atomic lkInnerW _) _ = _
      cases findSnap s g n <;> rfl
    · show (memNest.nested _).run s = _
      rw [run_nested]
      simp only [NestOps.eff, memNest, snapsLens, lookSnap_eq]
      cases findSnap s g n <;> rfl
  case updLast g c p i =>
    simp only [memProgWith, Prog.run, Store.step, updLastOp]
    cases findGroup s g <;> rfl
  all_goals exact run_whole _ _ _

theorem run_cta_exists (g : Nat) (act : Store → Store × String) (s : Store) :
    (Prog.cta lkConn lkConn (exists? g) "err" act).run s = if (findGroup s g).isNone then (s, "err") else act s := by
  rw [run_cta]; unfold exists?; cases findGroup s g <;> rfl

theorem lockProg_run (b : Backend) (op : Op) (s : Store) (hb : s.backend = b) :
    (lockProg b op).run s = Store.step s op := by
  cases b
  · exact memProgWith_run _ op s hb
  · cases op
    case messages g l o so =>
      unfold lockProg sqlProg Store.step messages
      by_cases hc : (l.getD Generated.defaultMessageLimit < 1 ||
          l.getD Generated.defaultMessageLimit > Generated.maxMessageLimit) = true
      · simp only [if_pos hc]; rfl
      · simp only [if_neg hc, run_cta_exists, hb]; cases findGroup s g <;> rfl
    case lastMessage g so =>
      simp only [lockProg, sqlProg, run_cta_exists, Store.step, lastMessage]
      cases findGroup s g <;> rfl
    case relays g =>
      simp only [lockProg, sqlProg, run_cta_exists, Store.step, relaysOf]
      cases findGroup s g <;> rfl
    case replaceRelays g rs =>
      simp only [lockProg, sqlProg, run_cta_exists, Store.step, replaceRelays, sqlReplaceRelaysAct, hb]
      cases findGroup s g <;> rfl
    case getSecret g e =>
      simp only [lockProg, sqlProg, run_cta_exists, Store.step, getSecret]
      cases findGroup s g <;> rfl
    case saveSecret g e v =>
      simp only [lockProg, sqlProg, run_cta_exists, Store.step, saveSecret, sqlSaveSecretAct]
      cases findGroup s g <;> rfl
    case updLast g c p i =>
      simp only [lockProg, sqlProg, Prog.run, Store.step, updLastOp]
      cases findGroup s g <;> rfl
    all_goals exact run_whole _ _ _

/-! ## the sqlite check-then-act methods -/

def limitOk (l : Option Nat) : Bool :=
  !((l.getD Generated.defaultMessageLimit) < 1 || (l.getD Generated.defaultMessageLimit) > Generated.maxMessageLimit)

/-- `chk` and `act` repeat, method by method, the arguments `Model.Locks.sqlProg` gives `Prog.cta`
    (`sqlCtaOps_describes`) -/
def sqlCtaOps : CtaOps Op Store String where
  is := fun op => match op with
    | .messages _ l _ _ => limitOk l
    | .lastMessage _ _ | .relays _ | .replaceRelays _ _ | .getSecret _ _ | .saveSecret _ _ _ => true
    | _ => false
  lk1 := fun _ => lkConn
  lk2 := fun _ => lkConn
  chk := fun op => match op with
    | .messages g _ _ _ | .lastMessage g _ | .relays g | .replaceRelays g _ | .getSecret g _ | .saveSecret g _ _ => exists? g
    | _ => fun _ => false
  err := fun _ => "err"
  act := fun op => match op with
    | .messages gid l o so => fun s =>
      let off := if o.getD 0 ≥ two63 then (if Generated.sqlOffsetClamped then two63 - 1 else 0) else o.getD 0
      (s, listShow Msg.show (page (listing s gid (so.getD 0)) off (l.getD Generated.defaultMessageLimit)))
    | .lastMessage gid so => fun s => (s, optShow Msg.show (listing s gid so).head?)
    | .relays gid => fun s => (s, natList ((alookup gid s.relays).getD []))
    | .replaceRelays gid rs => sqlReplaceRelaysAct gid rs
    | .getSecret gid e => fun s =>
      (s, optShow toString ((s.secrets.find? (fun t => t.1 == gid && t.2.1 == e)).map (·.2.2)))
    | .saveSecret gid e v => sqlSaveSecretAct gid e v
    | _ => fun s => (s, "err")

theorem sqlCtaOps_describes : sqlCtaOps.describes sqlProg := by
  intro op h
  cases op with
  | messages g l o so =>
    have hl : (l.getD Generated.defaultMessageLimit < 1 ||
        l.getD Generated.defaultMessageLimit > Generated.maxMessageLimit) = false :=
      (Bool.not_eq_true' _).mp h
    show (if _ then _ else _) = _
    rw [hl]; rfl
  | lastMessage | relays | replaceRelays | getSecret | saveSecret => rfl
  | _ => cases h

theorem singleOp_single (b : Backend) (op : Op) (h : singleOp b op = true) : (lockProg b op).single := by
  cases b with
  | mem =>
    cases op with
    | snapCreate | snapRollback | updLast => cases h
    | _ => exact single_atomic _ _
  | sql =>
    cases op with
    | messages | lastMessage | relays | replaceRelays | getSecret | saveSecret | updLast => cases h
    | _ => exact single_atomic _ _

theorem ofPhases_noNested (ph : Nat → Phase) : (LockState.ofPhases ph).noNested := by
  intro t h
  simp only [LockState.ofPhases] at h ⊢
  cases hp : ph t <;> simp_all

/-! ## list lemmas for snapshot_instant and frame -/

theorem restoreInner_mem (s : Store) (p : Snap) (hb : s.backend = .mem) :
    groupMls (restoreInner s p) p.gid = p.mls ∧ groupSecrets (restoreInner s p) p.gid = p.secrets ∧
      (restoreInner s p).snaps = s.snaps := by
  obtain ⟨bk, gs, bn, rl, sc, ms, pm, wl, pw, ml, sn⟩ := s
  obtain ⟨nm, gid, ts, grp, prl, psc, pml⟩ := p
  subst hb
  cases grp <;> exact ⟨rows_restore_self ml gid pml, rows_restore_self sc gid psc, rfl⟩

theorem ne_beq {a b : Nat} (h : a ≠ b) : (b == a) = false := beq_false_of_ne (Ne.symm h)

theorem filter_upsertMsg_ne (m : Msg) (l : List Msg) (g' : Nat) (h : g' ≠ m.gid) :
    (upsertMsg m l).filter (·.gid == g') = l.filter (·.gid == g') := by
  rw [upsertMsg_eq]
  exact filter_upsertBy_ne (same := fun x => x.gid == m.gid && x.id == m.id) (p := (·.gid == g')) (ne_beq h)
    (fun x hx => by simp only [Bool.and_eq_true, beq_iff_eq] at hx; simpa [hx.1] using ne_beq h) l

theorem filter_upsertRow_ne (g k v : Nat) (l : List (Nat × Nat × Nat)) (g' : Nat) (h : g' ≠ g) :
    (upsertBy (fun x => x.1 == g && x.2.1 == k) (g, k, v) l).filter (·.1 == g') = l.filter (·.1 == g') :=
  filter_upsertBy_ne (p := (·.1 == g')) (ne_beq h)
    (fun x hx => by simp only [Bool.and_eq_true, beq_iff_eq] at hx; simpa [hx.1] using ne_beq h) l

theorem filter_filter_of_imp {α : Type} (p q : α → Bool) (l : List α) (h : ∀ x, p x = true → q x = true) :
    (l.filter q).filter p = l.filter p := by
  rw [List.filter_filter]
  exact List.filter_congr fun x _ => by cases hp : p x <;> simp [h x, hp]

theorem filter_dropSnap_ne (g n : Nat) (l : List Snap) (g' : Nat) (hne : g' ≠ g) :
    (dropSnap g n l).filter (·.gid == g') = l.filter (·.gid == g') :=
  filter_filter_of_imp _ _ l fun x hx => by simp [beq_iff_eq.mp hx, hne]

theorem filter_map_of_fix {α : Type} (f : α → α) (p : α → Bool) (l : List α)
    (h1 : ∀ x, p (f x) = p x) (h2 : ∀ x, p x = true → f x = x) : (l.map f).filter p = l.filter p := by
  induction l with
  | nil => rfl
  | cons x xs ih =>
    simp only [List.map, List.filter, h1 x]
    cases hp : p x with
    | false => simp [ih]
    | true => simp [ih, h2 x hp]

theorem view_congr (s s' : Store) (g' : Nat)
    (h1 : findGroup s' g' = findGroup s g') (h2 : alookup g' s'.relays = alookup g' s.relays)
    (h3 : s'.secrets.filter (·.1 == g') = s.secrets.filter (·.1 == g'))
    (h4 : s'.mls.filter (·.1 == g') = s.mls.filter (·.1 == g'))
    (h5 : s'.msgs.filter (·.gid == g') = s.msgs.filter (·.gid == g'))
    (h6 : s'.snaps.filter (·.gid == g') = s.snaps.filter (·.gid == g')) : view s' g' = view s g' := by
  simp only [view, groupSecrets, groupMls, groupMsgs, h1, h2, h3, h4, h5, h6]

end MdkVerif.Locks
