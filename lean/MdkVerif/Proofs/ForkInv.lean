import MdkVerif.Model.Client
import MdkVerif.Proofs.Client
import MdkVerif.Proofs.Store
/-
  MdkVerif.Proofs.ForkInv — the hypotheses of the single-fork theorems are invariants of the client
  model: stored exporter secrets follow the MLS path (DESIGN `secrets_follow_path`), and the snapshot
  manager's entries are strictly older than the current epoch (so no snapshot of the current epoch
  exists), for the current state and for every state saved in a snapshot.  Preserved by every
  operation of the client, including rollback and re-processing.
-/
namespace MdkVerif.Client
open MdkVerif
open MdkVerif.Store (alookup_ainsert_self alookup_ainsert_ne)

/-- every stored exporter secret is the secret of a prefix of the current path, under that prefix's epoch -/
def SecOK (g : GState) : Prop := ∀ ep q, alookup ep g.secrets = some q → ep = epochOf q ∧ q <+: g.path

/-- a pending (staged) commit is a commit event -/
def PendOK (g : GState) : Prop := ∀ p, g.pending = some p → ∃ b sw, p.kind = .commit b sw

structure HInv (c : Cl) : Prop where
  sec : SecOK c.g
  pend : PendOK c.g
  saved : ∀ s ∈ c.mgr, SecOK s.saved ∧ PendOK s.saved ∧ s.epoch = epochOf s.saved.path
  sorted : c.mgr.Pairwise (fun a b => a.epoch < b.epoch)
  below : ∀ s ∈ c.mgr, s.epoch < epochOf c.g.path

theorem secOK_mono (g g' : GState) (hs : g'.secrets = g.secrets) (hp : g.path <+: g'.path) (h : SecOK g) : SecOK g' := by
  intro ep q hq
  rw [hs] at hq
  obtain ⟨h1, h2⟩ := h ep q hq
  exact ⟨h1, h2.trans hp⟩

theorem secOK_ensure (g : GState) (h : SecOK g) : SecOK (ensureSecret g) := by
  unfold ensureSecret
  split
  · exact h
  · intro ep q hq
    simp only at hq ⊢
    by_cases c : ep = epochOf g.path
    · subst c
      rw [alookup_ainsert_self] at hq
      cases hq
      exact ⟨rfl, List.prefix_refl _⟩
    · rw [alookup_ainsert_ne _ _ _ _ c] at hq
      exact h ep q hq

theorem mergeCommit_secrets_path (mp : Nat) (g : GState) (e : Ev) :
    (mergeCommit mp g e).secrets = g.secrets ∧ g.path <+: (mergeCommit mp g e).path ∧
    epochOf g.path ≤ epochOf (mergeCommit mp g e).path := by
  by_cases h : ∃ b sw, e.kind = .commit b sw
  · obtain ⟨b, sw, hk⟩ := h
    obtain ⟨hp, hs⟩ := mergeCommit_path mp g e b sw hk
    exact ⟨hs, hp ▸ List.prefix_append _ _, by rw [hp, epochOf_snoc]; exact Nat.le_succ _⟩
  · rw [mergeCommit_other mp g e (fun b sw hk => h ⟨b, sw, hk⟩)]
    exact ⟨rfl, List.prefix_refl _, Nat.le_refl _⟩

theorem secOK_merge (mp : Nat) (g : GState) (e : Ev) (h : SecOK g) : SecOK (mergeCommit mp g e) :=
  secOK_mono g _ (mergeCommit_secrets_path mp g e).1 (mergeCommit_secrets_path mp g e).2.1 h

theorem secOK_syncRec (g : GState) (h : SecOK g) : SecOK (syncRec g) := secOK_mono g _ rfl (List.prefix_refl _) h

theorem pendOK_of_eq (g g' : GState) (he : g'.pending = g.pending) (h : PendOK g) : PendOK g' := by
  intro p hp; rw [he] at hp; exact h p hp

theorem pendOK_none (g : GState) (he : g.pending = none) : PendOK g := by
  intro p hp; rw [he] at hp; cases hp

theorem pendOK_ensure (g : GState) (h : PendOK g) : PendOK (ensureSecret g) :=
  pendOK_of_eq g _ (ensureSecret_pending g) h

theorem pendOK_merge (mp : Nat) (g : GState) (e : Ev) (h : PendOK g) : PendOK (mergeCommit mp g e) := by
  unfold mergeCommit
  split
  · exact pendOK_none _ rfl
  · exact h

/-- `HInv` reads the MLS state and the snapshot queue only, and of the state its secrets, pending commit and epoch -/
theorem HInv.frame {c c' : Cl} (h : HInv c) (hm : c'.mgr = c.mgr) (hs : SecOK c'.g) (hpd : PendOK c'.g)
    (hp : epochOf c.g.path ≤ epochOf c'.g.path) : HInv c' :=
  ⟨hs, hpd, hm ▸ h.saved, hm ▸ h.sorted, fun s hm' => Nat.lt_of_lt_of_le (h.below s (hm ▸ hm')) hp⟩

theorem HInv.of_eq {c c' : Cl} (h : HInv c) (hg : c'.g = c.g) (hm : c'.mgr = c.mgr) : HInv c' :=
  h.frame hm (hg ▸ h.sec) (hg ▸ h.pend) (by rw [hg]; exact Nat.le_refl _)

theorem hinv_withSecret (c : Cl) (h : HInv c) : HInv (withSecret c) :=
  h.frame rfl (secOK_ensure _ h.sec) (pendOK_ensure _ h.pend) (by rw [withSecret_path]; exact Nat.le_refl _)

/-- snapshot, then move to a state one or more epochs later -/
theorem hinv_mgrCreate_then (c : Cl) (e : Ev) (g' : GState) (h : HInv c) (hs : SecOK g') (hpd : PendOK g')
    (hp : epochOf c.g.path < epochOf g'.path) :
    HInv { mgrCreate c (epochOf c.g.path) e with g := g' } := by
  have hq : ∀ s ∈ c.mgr ++ [({ epoch := epochOf c.g.path, commit := e.idnum, ts := e.ts, saved := c.g } : Snap)],
      (SecOK s.saved ∧ PendOK s.saved ∧ s.epoch = epochOf s.saved.path) ∧ s.epoch < epochOf g'.path := by
    intro s hm
    rcases List.mem_append.mp hm with x | x
    · exact ⟨h.saved s x, Nat.lt_trans (h.below s x) hp⟩
    · simp at x; subst x; exact ⟨⟨h.sec, h.pend, rfl⟩, hp⟩
  have hsorted : (c.mgr ++ [({ epoch := epochOf c.g.path, commit := e.idnum, ts := e.ts, saved := c.g } : Snap)]).Pairwise
      (fun a b => a.epoch < b.epoch) := by
    apply List.pairwise_append.mpr
    refine ⟨h.sorted, List.pairwise_singleton _ _, ?_⟩
    intro a ha b hb
    simp at hb; subst hb
    exact h.below a ha
  refine ⟨hs, hpd, ?_, ?_, ?_⟩
  · intro s hm
    exact (hq s (List.mem_of_mem_drop hm)).1
  · exact hsorted.sublist (List.drop_sublist _ _)
  · intro s hm
    exact (hq s (List.mem_of_mem_drop hm)).2

theorem hinv_rollbackTo (c c1 : Cl) (ep : Nat) (h : HInv c) (hr : rollbackTo c ep = some c1) : HInv c1 := by
  obtain ⟨i, s, rest, _, hd, _, rfl⟩ := rollbackTo_spec hr
  have hs : s ∈ c.mgr := List.mem_of_mem_drop (by rw [hd]; exact List.mem_cons_self)
  -- the queue is sorted by epoch, so what is left of it lies below the restored snapshot
  have hsorted := h.sorted
  rw [← List.take_append_drop i c.mgr, hd] at hsorted
  obtain ⟨h1, _, h3⟩ := List.pairwise_append.mp hsorted
  exact ⟨(h.saved s hs).1, (h.saved s hs).2.1, fun t ht => h.saved t (List.mem_of_mem_take ht), h1,
    fun t ht => (h.saved s hs).2.2 ▸ h3 t ht s List.mem_cons_self⟩

theorem hinv_returnOwnCommit (c : Cl) (h : HInv c) : HInv (returnOwnCommit c).1 :=
  h.frame rfl (secOK_syncRec _ h.sec) h.pend (Nat.le_refl _)

theorem hinv_ownMessage (c : Cl) (e : Ev) (h : HInv c) : HInv (ownMessage c e).1 := by
  have hs := ownMessage_spec c e
  generalize ownMessage c e = r at hs
  cases hs with
  | same => exact h
  | confirmed => exact h.of_eq rfl rfl
  | echo => exact hinv_returnOwnCommit c h

theorem hinv_storeApp (c : Cl) (e : Ev) (m t k : Nat) (h : HInv c) : HInv (storeApp c e m t k).1 := by
  obtain ⟨l, hl⟩ := updLast_last c.g m t
  have hg : (storeApp c e m t k).1.g = { c.g with last := l } := hl
  exact h.frame rfl (by rw [hg]; exact h.sec) (by rw [hg]; exact h.pend) (by rw [hg]; exact Nat.le_refl _)

theorem epoch_mergeCommit (mp : Nat) (g : GState) (e : Ev) {b : Body} {sw : List Nat} (hk : e.kind = .commit b sw) :
    epochOf (mergeCommit mp g e).path = epochOf g.path + 1 := by
  rw [(mergeCommit_path mp g e b sw hk).1, epochOf_snoc]

theorem hinv_snapMerge (c : Cl) (e p : Ev) {b : Body} {sw : List Nat} (hk : p.kind = .commit b sw) (h : HInv c) :
    HInv { mgrCreate c (epochOf c.g.path) e with g := syncRec (ensureSecret (mergeCommit c.maxPast c.g p)) } := by
  refine hinv_mgrCreate_then c e _ h (secOK_syncRec _ (secOK_ensure _ (secOK_merge _ _ _ h.sec)))
    (pendOK_of_eq _ _ rfl (pendOK_ensure _ (pendOK_merge _ _ _ h.pend))) ?_
  show _ < epochOf (ensureSecret _).path
  rw [ensureSecret_path, epoch_mergeCommit _ _ _ hk]
  exact Nat.lt_succ_self _

theorem hinv_processCommit (c : Cl) (e : Ev) (b : Body) (sw : List Nat) (hk : e.kind = .commit b sw) (h : HInv c) :
    HInv (processCommit c e b sw).1 := by
  unfold processCommit
  refine ite_elim (P := fun (r : Cl × Res) => HInv r.1) (fun _ => h.of_eq rfl rfl) (fun _ => ?_)
  refine ite_elim (P := fun (r : Cl × Res) => HInv r.1) (fun _ => ?_) (fun _ => (hinv_snapMerge c e e hk h).of_eq rfl rfl)
  -- eviction: the commit is merged (the path moves on), no secret is exported
  refine (hinv_mgrCreate_then c e { mergeCommit c.maxPast c.g e with active := false } h (secOK_merge _ _ _ h.sec)
    (pendOK_merge _ _ _ h.pend) ?_).of_eq rfl rfl
  show _ < epochOf (mergeCommit c.maxPast c.g e).path
  rw [epoch_mergeCommit _ _ _ hk]
  exact Nat.lt_succ_self _

theorem hinv_consume (c : Cl) (x : Nat) (h : HInv c) : HInv (consume c x) := h.frame rfl h.sec h.pend (Nat.le_refl _)

/-- the pending commit is a commit event (`PendOK`), so merging it moves the epoch on -/
theorem hinv_mergeOwn (c : Cl) (e p : Ev) (hp : c.g.pending = some p) (h : HInv c) : HInv (mergeOwn c e p).1 := by
  obtain ⟨_, _, hpk⟩ := h.pend p hp
  exact (hinv_snapMerge c e p hpk h).of_eq rfl rfl

theorem hinv_autoCommit (nx : Nat) (c : Cl) (e : Ev) (h : HInv c) : HInv (autoCommit nx c e).1 := by
  refine h.frame rfl (secOK_ensure _ h.sec) (pendOK_ensure _ fun p hp => ?_) ?_
  · cases hp
    exact ⟨_, _, rfl⟩
  · show _ ≤ epochOf (ensureSecret _).path
    rw [ensureSecret_path]; exact Nat.le_refl _

theorem hinv_queueLeave (c : Cl) (e : Ev) (h : HInv c) : HInv (queueLeave c e).1 := h.frame rfl h.sec h.pend (Nat.le_refl _)

theorem hinv_deliverN (fuel nx : Nat) (c : Cl) (e : Ev) (h : HInv c) : HInv (deliverN fuel nx c e).1 := by
  refine deliverN_induct (P := fun c r => HInv c → HInv r.1) nx e (fun _ _ _ _ h => h) ?_ fuel c h
  intro c r _ hs h
  have hw := hinv_withSecret c h
  have hc := hinv_consume _ e.cipher hw
  cases hs with
  | unrouted | evicted => exact h.of_eq rfl rfl
  | «sealed» | refused => exact hw.of_eq rfl rfl
  | own => exact hinv_ownMessage _ e hw
  | echoed => exact hinv_returnOwnCommit _ hw
  | retried _ _ _ _ hrb ih => exact ih (hinv_rollbackTo _ _ _ hw hrb)
  | mergedOwn _ _ _ _ hp => exact hinv_mergeOwn _ e _ ((withSecret_pending c).trans hp) hw
  | committed _ hk => exact hinv_processCommit _ e _ _ hk hc
  | autoCommitted => exact hinv_autoCommit nx _ e hc
  | queued => exact hinv_queueLeave _ e hc
  | stored => exact hinv_storeApp _ e _ _ _ hc

/-- … and after a change of the MLS state that leaves path and secrets as `ensureSecret` does: what sending, staging a
    commit and leaving do -/
theorem HInv.ensured {c c' : Cl} (h : HInv c) (hm : c'.mgr = c.mgr) (hs : c'.g.secrets = (ensureSecret c.g).secrets)
    (hp : c'.g.path = c.g.path) (hpd : PendOK c'.g) : HInv c' :=
  h.frame hm (secOK_mono (ensureSecret c.g) _ hs (by rw [hp, ensureSecret_path]; exact List.prefix_refl _) (secOK_ensure _ h.sec)) hpd
    (Nat.le_of_eq (congrArg epochOf hp.symm))

theorem hinv_local {c : Cl} {r : Cl × Res} (h : HInv c) (hl : Local c r) : HInv r.1 := by
  cases hl with
  | refused | skipped => exact h
  | sent n ts idn mid mts tok =>
    obtain ⟨l, hl⟩ := updLast_last (ensureSecret c.g) mid mts
    have hg : (sendOk c n ts idn mid mts tok).1.g = { ensureSecret c.g with last := l } := hl
    exact h.ensured rfl (by rw [hg]) (by rw [hg]; exact ensureSecret_path _)
      (pendOK_of_eq (ensureSecret c.g) _ (by rw [hg]) (pendOK_ensure _ h.pend))
  | staged =>
    refine h.ensured rfl rfl (ensureSecret_path _) (fun p hp => ?_)
    cases hp
    exact ⟨_, _, rfl⟩
  | left => exact h.ensured rfl rfl (ensureSecret_path _) (pendOK_of_eq (ensureSecret c.g) _ rfl (pendOK_ensure _ h.pend))
  | merged p =>
    exact h.frame rfl (secOK_syncRec _ (secOK_merge _ _ _ h.sec)) (pendOK_merge _ _ _ h.pend) (mergeCommit_secrets_path _ _ _).2.2
  | resynced => exact h.frame rfl (secOK_syncRec _ h.sec) h.pend (Nat.le_refl _)
  | cleared => exact h.frame rfl h.sec (pendOK_none _ rfl) (Nat.le_refl _)
  | restarted =>
    refine ⟨h.sec, h.pend, ?_, List.Pairwise.map _ (fun a b hab => hab) h.sorted, ?_⟩
    all_goals
      intro s hs
      obtain ⟨t, ht, rfl⟩ := List.mem_map.mp hs
    · exact h.saved t ht
    · exact h.below t ht

theorem hinv_join (c : Cl) (mp : Nat) (g : GState) (e : Ev) (h : HInv c) : HInv (join c (welcomeState mp g e)) := by
  unfold join
  split
  · exact h
  · exact {
      sec := by intro ep q hq; simp [welcomeState, joinState, syncRec, alookup] at hq
      pend := pendOK_none _ (by simp [welcomeState, joinState])
      saved := by intro s hs; simp at hs
      sorted := List.Pairwise.nil
      below := by intro s hs; simp at hs }

theorem hinv_init (id : Nat) (p : Bool) (r : Nat) (ms as : List Nat) (name : Nat) : HInv (initCl id p r ms as name) where
  sec := by intro ep q hq; simp [initCl, initG, alookup] at hq
  pend := pendOK_none _ rfl
  saved := by intro s hs; simp [initCl] at hs
  sorted := by simp [initCl]
  below := by intro s hs; simp [initCl] at hs

end MdkVerif.Client
