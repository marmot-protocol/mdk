import MdkVerif.Model.Handled
import MdkVerif.Model.Client
import MdkVerif.Proofs.Client
import MdkVerif.Proofs.Store
import MdkVerif.Proofs.RestartSim
import MdkVerif.Props.C08Inv
/-
  MdkVerif.Proofs.Insert — C07 / C06 lifted to histories: INSERTING a delivery that "changes nothing" (a re-delivery
  of a handled event, a refused event) into any operation sequence.

  One such delivery leaves the observable projection `proj` alone (`C07.redeliver_frame`, `C06.refuse_frame_partial`)
  but it may touch three parts of the client that `proj` does not show:
    (a) the exporter-secret cache — `exporter_secret()` stores the CURRENT epoch's secret as a side effect of trying it;
    (b) the dedup record of the delivered event number (a `Failed` record is written or rewritten);
    (c) the consumed ratchet generations — a commit refused by the authorisation check (`NonAdmin`) was decrypted first.
  `Eqv S W X c c'` says: `c'` is `c` up to exactly that —
    * secrets: equal, or no own commit is pending and the tables are equal once the current epoch's secret is ensured
      (every operation that reads the table ensures it first; the only one that changes the epoch without ensuring,
      `merge_pending_commit`, needs a pending commit, and staging one ensures);
    * records: equal per event number, except numbers in `S` whose record in `c'` is `Stuck` (Failed / EpochInvalidated
      with an epoch: blocked by the dedup check for ever) and numbers in `W` (anything);
    * consumed generations: equal as sets outside the ciphertexts `X`;
    * snapshots: same epochs, commits, timestamps, saved states related in the same way.
  Every client operation is a simulation for `Eqv` (equal results, relation kept), deliveries provided the event
  number's records agree, its number is not in `W` and its ciphertext not in `X`.
-/
namespace MdkVerif.Client.Ins
open MdkVerif MdkVerif.Client
open MdkVerif.Store (alookup_ainsert_self alookup_ainsert_ne alookup_ainsert)

/-! ## the exporter-secret table -/

/-- `exporter_secret()` on the raw table: store the secret of the state `p` under its epoch number unless one is stored -/
def ens (p : Path) (s : List (Nat × Path)) : List (Nat × Path) :=
  match alookup (epochOf p) s with
  | some _ => s
  | none => ainsert (epochOf p) p s

theorem ensureSecret_eq (g : GState) : ensureSecret g = { g with secrets := ens g.path g.secrets } := by
  unfold ensureSecret ens
  split <;> rename_i h <;> simp only [h]

theorem ensureSecret_secrets (g : GState) : (ensureSecret g).secrets = ens g.path g.secrets := by
  rw [ensureSecret_eq]

theorem ens_idem (p : Path) (s : List (Nat × Path)) : ens p (ens p s) = ens p s := by
  unfold ens
  cases h : alookup (epochOf p) s with
  | some v => simp only [h]
  | none => simp only [alookup_ainsert_self]

/-- the current epoch's secret is stored -/
def HasCur (g : GState) : Prop := (alookup (epochOf g.path) g.secrets).isSome = true

instance (g : GState) : Decidable (HasCur g) := by unfold HasCur; infer_instance

theorem ens_of_hasCur (p : Path) (s : List (Nat × Path)) (h : (alookup (epochOf p) s).isSome = true) : ens p s = s := by
  unfold ens
  cases hh : alookup (epochOf p) s with
  | some v => rfl
  | none => rw [hh] at h; cases h

theorem hasCur_ensureSecret (g : GState) : HasCur (ensureSecret g) := by
  unfold HasCur ensureSecret
  cases h : alookup (epochOf g.path) g.secrets with
  | some v => simp [h]
  | none => simp [alookup_ainsert_self]

/-- the secret tables of two runs: equal, or — no commit pending — equal after `exporter_secret()`.  With a commit pending
    they must be equal outright: `merge_pending_commit` moves to the next epoch WITHOUT `exporter_secret()`, and a table
    that holds the current secret in one run only would then differ in a past epoch's entry for good (`sim_merge`) -/
def SecRel (p : Path) (pend : Option Ev) (s s' : List (Nat × Path)) : Prop :=
  s' = s ∨ (pend = none ∧ ens p s' = ens p s)

theorem SecRel.refl (p : Path) (pend : Option Ev) (s : List (Nat × Path)) : SecRel p pend s s := Or.inl rfl

theorem SecRel.symm {p : Path} {pend : Option Ev} {s s' : List (Nat × Path)} (h : SecRel p pend s s') : SecRel p pend s' s := by
  rcases h with h | ⟨h1, h2⟩
  · exact Or.inl h.symm
  · exact Or.inr ⟨h1, h2.symm⟩

theorem SecRel.trans {p : Path} {pend : Option Ev} {s s' s'' : List (Nat × Path)}
    (h : SecRel p pend s s') (h' : SecRel p pend s' s'') : SecRel p pend s s'' := by
  rcases h with h | ⟨h1, h2⟩
  · subst h; exact h'
  · rcases h' with h' | ⟨_, h2'⟩
    · subst h'; exact Or.inr ⟨h1, h2⟩
    · exact Or.inr ⟨h1, h2'.trans h2⟩

theorem SecRel.ens_eq {p : Path} {pend : Option Ev} {s s' : List (Nat × Path)} (h : SecRel p pend s s') : ens p s' = ens p s := by
  rcases h with h | ⟨_, h2⟩
  · rw [h]
  · exact h2

/-- after `exporter_secret()` on one side only -/
theorem SecRel.ens_right {p : Path} {pend : Option Ev} {s : List (Nat × Path)}
    (h : pend.isSome = true → (alookup (epochOf p) s).isSome = true) : SecRel p pend s (ens p s) := by
  cases hp : pend with
  | none => exact Or.inr ⟨rfl, ens_idem p s⟩
  | some e => exact Or.inl (ens_of_hasCur p s (h (by simp [hp])))

/-! ## consumed generations, dedup records -/

/-- the consumed lists agree, as sets, outside the ciphertexts `X` -/
def ConsRel (X : List Nat) (k k' : List Nat) : Prop := ∀ x, x ∉ X → k'.contains x = k.contains x

theorem ConsRel.refl (X : List Nat) (k : List Nat) : ConsRel X k k := fun _ _ => rfl
theorem ConsRel.symm {X k k' : List Nat} (h : ConsRel X k k') : ConsRel X k' k := fun x hx => (h x hx).symm
theorem ConsRel.trans {X k k' k'' : List Nat} (h : ConsRel X k k') (h' : ConsRel X k' k'') : ConsRel X k k'' :=
  fun x hx => (h' x hx).trans (h x hx)
theorem ConsRel.mono {X X' k k' : List Nat} (h : ConsRel X k k') (hX : ∀ x, x ∈ X → x ∈ X') : ConsRel X' k k' :=
  fun x hx => h x (fun hm => hx (hX x hm))
theorem ConsRel.cons {X k k' : List Nat} (h : ConsRel X k k') (y : Nat) : ConsRel X (y :: k) (y :: k') := by
  intro x hx
  simp only [List.contains_cons, h x hx]
theorem ConsRel.cons_right {X k k' : List Nat} (h : ConsRel X k k') (y : Nat) (hy : y ∈ X) : ConsRel X k (y :: k') := by
  intro x hx
  have : (x == y) = false := by
    cases hxy : x == y with
    | false => rfl
    | true => exact absurd (by rw [beq_iff_eq.mp hxy]; exact hy) hx
  simp only [List.contains_cons, this, Bool.false_or, h x hx]

/-- a record that blocks its event for ever: Failed / EpochInvalidated with an epoch (a rollback can turn Failed into
    EpochInvalidated, never into Retryable) -/
def Stuck (o : Option Rec) : Prop := ∃ r, o = some r ∧ (r.state = 3 ∨ r.state = 4) ∧ r.epoch.isSome = true

/-- records of the two runs, per event number -/
def RecRel (S W : List Nat) (r r' : List (Nat × Rec)) : Prop :=
  ∀ n, alookup n r' = alookup n r ∨ (n ∈ S ∧ Stuck (alookup n r')) ∨ n ∈ W

theorem RecRel.refl (S W : List Nat) (r : List (Nat × Rec)) : RecRel S W r r := fun _ => Or.inl rfl

theorem RecRel.trans {S W : List Nat} {r r' r'' : List (Nat × Rec)} (h : RecRel S W r r') (h' : RecRel S W r' r'') :
    RecRel S W r r'' := by
  intro n
  rcases h' n with e2 | ⟨hs, hst⟩ | hw
  · rcases h n with e1 | ⟨hs, hst⟩ | hw
    · exact Or.inl (e2.trans e1)
    · exact Or.inr (Or.inl ⟨hs, by rw [e2]; exact hst⟩)
    · exact Or.inr (Or.inr hw)
  · exact Or.inr (Or.inl ⟨hs, hst⟩)
  · exact Or.inr (Or.inr hw)

theorem RecRel.mono {S W S' W' : List Nat} {r r' : List (Nat × Rec)} (h : RecRel S W r r')
    (hS : ∀ x, x ∈ S → x ∈ S') (hW : ∀ x, x ∈ W → x ∈ W') : RecRel S' W' r r' := by
  intro n
  rcases h n with e | ⟨hs, hst⟩ | hw
  · exact Or.inl e
  · exact Or.inr (Or.inl ⟨hS n hs, hst⟩)
  · exact Or.inr (Or.inr (hW n hw))

theorem RecRel.ainsert {S W : List Nat} {r r' : List (Nat × Rec)} (h : RecRel S W r r') (k : Nat) (v : Rec) :
    RecRel S W (ainsert k v r) (ainsert k v r') := by
  intro n
  rw [alookup_ainsert, alookup_ainsert]
  by_cases hn : n = k
  · simp [hn]
  · simp only [hn, if_false]; exact h n

/-- the record table after a rollback, as `rollbackTo` spells it -/
def rbRecs (epoch : Nat) (recs : List (Nat × Rec)) : List (Nat × Rec) :=
  (recs.map (fun (p : Nat × Rec) =>
    let r := p.2
    if r.hasGroup && (match r.epoch with | some k => k > epoch | none => false) then (p.1, { r with state := 4 })
    else p)).map (fun (p : Nat × Rec) =>
    let r := p.2
    if r.hasGroup && r.state == 3 && r.epoch.isNone then (p.1, { r with state := 5 }) else p)

theorem alookup_rbRecs (epoch n : Nat) (recs : List (Nat × Rec)) :
    alookup n (rbRecs epoch recs) = (alookup n recs).map (Fork.rbRec epoch) := by
  have pair {α : Type} {c : Prop} [Decidable c] (p : Nat × α) (a : α) : (if c then (p.1, a) else p) = (p.1, if c then a else p.2) := by
    split <;> rfl
  unfold rbRecs
  rw [alookup_map_snd _ Fork.rbRec2 (by intro p; exact pair p _), alookup_map_snd _ (Fork.rbRec1 epoch) (by intro p; exact pair p _)]
  cases alookup n recs <;> rfl

theorem stuck_rbRec (epoch : Nat) (o : Option Rec) (h : Stuck o) : Stuck (o.map (Fork.rbRec epoch)) := by
  obtain ⟨r, rfl, hs, he⟩ := h
  have h1 : (Fork.rbRec1 epoch r).epoch = r.epoch ∧ ((Fork.rbRec1 epoch r).state = 3 ∨ (Fork.rbRec1 epoch r).state = 4) := by
    unfold Fork.rbRec1
    exact ite_elim (P := fun x : Rec => x.epoch = r.epoch ∧ (x.state = 3 ∨ x.state = 4)) (fun _ => ⟨rfl, .inr rfl⟩) (fun _ => ⟨rfl, hs⟩)
  have h2 : Fork.rbRec2 (Fork.rbRec1 epoch r) = Fork.rbRec1 epoch r := by
    unfold Fork.rbRec2
    rw [h1.1, Option.isNone_eq_false_iff.mpr he, Bool.and_false, if_neg Bool.false_ne_true]
  exact ⟨Fork.rbRec epoch r, rfl, by unfold Fork.rbRec; rw [h2]; exact h1.2, by unfold Fork.rbRec; rw [h2, h1.1]; exact he⟩

theorem RecRel.rb {S W : List Nat} {r r' : List (Nat × Rec)} (h : RecRel S W r r') (epoch : Nat) :
    RecRel S W (rbRecs epoch r) (rbRecs epoch r') := by
  intro n
  rw [alookup_rbRecs, alookup_rbRecs]
  rcases h n with e | ⟨hs, hst⟩ | hw
  · exact Or.inl (by rw [e])
  · exact Or.inr (Or.inl ⟨hs, stuck_rbRec epoch _ hst⟩)
  · exact Or.inr (Or.inr hw)

/-! ## group states, snapshots, clients -/

/-- `g` with another secret table and another consumed list -/
def wg (g : GState) (s : List (Nat × Path)) (k : List Nat) : GState := { g with secrets := s, consumed := k }

def GRel (X : List Nat) (g g' : GState) : Prop :=
  ∃ s k, g' = wg g s k ∧ SecRel g.path g.pending g.secrets s ∧ ConsRel X g.consumed k

theorem GRel.refl (X : List Nat) (g : GState) : GRel X g g := ⟨g.secrets, g.consumed, rfl, SecRel.refl _ _ _, ConsRel.refl _ _⟩

theorem GRel.symm {X : List Nat} {g g' : GState} (h : GRel X g g') : GRel X g' g := by
  obtain ⟨s, k, rfl, hs, hk⟩ := h
  exact ⟨g.secrets, g.consumed, rfl, hs.symm, hk.symm⟩

theorem GRel.trans {X : List Nat} {g g' g'' : GState} (h : GRel X g g') (h' : GRel X g' g'') : GRel X g g'' := by
  obtain ⟨s, k, rfl, hs, hk⟩ := h
  obtain ⟨s', k', rfl, hs', hk'⟩ := h'
  exact ⟨s', k', rfl, hs.trans hs', hk.trans hk'⟩

theorem GRel.mono {X X' : List Nat} {g g' : GState} (h : GRel X g g') (hX : ∀ x, x ∈ X → x ∈ X') : GRel X' g g' := by
  obtain ⟨s, k, rfl, hs, hk⟩ := h
  exact ⟨s, k, rfl, hs, hk.mono hX⟩

/-- snapshot entries: same epoch, commit, timestamp; saved states related -/
def SRel (X : List Nat) (s s' : Snap) : Prop :=
  s'.epoch = s.epoch ∧ s'.commit = s.commit ∧ s'.ts = s.ts ∧ GRel X s.saved s'.saved

inductive MRel (X : List Nat) : List Snap → List Snap → Prop
  | nil : MRel X [] []
  | cons {s s' : Snap} {m m' : List Snap} : SRel X s s' → MRel X m m' → MRel X (s :: m) (s' :: m')

theorem SRel.refl (X : List Nat) (s : Snap) : SRel X s s := ⟨rfl, rfl, rfl, GRel.refl _ _⟩
theorem SRel.symm {X : List Nat} {s s' : Snap} (h : SRel X s s') : SRel X s' s :=
  ⟨h.1.symm, h.2.1.symm, h.2.2.1.symm, h.2.2.2.symm⟩
theorem SRel.trans {X : List Nat} {s s' s'' : Snap} (h : SRel X s s') (h' : SRel X s' s'') : SRel X s s'' :=
  ⟨h'.1.trans h.1, h'.2.1.trans h.2.1, h'.2.2.1.trans h.2.2.1, h.2.2.2.trans h'.2.2.2⟩
theorem SRel.mono {X X' : List Nat} {s s' : Snap} (h : SRel X s s') (hX : ∀ x, x ∈ X → x ∈ X') : SRel X' s s' :=
  ⟨h.1, h.2.1, h.2.2.1, h.2.2.2.mono hX⟩

theorem MRel.refl (X : List Nat) : ∀ m : List Snap, MRel X m m
  | [] => .nil
  | s :: m => .cons (SRel.refl X s) (MRel.refl X m)

theorem MRel.eq_nil {X : List Nat} {m' : List Snap} (h : MRel X [] m') : m' = [] := by cases h; rfl

theorem MRel.cons_inv {X : List Nat} {s : Snap} {t m' : List Snap} (h : MRel X (s :: t) m') :
    ∃ s' t', m' = s' :: t' ∧ SRel X s s' ∧ MRel X t t' := by
  cases h with
  | cons hs ht => exact ⟨_, _, rfl, hs, ht⟩

theorem MRel.symm {X : List Nat} {m m' : List Snap} (h : MRel X m m') : MRel X m' m := by
  induction h with
  | nil => exact .nil
  | cons hs _ ih => exact .cons hs.symm ih

theorem MRel.trans {X : List Nat} {m m' m'' : List Snap} (h : MRel X m m') (h' : MRel X m' m'') : MRel X m m'' := by
  induction h generalizing m'' with
  | nil => rw [h'.eq_nil]; exact .nil
  | cons hs _ ih =>
    obtain ⟨s'', t'', rfl, hs', ht'⟩ := h'.cons_inv
    exact .cons (hs.trans hs') (ih ht')

theorem MRel.mono {X X' : List Nat} {m m' : List Snap} (h : MRel X m m') (hX : ∀ x, x ∈ X → x ∈ X') : MRel X' m m' := by
  induction h with
  | nil => exact .nil
  | cons hs _ ih => exact .cons (hs.mono hX) ih

theorem MRel.length_eq {X : List Nat} {m m' : List Snap} (h : MRel X m m') : m'.length = m.length := by
  induction h with
  | nil => rfl
  | cons _ _ ih => simp [ih]

theorem MRel.append {X : List Nat} {a a' b b' : List Snap} (h1 : MRel X a a') (h2 : MRel X b b') : MRel X (a ++ b) (a' ++ b') := by
  induction h1 with
  | nil => exact h2
  | cons hs _ ih => exact .cons hs ih

theorem MRel.drop {X : List Nat} {m m' : List Snap} (h : MRel X m m') : ∀ k, MRel X (m.drop k) (m'.drop k) := by
  induction h with
  | nil => intro k; simp; exact .nil
  | cons hs hm ih =>
    intro k
    cases k with
    | zero => exact .cons hs hm
    | succ k => simpa using ih k

theorem MRel.take {X : List Nat} {m m' : List Snap} (h : MRel X m m') : ∀ k, MRel X (m.take k) (m'.take k) := by
  induction h with
  | nil => intro k; simp; exact .nil
  | cons hs hm ih =>
    intro k
    cases k with
    | zero => exact .nil
    | succ k => simpa using .cons hs (ih k)

theorem MRel.zero {X : List Nat} {m m' : List Snap} (h : MRel X m m') :
    MRel X (m.map (fun s => { s with ts := 0 })) (m'.map (fun s => { s with ts := 0 })) := by
  induction h with
  | nil => exact .nil
  | cons hs _ ih => exact .cons ⟨hs.1, hs.2.1, rfl, hs.2.2.2⟩ ih

theorem MRel.findIdx_eq {X : List Nat} {m m' : List Snap} (h : MRel X m m') (ep : Nat) : findIdx m' ep = findIdx m ep := by
  induction h with
  | nil => rfl
  | cons hs _ ih => simp only [findIdx, hs.1, ih]

theorem MRel.find_rel {X : List Nat} {m m' : List Snap} (h : MRel X m m') (ep : Nat) :
    (m.find? (·.epoch == ep) = none ∧ m'.find? (·.epoch == ep) = none) ∨
    ∃ s s', m.find? (·.epoch == ep) = some s ∧ m'.find? (·.epoch == ep) = some s' ∧ SRel X s s' := by
  induction h with
  | nil => exact .inl ⟨rfl, rfl⟩
  | @cons s s' m m' hs _ ih =>
    simp only [List.find?_cons, hs.1]
    cases s.epoch == ep with
    | true => exact .inr ⟨s, s', rfl, rfl, hs⟩
    | false => exact ih

/-- the MIP-03 comparison sees epoch, timestamp and commit id of the snapshot only -/
theorem isBetter_of_mrel {X : List Nat} (c c' : Cl) (h : MRel X c.mgr c'.mgr) (ee : Nat) (e : Ev) :
    isBetter c' ee e = isBetter c ee e := by
  unfold isBetter
  rcases h.find_rel ee with ⟨h1, h2⟩ | ⟨s, s', h1, h2, hs⟩
  · rw [h1, h2]
  · rw [h1, h2]
    obtain ⟨_, hc, ht, _⟩ := hs
    simp only [ht, hc]

/-- `c` with another secret table, consumed list, record table and snapshot queue -/
def wc (c : Cl) (s : List (Nat × Path)) (k : List Nat) (r : List (Nat × Rec)) (m : List Snap) : Cl :=
  { c with g := wg c.g s k, recs := r, mgr := m }

/-- **the relation**: `c'` is `c` up to what deliveries without effect may have touched -/
def Eqv (S W X : List Nat) (c c' : Cl) : Prop :=
  ∃ s k r m, c' = wc c s k r m ∧ SecRel c.g.path c.g.pending c.g.secrets s ∧ ConsRel X c.g.consumed k ∧
    RecRel S W c.recs r ∧ MRel X c.mgr m

theorem Eqv.refl (S W X : List Nat) (c : Cl) : Eqv S W X c c :=
  ⟨c.g.secrets, c.g.consumed, c.recs, c.mgr, rfl, SecRel.refl _ _ _, ConsRel.refl _ _, RecRel.refl _ _ _, MRel.refl _ _⟩

theorem Eqv.trans {S W X : List Nat} {c c' c'' : Cl} (h : Eqv S W X c c') (h' : Eqv S W X c' c'') : Eqv S W X c c'' := by
  obtain ⟨s, k, r, m, rfl, hs, hk, hr, hm⟩ := h
  obtain ⟨s', k', r', m', rfl, hs', hk', hr', hm'⟩ := h'
  exact ⟨s', k', r', m', rfl, hs.trans hs', hk.trans hk', hr.trans hr', hm.trans hm'⟩

theorem Eqv.mono {S W X S' W' X' : List Nat} {c c' : Cl} (h : Eqv S W X c c')
    (hS : ∀ x, x ∈ S → x ∈ S') (hW : ∀ x, x ∈ W → x ∈ W') (hX : ∀ x, x ∈ X → x ∈ X') : Eqv S' W' X' c c' := by
  obtain ⟨s, k, r, m, rfl, hs, hk, hr, hm⟩ := h
  exact ⟨s, k, r, m, rfl, hs, hk.mono hX, hr.mono hS hW, hm.mono hX⟩

/-- the OTHER direction after a one-sided step of the left run: `c1` differs from `c` at most in the record of `n`
    (and secrets / consumed / saved states inside the relation), and the right run's record of `n` is stuck or free -/
theorem Eqv.left_step {S W X : List Nat} {c c' c1 : Cl} {n : Nat} (h : Eqv S W X c c') (h1 : Eqv [] [n] X c c1)
    (hn : (n ∈ S ∧ Stuck (alookup n c'.recs)) ∨ n ∈ W) : Eqv S W X c1 c' := by
  obtain ⟨s, k, r, m, rfl, hs, hk, hr, hm⟩ := h
  obtain ⟨s1, k1, r1, m1, rfl, hs1, hk1, hr1, hm1⟩ := h1
  refine ⟨s, k, r, m, rfl, hs1.symm.trans hs, hk1.symm.trans hk, ?_, hm1.symm.trans hm⟩
  intro x
  rcases hr1 x with e | ⟨hx, _⟩ | hx
  · have e' : alookup x r1 = alookup x c.recs := e
    show alookup x r = alookup x r1 ∨ _
    rw [e']; exact hr x
  · cases hx
  · have : x = n := by simpa using hx
    subst this
    exact Or.inr hn

theorem Eqv.proj {S W X : List Nat} {c c' : Cl} (h : Eqv S W X c c') : proj c' = proj c := by
  obtain ⟨s, k, r, m, rfl, _⟩ := h; rfl
theorem Eqv.msgs {S W X : List Nat} {c c' : Cl} (h : Eqv S W X c c') : c'.msgs = c.msgs := by
  obtain ⟨s, k, r, m, rfl, _⟩ := h; rfl
theorem Eqv.mgr {S W X : List Nat} {c c' : Cl} (h : Eqv S W X c c') : MRel X c.mgr c'.mgr := by
  obtain ⟨s, k, r, m, rfl, _, _, _, hm⟩ := h; exact hm
theorem Eqv.recs {S W X : List Nat} {c c' : Cl} (h : Eqv S W X c c') : RecRel S W c.recs c'.recs := by
  obtain ⟨s, k, r, m, rfl, _, _, hr, _⟩ := h; exact hr
theorem Eqv.cons {S W X : List Nat} {c c' : Cl} (h : Eqv S W X c c') : ConsRel X c.g.consumed c'.g.consumed := by
  obtain ⟨s, k, r, m, rfl, _, hk, _, _⟩ := h; exact hk
theorem Eqv.routes {S W X : List Nat} {c c' : Cl} (h : Eqv S W X c c') (e : Ev) : routes c' e = routes c e := by
  obtain ⟨s, k, r, m, rfl, _⟩ := h; rfl
theorem Eqv.isBetter {S W X : List Nat} {c c' : Cl} (h : Eqv S W X c c') (ee : Nat) (e : Ev) :
    isBetter c' ee e = isBetter c ee e := isBetter_of_mrel c c' h.mgr ee e

/-! ## building blocks: both runs take the same step -/

/-- equal results, related states -/
def ERes (S W X : List Nat) (p p' : Cl × Res) : Prop := Eqv S W X p.1 p'.1 ∧ p'.2 = p.2

theorem eres_mk {S W X : List Nat} {a a' : Cl} {r : Res} (h : Eqv S W X a a') : ERes S W X (a, r) (a', r) := ⟨h, rfl⟩

/-- `g` with another consumed list -/
def wk (g : GState) (k : List Nat) : GState := { g with consumed := k }

/-- `c` with another consumed list, record table and snapshot queue (the secret tables are EQUAL) -/
def wcs (c : Cl) (k : List Nat) (r : List (Nat × Rec)) (m : List Snap) : Cl := { c with g := wk c.g k, recs := r, mgr := m }

/-- the relation with equal secret tables: what holds after `exporter_secret()` ran in both runs -/
def EqvS (S W X : List Nat) (c c' : Cl) : Prop :=
  ∃ k r m, c' = wcs c k r m ∧ ConsRel X c.g.consumed k ∧ RecRel S W c.recs r ∧ MRel X c.mgr m

theorem EqvS.eqv {S W X : List Nat} {c c' : Cl} (h : EqvS S W X c c') : Eqv S W X c c' := by
  obtain ⟨k, r, m, rfl, hk, hr, hm⟩ := h
  exact ⟨c.g.secrets, k, r, m, rfl, SecRel.refl _ _ _, hk, hr, hm⟩

theorem ensureSecret_wg (g : GState) (s : List (Nat × Path)) (k : List Nat) :
    ensureSecret (wg g s k) = wg (ensureSecret g) (ens g.path s) k := by
  rw [ensureSecret_eq, ensureSecret_eq]; rfl

theorem ensureSecret_wk (g : GState) (k : List Nat) : ensureSecret (wk g k) = wk (ensureSecret g) k := Fork.ensureSecret_wc g k

theorem mergeCommit_wk (mp : Nat) (g : GState) (k : List Nat) (e : Ev) : mergeCommit mp (wk g k) e = wk (mergeCommit mp g e) k :=
  Fork.mergeCommit_wc mp g k e

theorem updLast_wk (g : GState) (k : List Nat) (mid t : Nat) : updLast (wk g k) mid t = wk (updLast g mid t) k := by
  unfold updLast
  show (match g.last with | none => _ | some (_, t') => _) = _
  cases g.last with
  | none => rfl
  | some p =>
    obtain ⟨a, t'⟩ := p
    dsimp only
    split <;> rfl

theorem syncRec_wk (g : GState) (k : List Nat) : syncRec (wk g k) = wk (syncRec g) k := Fork.syncRec_wc g k

/-- `exporter_secret()` in both runs makes the secret tables equal -/
theorem eqvS_withSecret {S W X : List Nat} {c c' : Cl} (h : Eqv S W X c c') : EqvS S W X (withSecret c) (withSecret c') := by
  obtain ⟨s, k, r, m, rfl, hs, hk, hr, hm⟩ := h
  refine ⟨k, r, m, ?_, by rw [withSecret_consumed]; exact hk, hr, hm⟩
  show ({ wc c s k r m with g := ensureSecret (wg c.g s k) } : Cl) = _
  rw [ensureSecret_wg, hs.ens_eq, ← ensureSecret_secrets]
  rfl

theorem eqv_setRec {S W X : List Nat} {c c' : Cl} (h : Eqv S W X c c') (n : Nat) (v : Rec) :
    Eqv S W X (setRec c n v) (setRec c' n v) := by
  obtain ⟨s, k, r, m, rfl, hs, hk, hr, hm⟩ := h
  exact ⟨s, k, ainsert n v r, m, rfl, hs, hk, hr.ainsert n v, hm⟩

/-- the record `record_failure` writes, from the old one -/
def failRec (old : Option Rec) (hasGroup : Bool) (epoch : Option Nat) : Rec :=
  { state := 3,
    epoch := (match epoch with
      | some e => some e
      | none => old.bind (·.epoch)),
    hasGroup := hasGroup || (old.map (·.hasGroup)).getD false, mid := old.bind (·.mid) }

theorem recordFailure_eq (c : Cl) (n : Nat) (b : Bool) (ep : Option Nat) :
    recordFailure c n b ep = setRec c n (failRec (getRec c n) b ep) := rfl

theorem eqv_recordFailure {S W X : List Nat} {c c' : Cl} (h : Eqv S W X c c') (n : Nat) (hn : getRec c' n = getRec c n)
    (b : Bool) (ep : Option Nat) : Eqv S W X (recordFailure c n b ep) (recordFailure c' n b ep) := by
  rw [recordFailure_eq, recordFailure_eq, hn]; exact eqv_setRec h n _

/-- replacing the group state by related ones (same fields but the consumed list) -/
theorem eqvS_setG {S W X : List Nat} {c c' : Cl} (h : EqvS S W X c c') (g : GState) (k : List Nat) (hk : ConsRel X g.consumed k) :
    EqvS S W X { c with g := g } { c' with g := wk g k } := by
  obtain ⟨k0, r, m, rfl, _, hr, hm⟩ := h
  exact ⟨k, r, m, rfl, hk, hr, hm⟩

theorem eqvS_setGM {S W X : List Nat} {c c' : Cl} (h : EqvS S W X c c') (g : GState) (ms : List MsgRow) (k : List Nat)
    (hk : ConsRel X g.consumed k) : EqvS S W X { c with g := g, msgs := ms } { c' with g := wk g k, msgs := ms } := by
  obtain ⟨k0, r, m, rfl, _, hr, hm⟩ := h
  exact ⟨k, r, m, rfl, hk, hr, hm⟩

@[simp] theorem wcs_g (c : Cl) (k : List Nat) (r : List (Nat × Rec)) (m : List Snap) : (wcs c k r m).g = wk c.g k := rfl
@[simp] theorem wcs_msgs (c : Cl) (k : List Nat) (r : List (Nat × Rec)) (m : List Snap) : (wcs c k r m).msgs = c.msgs := rfl
@[simp] theorem wk_path (g : GState) (k : List Nat) : (wk g k).path = g.path := rfl

theorem EqvS.g {S W X : List Nat} {c c' : Cl} (h : EqvS S W X c c') : ∃ k, c'.g = wk c.g k ∧ ConsRel X c.g.consumed k := by
  obtain ⟨k, r, m, rfl, hk, _, _⟩ := h; exact ⟨k, rfl, hk⟩
theorem EqvS.maxPast {S W X : List Nat} {c c' : Cl} (h : EqvS S W X c c') : c'.maxPast = c.maxPast := by obtain ⟨k, r, m, rfl, _⟩ := h; rfl
theorem EqvS.msgs {S W X : List Nat} {c c' : Cl} (h : EqvS S W X c c') : c'.msgs = c.msgs := by obtain ⟨k, r, m, rfl, _⟩ := h; rfl

theorem eqvS_failUnprocessable {S W X : List Nat} {c c' : Cl} (h : EqvS S W X c c') (e : Ev) (hn : getRec c' e.n = getRec c e.n) :
    ERes S W X (failUnprocessable c e) (failUnprocessable c' e) := by
  obtain ⟨k, hg, _⟩ := h.g
  unfold failUnprocessable
  rw [hg]
  exact eres_mk (eqv_recordFailure h.eqv e.n hn _ _)

theorem eqvS_returnOwnCommit {S W X : List Nat} {c c' : Cl} (h : EqvS S W X c c') :
    ERes S W X (returnOwnCommit c) (returnOwnCommit c') := by
  obtain ⟨k, hg, hk⟩ := h.g
  unfold returnOwnCommit
  rw [hg, syncRec_wk]
  exact eres_mk (eqvS_setG h (syncRec c.g) k hk).eqv

theorem eqvS_storeApp {S W X : List Nat} {c c' : Cl} (h : EqvS S W X c c') (e : Ev) (mid t tok : Nat) :
    ERes S W X (storeApp c e mid t tok) (storeApp c' e mid t tok) := by
  obtain ⟨k, r, m, rfl, hk, hr, hm⟩ := h
  unfold storeApp
  simp only [wcs_g, updLast_wk, wcs_msgs, wk_path]
  exact eres_mk (eqv_setRec (eqvS_setGM ⟨k, r, m, rfl, hk, hr, hm⟩ _ _ k (by rw [updLast_consumed]; exact hk)).eqv _ _)

theorem eqvS_ownMessage {S W X : List Nat} {c c' : Cl} (h : EqvS S W X c c') (e : Ev) (hn : getRec c' e.n = getRec c e.n) :
    ERes S W X (ownMessage c e) (ownMessage c' e) := by
  obtain ⟨k, hg, hk⟩ := h.g
  exact ownMessage_sim (R := Eqv S W X) e h.eqv hn h.msgs
    (fun ms v => by rw [hg]; exact eqv_setRec (eqvS_setGM h c.g ms k hk).eqv _ _) (eqvS_returnOwnCommit h).1

theorem eqvS_notBetterResult {S W X : List Nat} {c c' : Cl} (h : EqvS S W X c c') (e : Ev) (hn : getRec c' e.n = getRec c e.n) :
    ERes S W X (notBetterResult c e) (notBetterResult c' e) := by
  unfold notBetterResult
  rw [hn]
  cases getRec c e.n with
  | none => exact eqvS_failUnprocessable h e hn
  | some r => exact ite_elim₂ (fun _ => eqvS_returnOwnCommit h) (fun _ => eqvS_failUnprocessable h e hn)

theorem eqvS_mgrCreate {S W X : List Nat} {c c' : Cl} (h : EqvS S W X c c') (ep : Nat) (e : Ev) :
    EqvS S W X (mgrCreate c ep e) (mgrCreate c' ep e) := by
  obtain ⟨k, r, m, rfl, hk, hr, hm⟩ := h
  refine ⟨k, r, (mgrCreate (wcs c k r m) ep e).mgr, rfl, hk, hr, ?_⟩
  have hl := hm.length_eq
  have hsn : SRel X { epoch := ep, commit := e.idnum, ts := e.ts, saved := c.g }
      { epoch := ep, commit := e.idnum, ts := e.ts, saved := wk c.g k } :=
    ⟨rfl, rfl, rfl, ⟨c.g.secrets, k, rfl, SecRel.refl _ _ _, hk⟩⟩
  simp only [mgrCreate, wcs, List.length_append, hl, List.length_cons, List.length_nil]
  exact (hm.append (.cons hsn .nil)).drop _

theorem eqvS_consume {S W X : List Nat} {c c' : Cl} (h : EqvS S W X c c') (x : Nat) :
    EqvS S W X { c with g := { c.g with consumed := x :: c.g.consumed } } { c' with g := { c'.g with consumed := x :: c'.g.consumed } } := by
  obtain ⟨k, r, m, rfl, hk, hr, hm⟩ := h
  exact ⟨x :: k, r, m, rfl, hk.cons x, hr, hm⟩

/-- snapshot, merge `p`, ProcessedCommit: how `OwnCommitPending` ends, and `process_commit` (with `p = e`) -/
theorem eqvS_mergeOwn {S W X : List Nat} {c c' : Cl} (h : EqvS S W X c c') (e p : Ev) :
    ERes S W X (mergeOwn c e p) (mergeOwn c' e p) := by
  have hc := eqvS_mgrCreate h (epochOf c.g.path) e
  obtain ⟨k, r, m, rfl, hk, hr, hm⟩ := h
  have hg : (mgrCreate (wcs c k r m) (epochOf c.g.path) e).g = wk (mgrCreate c (epochOf c.g.path) e).g k := rfl
  unfold mergeOwn
  dsimp only
  rw [show epochOf (wcs c k r m).g.path = epochOf c.g.path from rfl, show (wcs c k r m).maxPast = c.maxPast from rfl,
    hg, mergeCommit_wk, ensureSecret_wk, syncRec_wk]
  refine eres_mk (eqv_setRec (eqvS_setG hc _ k ?_).eqv _ _)
  show ConsRel X (ensureSecret (mergeCommit _ _ _)).consumed k
  rw [ensureSecret_consumed, mergeCommit_consumed]; exact hk

theorem eqvS_processCommit {S W X : List Nat} {c c' : Cl} (h : EqvS S W X c c') (e : Ev) (b : Body) (sw : List Nat)
    (hn : getRec c' e.n = getRec c e.n) : ERes S W X (processCommit c e b sw) (processCommit c' e b sw) := by
  have hm := eqvS_mergeOwn h e e
  have hc := eqvS_mgrCreate h (epochOf c.g.path) e
  obtain ⟨k, r, m, rfl, hk, hr, hm'⟩ := h
  have h : EqvS S W X c (wcs c k r m) := ⟨k, r, m, rfl, hk, hr, hm'⟩
  unfold processCommit
  refine ite_elim₂ (fun _ => eres_mk (eqv_recordFailure h.eqv e.n hn _ _)) (fun _ => ite_elim₂ (fun _ => ?_) (fun _ => hm))
  have hg : (mgrCreate (wcs c k r m) (epochOf c.g.path) e).g = wk (mgrCreate c (epochOf c.g.path) e).g k := rfl
  rw [show epochOf (wcs c k r m).g.path = epochOf c.g.path from rfl, hg, mergeCommit_wk]
  refine eres_mk (eqv_setRec (eqvS_setG hc { mergeCommit c.maxPast (mgrCreate c (epochOf c.g.path) e).g e with active := false } k
    ?_).eqv _ _)
  show ConsRel X (mergeCommit _ _ _).consumed k
  rw [mergeCommit_consumed]; exact hk

theorem eqvS_autoCommit {S W X : List Nat} {c c' : Cl} (h : EqvS S W X c c') (nx : Nat) (e : Ev) :
    ERes S W X (autoCommit nx c e) (autoCommit nx c' e) := by
  obtain ⟨k, r, m, rfl, hk, hr, hm⟩ := h
  unfold autoCommit
  dsimp only
  rw [show ∀ who ne, ({ (wcs c k r m).g with props := who, pending := ne } : GState) = wk { c.g with props := who, pending := ne } k
    from fun _ _ => rfl, ensureSecret_wk]
  exact eres_mk (eqv_setRec (eqvS_setG ⟨k, r, m, rfl, hk, hr, hm⟩ _ k (by rw [ensureSecret_consumed]; exact hk)).eqv _ _)

theorem eqvS_queueLeave {S W X : List Nat} {c c' : Cl} (h : EqvS S W X c c') (e : Ev) :
    ERes S W X (queueLeave c e) (queueLeave c' e) := by
  obtain ⟨k, r, m, rfl, hk, hr, hm⟩ := h
  exact eres_mk (eqv_setRec (eqvS_setG ⟨k, r, m, rfl, hk, hr, hm⟩ { c.g with props := (e.sender :: c.g.props).eraseDups } k hk).eqv _ _)

/-! ## rollback and the MIP-03 branch -/

theorem eqv_rollbackTo {S W X : List Nat} {c c' : Cl} (h : Eqv S W X c c') (ep : Nat) :
    (rollbackTo c ep = none ∧ rollbackTo c' ep = none) ∨
    ∃ c1 c1', rollbackTo c ep = some c1 ∧ rollbackTo c' ep = some c1' ∧ Eqv S W X c1 c1' ∧
      ∀ n, getRec c' n = getRec c n → getRec c1' n = getRec c1 n := by
  obtain ⟨s, k, r, m, rfl, hs, hk, hr, hm⟩ := h
  unfold rollbackTo
  rw [show findIdx (wc c s k r m).mgr ep = findIdx c.mgr ep from hm.findIdx_eq ep]
  cases findIdx c.mgr ep with
  | none => exact .inl ⟨rfl, rfl⟩
  | some i =>
    have hd : MRel X (c.mgr.drop i) ((wc c s k r m).mgr.drop i) := hm.drop i
    dsimp only
    generalize c.mgr.drop i = l, (wc c s k r m).mgr.drop i = l' at hd
    cases hd with
    | nil => exact .inl ⟨rfl, rfl⟩
    | cons hss _ =>
      obtain ⟨_, _, _, sg, kg, hsaved, hsg, hkg⟩ := hss
      refine .inr ⟨_, _, rfl, rfl, ⟨sg, kg, rbRecs ep r, m.take i, by rw [hsaved]; rfl, hsg, hkg, hr.rb ep, hm.take i⟩, ?_⟩
      intro n (hn : alookup n r = alookup n c.recs)
      show alookup n (rbRecs ep r) = alookup n (rbRecs ep c.recs)
      rw [alookup_rbRecs, alookup_rbRecs, hn]

theorem eqv_rollbackTo_none {S W X : List Nat} {c c' : Cl} (h : Eqv S W X c c') (ep : Nat) (hn : rollbackTo c ep = none) :
    rollbackTo c' ep = none := by
  rcases eqv_rollbackTo h ep with ⟨_, h2⟩ | ⟨_, _, h1, _⟩
  · exact h2
  · rw [hn] at h1; cases h1

/-- what the re-processing after a rollback must satisfy -/
def RetryRel (S W X : List Nat) (retry retry' : Cl → Option (Cl × Res)) (n : Nat) : Prop :=
  ∀ c1 c1', Eqv S W X c1 c1' → getRec c1' n = getRec c1 n →
    (retry c1 = none ∧ retry' c1' = none) ∨ ∃ r r', retry c1 = some r ∧ retry' c1' = some r' ∧ ERes S W X r r'

theorem eqvS_wrongEpochCommit {S W X : List Nat} (retry retry' : Cl → Option (Cl × Res)) {c c' : Cl} (h : EqvS S W X c c')
    (e : Ev) (ee : Nat) (hn : getRec c' e.n = getRec c e.n) (hretry : RetryRel S W X retry retry' e.n) :
    ERes S W X (wrongEpochCommit retry c e ee) (wrongEpochCommit retry' c' e ee) := by
  unfold wrongEpochCommit
  rw [h.eqv.isBetter ee e]
  refine ite_elim₂ (fun _ => ?_) (fun _ => eqvS_notBetterResult h e hn)
  rcases eqv_rollbackTo h.eqv ee with ⟨hr, hr'⟩ | ⟨c1, c1', hr, hr', hs1, hn1⟩
  · rw [hr, hr']
    exact eqvS_notBetterResult h e hn
  · rw [hr, hr']
    dsimp only
    rcases hretry c1 c1' hs1 (hn1 e.n hn) with ⟨h1, h2⟩ | ⟨r, r', h1, h2, hrr⟩
    · rw [h1, h2]; exact eqvS_notBetterResult h e hn
    · rw [h1, h2]; exact hrr

/-! ## `process_message` -/

/-- up to `exporter_secret()` the runs are related by `Eqv`, after it by `EqvS`: they hold the same secret table -/
theorem sim_step1 {S W X : List Nat} (retry retry' : Cl → Option (Cl × Res)) (nx : Nat) {c c' : Cl} (h : Eqv S W X c c') (e : Ev)
    (hn : getRec c' e.n = getRec c e.n) (hx : e.cipher ∉ X) (hretry : RetryRel S W X retry retry' e.n) :
    ERes S W X (step1 retry nx c e) (step1 retry' nx c' e) := by
  have hw := eqvS_withSecret h
  have hnw : getRec (withSecret c') e.n = getRec (withSecret c) e.n := hn
  have hro := h.routes e
  have hact : c'.g.active = c.g.active := by obtain ⟨s, k, r, m, rfl, _⟩ := h; rfl
  unfold step1
  rw [hro, hact]
  refine ite_elim₂ (fun _ => eres_mk (eqv_recordFailure h e.n hn _ _)) (fun _ => ?_)
  refine ite_elim₂ (fun _ => eres_mk (eqv_recordFailure h e.n hn _ _)) (fun _ => ?_)
  dsimp only
  generalize withSecret c' = d' at hw hnw ⊢
  generalize withSecret c = d at hw hnw ⊢
  obtain ⟨k, r, m, rfl, hk, hr, hm⟩ := hw
  have hw : EqvS S W X d (wcs d k r m) := ⟨k, r, m, rfl, hk, hr, hm⟩
  refine ite_elim₂ (fun _ => eres_mk (eqv_recordFailure hw.eqv e.n hnw _ _)) (fun _ => ?_)
  have hcons : (wcs d k r m).g.consumed.contains e.cipher = d.g.consumed.contains e.cipher := hk _ hx
  have hc := eqvS_consume hw e.cipher
  cases hkind : e.kind with
  | commit b sw =>
    dsimp only
    refine ite_elim₂ (fun _ => eqvS_wrongEpochCommit retry retry' hw e _ hnw hretry) (fun _ => ?_)
    refine ite_elim₂ (fun _ => ?_) (fun _ => ?_)
    · rw [show (wcs d k r m).g.pending = d.g.pending from rfl]
      cases d.g.pending with
      | some p => exact eqvS_mergeOwn hw e p
      | none => exact eqvS_ownMessage hw e hnw
    · rw [hcons]
      exact ite_elim₂ (fun _ => eqvS_failUnprocessable hw e hnw) (fun _ => eqvS_processCommit hc e b sw hnw)
  | leave =>
    dsimp only
    refine ite_elim₂ (fun _ => eqvS_failUnprocessable hw e hnw) (fun _ => ?_)
    refine ite_elim₂ (fun _ => eqvS_ownMessage hw e hnw) (fun _ => ?_)
    rw [hcons]
    refine ite_elim₂ (fun _ => eqvS_failUnprocessable hw e hnw) (fun _ => ?_)
    exact ite_elim₂ (fun _ => eqvS_autoCommit hc nx e) (fun _ => eqvS_queueLeave hc e)
  | app mid msgTs tok =>
    dsimp only
    refine ite_elim₂ (fun _ => eqvS_failUnprocessable hw e hnw) (fun _ => ?_)
    refine ite_elim₂ (fun _ => eqvS_failUnprocessable hw e hnw) (fun _ => ?_)
    refine ite_elim₂ (fun _ => eqvS_ownMessage hw e hnw) (fun _ => ?_)
    rw [hcons]
    exact ite_elim₂ (fun _ => eqvS_failUnprocessable hw e hnw) (fun _ => eqvS_storeApp hc e mid msgTs tok)

theorem sim_deliverOnce {S W X : List Nat} (retry retry' : Cl → Option (Cl × Res)) (nx : Nat) {c c' : Cl} (h : Eqv S W X c c') (e : Ev)
    (hn : getRec c' e.n = getRec c e.n) (hx : e.cipher ∉ X) (hretry : RetryRel S W X retry retry' e.n) :
    ERes S W X (deliverOnce retry nx c e) (deliverOnce retry' nx c' e) := by
  unfold deliverOnce
  rw [hn, h.routes e]
  cases hr : getRec c e.n with
  | none => exact sim_step1 retry retry' nx h e hn hx hretry
  | some r =>
    dsimp only
    exact ite_elim₂ (fun _ => eres_mk h) (fun _ => sim_step1 retry retry' nx h e hn hx hretry)

/-- **`process_message` is a simulation**, every fuel: the runs agree on the event number's record, and the ciphertext is
    not one whose consumption differs -/
theorem sim_deliverN {S W X : List Nat} (f nx : Nat) {c c' : Cl} (h : Eqv S W X c c') (e : Ev)
    (hn : getRec c' e.n = getRec c e.n) (hx : e.cipher ∉ X) : ERes S W X (deliverN f nx c e) (deliverN f nx c' e) := by
  induction f generalizing c c' with
  | zero => exact sim_deliverOnce _ _ nx h e hn hx (fun _ _ _ _ => Or.inl ⟨rfl, rfl⟩)
  | succ f ih =>
    refine sim_deliverOnce _ _ nx h e hn hx ?_
    intro c1 c1' h1 hn1
    exact Or.inr ⟨_, _, rfl, rfl, ih h1 hn1⟩

/-! ## the local operations: no hypothesis -/

theorem ensureSecret_wc_g {c : Cl} {s : List (Nat × Path)} (k : List Nat) (r : List (Nat × Rec)) (m : List Snap)
    (hs : SecRel c.g.path c.g.pending c.g.secrets s) : ensureSecret (wc c s k r m).g = wk (ensureSecret c.g) k := by
  show ensureSecret (wg c.g s k) = _
  rw [ensureSecret_wg, hs.ens_eq, ← ensureSecret_secrets]; rfl

theorem sim_send {S W X : List Nat} {c c' : Cl} (h : Eqv S W X c c') (n ts idn mid mts tok : Nat) :
    ERes S W X (send c n ts idn mid mts tok) (send c' n ts idn mid mts tok) := by
  obtain ⟨s, k, r, m, rfl, hs, hk, hr, hm⟩ := h
  have h : Eqv S W X c (wc c s k r m) := ⟨s, k, r, m, rfl, hs, hk, hr, hm⟩
  unfold send
  refine ite_elim₂ (fun _ => eres_mk h) (fun _ => ?_)
  refine ite_elim₂ (fun _ => eres_mk h) (fun _ => ?_)
  refine ite_elim₂ (fun _ => eres_mk h) (fun _ => ?_)
  dsimp only
  rw [ensureSecret_wc_g k r m hs, updLast_wk]
  refine ⟨EqvS.eqv ⟨k, ainsert n _ r, m, rfl, ?_, hr.ainsert _ _, hm⟩, rfl⟩
  show ConsRel X (updLast (ensureSecret c.g) mid mts).consumed k
  rw [updLast_consumed, ensureSecret_consumed]; exact hk

theorem sim_stageCommit {S W X : List Nat} {c c' : Cl} (h : Eqv S W X c c') (n ts idn : Nat) (b : Body) (na : Bool) :
    ERes S W X (stageCommit c n ts idn b na) (stageCommit c' n ts idn b na) := by
  obtain ⟨s, k, r, m, rfl, hs, hk, hr, hm⟩ := h
  have h : Eqv S W X c (wc c s k r m) := ⟨s, k, r, m, rfl, hs, hk, hr, hm⟩
  unfold stageCommit
  refine ite_elim₂ (fun _ => eres_mk h) (fun _ => ?_)
  refine ite_elim₂ (fun _ => eres_mk h) (fun _ => ?_)
  refine ite_elim₂ (fun _ => eres_mk h) (fun _ => ?_)
  refine ite_elim₂ (fun _ => eres_mk h) (fun _ => ?_)
  dsimp only
  rw [ensureSecret_wc_g k r m hs]
  refine ⟨EqvS.eqv ⟨k, ainsert n _ r, m, rfl, ?_, hr.ainsert _ _, hm⟩, rfl⟩
  show ConsRel X (ensureSecret c.g).consumed k
  rw [ensureSecret_consumed]; exact hk

theorem sim_updateData {S W X : List Nat} {c c' : Cl} (h : Eqv S W X c c') (n ts idn : Nat) (u : DataUpd) :
    ERes S W X (updateData c n ts idn u) (updateData c' n ts idn u) := by
  have hs := fun b => sim_stageCommit h n ts idn b true
  obtain ⟨s, k, r, m, rfl, hs', hk, hr, hm⟩ := h
  have h : Eqv S W X c (wc c s k r m) := ⟨s, k, r, m, rfl, hs', hk, hr, hm⟩
  unfold updateData
  refine ite_elim₂ (fun _ => eres_mk h) (fun _ => ?_)
  refine ite_elim₂ (fun _ => eres_mk h) (fun _ => ?_)
  exact hs _

theorem sim_removeMembers {S W X : List Nat} {c c' : Cl} (h : Eqv S W X c c') (n ts idn : Nat) (who : List Nat) :
    ERes S W X (removeMembers c n ts idn who) (removeMembers c' n ts idn who) := by
  have hs := fun b => sim_stageCommit h n ts idn b true
  obtain ⟨s, k, r, m, rfl, hs', hk, hr, hm⟩ := h
  have h : Eqv S W X c (wc c s k r m) := ⟨s, k, r, m, rfl, hs', hk, hr, hm⟩
  unfold removeMembers
  refine ite_elim₂ (fun _ => eres_mk h) (fun _ => ?_)
  refine ite_elim₂ (fun _ => eres_mk h) (fun _ => ?_)
  refine ite_elim₂ (fun _ => eres_mk h) (fun _ => ?_)
  refine ite_elim₂ (fun _ => eres_mk h) (fun _ => ?_)
  exact hs _

theorem sim_addMembers {S W X : List Nat} {c c' : Cl} (h : Eqv S W X c c') (n ts idn : Nat) (who : List Nat) :
    ERes S W X (addMembers c n ts idn who) (addMembers c' n ts idn who) := by
  have hs := fun b => sim_stageCommit h n ts idn b true
  obtain ⟨s, k, r, m, rfl, hs', hk, hr, hm⟩ := h
  have h : Eqv S W X c (wc c s k r m) := ⟨s, k, r, m, rfl, hs', hk, hr, hm⟩
  unfold addMembers
  refine ite_elim₂ (fun _ => eres_mk h) (fun _ => ?_)
  refine ite_elim₂ (fun _ => eres_mk h) (fun _ => ?_)
  refine ite_elim₂ (fun _ => eres_mk h) (fun _ => ?_)
  refine ite_elim₂ (fun _ => eres_mk h) (fun _ => ?_)
  refine ite_elim₂ (fun _ => eres_mk h) (fun _ => ?_)
  exact hs _

theorem sim_leave {S W X : List Nat} {c c' : Cl} (h : Eqv S W X c c') (n ts idn : Nat) :
    ERes S W X (leave c n ts idn) (leave c' n ts idn) := by
  obtain ⟨s, k, r, m, rfl, hs, hk, hr, hm⟩ := h
  have h : Eqv S W X c (wc c s k r m) := ⟨s, k, r, m, rfl, hs, hk, hr, hm⟩
  unfold leave
  refine ite_elim₂ (fun _ => eres_mk h) (fun _ => ?_)
  refine ite_elim₂ (fun _ => eres_mk h) (fun _ => ?_)
  refine ite_elim₂ (fun _ => eres_mk h) (fun _ => ?_)
  dsimp only
  rw [ensureSecret_wc_g k r m hs]
  refine ⟨EqvS.eqv ⟨k, ainsert n _ r, m, rfl, ?_, hr.ainsert _ _, hm⟩, rfl⟩
  show ConsRel X (ensureSecret c.g).consumed k
  rw [ensureSecret_consumed]; exact hk

/-- `merge_pending_commit` changes the epoch WITHOUT `exporter_secret()`: with a commit pending the secret tables are equal
    (that is what the `pending = none` clause of `SecRel` is for), without one only the record is synced -/
theorem sim_merge {S W X : List Nat} {c c' : Cl} (h : Eqv S W X c c') : ERes S W X (merge c) (merge c') := by
  obtain ⟨s, k, r, m, rfl, hs, hk, hr, hm⟩ := h
  have h : Eqv S W X c (wc c s k r m) := ⟨s, k, r, m, rfl, hs, hk, hr, hm⟩
  unfold merge
  refine ite_elim₂ (fun _ => eres_mk h) (fun _ => ?_)
  refine ite_elim₂ (fun _ => eres_mk h) (fun _ => ?_)
  have hp : (wc c s k r m).g.pending = c.g.pending := rfl
  rw [hp]
  cases hpe : c.g.pending with
  | some p =>
    dsimp only
    have hse : s = c.g.secrets := by
      rcases hs with h1 | ⟨h1, _⟩
      · exact h1
      · rw [hpe] at h1; cases h1
    subst hse
    have hg : (wc c c.g.secrets k r m).g = wk c.g k := rfl
    have hmp : (wc c c.g.secrets k r m).maxPast = c.maxPast := rfl
    rw [hg, hmp, mergeCommit_wk, syncRec_wk]
    refine ⟨EqvS.eqv ⟨k, r, m, rfl, ?_, hr, hm⟩, rfl⟩
    show ConsRel X (mergeCommit c.maxPast c.g p).consumed k
    rw [mergeCommit_consumed]; exact hk
  | none =>
    dsimp only
    refine ⟨⟨s, k, r, m, rfl, ?_, hk, hr, hm⟩, rfl⟩
    show SecRel c.g.path c.g.pending c.g.secrets s
    exact hs

theorem sim_clear {S W X : List Nat} {c c' : Cl} (h : Eqv S W X c c') : ERes S W X (clear c) (clear c') := by
  obtain ⟨s, k, r, m, rfl, hs, hk, hr, hm⟩ := h
  have h : Eqv S W X c (wc c s k r m) := ⟨s, k, r, m, rfl, hs, hk, hr, hm⟩
  unfold clear
  refine ite_elim₂ (fun _ => eres_mk h) (fun _ => ?_)
  refine ⟨⟨s, k, r, m, rfl, ?_, hk, hr, hm⟩, rfl⟩
  show SecRel c.g.path none c.g.secrets s
  rcases hs with h1 | ⟨_, h2⟩
  · exact Or.inl h1
  · exact Or.inr ⟨rfl, h2⟩

theorem sim_join {S W X : List Nat} {c c' : Cl} (h : Eqv S W X c c') (g : GState) : Eqv S W X (join c g) (join c' g) := by
  obtain ⟨s, k, r, m, rfl, hs, hk, hr, hm⟩ := h
  unfold join
  have hh : (wc c s k r m).hasGroup = c.hasGroup := rfl
  rw [hh]
  split
  · exact ⟨s, k, r, m, rfl, hs, hk, hr, hm⟩
  · exact ⟨g.secrets, g.consumed, r, [], rfl, SecRel.refl _ _ _, ConsRel.refl _ _, hr, .nil⟩

theorem sim_restart {S W X : List Nat} {c c' : Cl} (h : Eqv S W X c c') : ERes S W X (restart c) (restart c') := by
  obtain ⟨s, k, r, m, rfl, hs, hk, hr, hm⟩ := h
  unfold restart
  have hp : (wc c s k r m).persistent = c.persistent := rfl
  rw [hp]
  refine ite_elim₂ (fun _ => eres_mk ⟨s, k, r, _, rfl, hs, hk, hr, hm.zero⟩) (fun _ => eres_mk ⟨s, k, r, m, rfl, hs, hk, hr, hm⟩)

/-! ## the invariant the one-sided steps need: a pending commit ⇒ the current epoch's secret is stored

  Staging a commit (`self_update`, `update_group_data`, `add_members`, `remove_members`, the admin's auto-commit of a leave)
  calls `exporter_secret()` first; every snapshot is taken of a state in which `exporter_secret()` has just run. -/

def PendOK (g : GState) : Prop := g.pending.isSome = true → HasCur g

instance (g : GState) : Decidable (PendOK g) := by unfold PendOK; infer_instance

def SecInv (c : Cl) : Prop := PendOK c.g ∧ ∀ s ∈ c.mgr, PendOK s.saved

instance (c : Cl) : Decidable (SecInv c) := by unfold SecInv; infer_instance

theorem pendOK_ensure (g : GState) : PendOK (ensureSecret g) := fun _ => hasCur_ensureSecret g

theorem pendOK_congr {g g' : GState} (hp : g'.pending = g.pending) (hpath : g'.path = g.path) (hs : g'.secrets = g.secrets)
    (h : PendOK g) : PendOK g' := by
  unfold PendOK HasCur at *
  rw [hp, hpath, hs]; exact h

theorem pendOK_of_none {g : GState} (h : g.pending = none) : PendOK g := by
  intro hp; rw [h] at hp; cases hp

theorem pendOK_syncRec {g : GState} (h : PendOK g) : PendOK (syncRec g) := pendOK_congr rfl rfl rfl h

theorem pendOK_updLast {g : GState} (mid t : Nat) (h : PendOK g) : PendOK (updLast g mid t) := by
  unfold updLast
  split
  · exact pendOK_congr rfl rfl rfl h
  · split
    · exact pendOK_congr rfl rfl rfl h
    · exact h

theorem pendOK_mergeCommit {g : GState} (mp : Nat) (e : Ev) (h : PendOK g) : PendOK (mergeCommit mp g e) := by
  unfold mergeCommit
  cases e.kind with
  | commit b sw => exact pendOK_of_none rfl
  | leave => exact h
  | app a b c => exact h

theorem secInv_setRec (c : Cl) (n : Nat) (r : Rec) (h : SecInv c) : SecInv (setRec c n r) := h
theorem secInv_recordFailure (c : Cl) (n : Nat) (b : Bool) (e : Option Nat) (h : SecInv c) : SecInv (recordFailure c n b e) := h
theorem secInv_withSecret (c : Cl) (h : SecInv c) : SecInv (withSecret c) := ⟨pendOK_ensure c.g, h.2⟩

theorem secInv_returnOwnCommit (c : Cl) (h : SecInv c) : SecInv (returnOwnCommit c).1 := ⟨pendOK_syncRec h.1, h.2⟩

theorem secInv_ownMessage (c : Cl) (e : Ev) (h : SecInv c) : SecInv (ownMessage c e).1 := by
  have hs := ownMessage_spec c e
  generalize ownMessage c e = r at hs
  cases hs with
  | same | confirmed => exact h
  | echo => exact secInv_returnOwnCommit c h

theorem secInv_storeApp (c : Cl) (e : Ev) (m t k : Nat) (h : SecInv c) : SecInv (storeApp c e m t k).1 :=
  ⟨pendOK_updLast m t h.1, h.2⟩

theorem secInv_processCommit (c : Cl) (e : Ev) (b : Body) (sw : List Nat) (h : SecInv c) : SecInv (processCommit c e b sw).1 := by
  unfold processCommit
  refine ite_elim (P := fun r : Cl × Res => SecInv r.1) (fun _ => h) (fun _ => ite_elim (P := fun r : Cl × Res => SecInv r.1) (fun _ => ?_) (fun _ => ?_))
  · exact ⟨pendOK_congr (g := mergeCommit c.maxPast (mgrCreate c (epochOf c.g.path) e).g e) rfl rfl rfl
      (pendOK_mergeCommit _ e h.1), mgrCreate_saved _ e h.1 h.2⟩
  · exact ⟨pendOK_syncRec (pendOK_ensure _), mgrCreate_saved _ e h.1 h.2⟩

theorem secInv_deliverN (fuel nx : Nat) (c : Cl) (e : Ev) (h : SecInv c) : SecInv (deliverN fuel nx c e).1 := by
  refine deliverN_induct (P := fun c r => SecInv c → SecInv r.1) nx e (fun _ _ _ _ h => h) ?_ fuel c h
  intro c r _ hs h
  have hw := secInv_withSecret c h
  have hc : SecInv (consume (withSecret c) e.cipher) := ⟨pendOK_congr rfl rfl rfl hw.1, hw.2⟩
  cases hs with
  | unrouted | evicted => exact h
  | «sealed» | refused => exact hw
  | own => exact secInv_ownMessage _ e hw
  | echoed => exact secInv_returnOwnCommit _ hw
  | retried _ _ _ _ hrb ih => exact ih (rollbackTo_saved hw.2 hrb)
  | mergedOwn => exact ⟨pendOK_syncRec (pendOK_ensure _), mgrCreate_saved _ e hw.1 hw.2⟩
  | committed => exact secInv_processCommit _ e _ _ hc
  | autoCommitted => exact ⟨pendOK_ensure _, hw.2⟩
  | queued => exact ⟨pendOK_congr (g' := { (consume (withSecret c) e.cipher).g with props := _ }) rfl rfl rfl hc.1, hw.2⟩
  | stored => exact secInv_storeApp _ e _ _ _ hc

/-- create_message, the commit-staging operations and leave call `exporter_secret()` first; merging leaves nothing pending -/
theorem secInv_local {c : Cl} {r : Cl × Res} (h : SecInv c) (hl : Local c r) : SecInv r.1 := by
  cases hl with
  | refused | skipped => exact h
  | sent => exact ⟨pendOK_updLast _ _ (pendOK_ensure _), h.2⟩
  | staged | left => exact ⟨fun _ => hasCur_ensureSecret c.g, h.2⟩
  | merged => exact ⟨pendOK_syncRec (pendOK_mergeCommit _ _ h.1), h.2⟩
  | resynced => exact ⟨pendOK_syncRec h.1, h.2⟩
  | cleared => exact ⟨pendOK_of_none rfl, h.2⟩
  | restarted =>
    refine ⟨h.1, fun s hs => ?_⟩
    obtain ⟨t, ht, rfl⟩ := List.mem_map.mp hs
    exact h.2 t ht

theorem secInv_join (c : Cl) (mp : Nat) (g : GState) (e : Ev) (h : SecInv c) : SecInv (join c (welcomeState mp g e)) := by
  unfold join
  split
  · exact h
  · exact ⟨pendOK_of_none rfl, fun s hs => by cases hs⟩

theorem secInv_init (id : Nat) (p : Bool) (r : Nat) (ms as : List Nat) (name : Nat) : SecInv (initCl id p r ms as name) :=
  ⟨pendOK_of_none rfl, fun s hs => by cases hs⟩

open MdkVerif.Props.C08 (COp)

/-- both invariants the one-sided steps use: the stored record mirrors the MLS state (`C08.Inv`) and `SecInv` -/
def IInv (c : Cl) : Prop := MdkVerif.Props.C08.Inv c ∧ SecInv c

theorem iinv_init (id : Nat) (p : Bool) (r : Nat) (ms as : List Nat) (name : Nat) : IInv (initCl id p r ms as name) :=
  ⟨MdkVerif.Props.C08.inv_init id p r ms as name, secInv_init id p r ms as name⟩

theorem iinv_rstep (c : Cl) (o : COp) (h : IInv c) : IInv (rstep c o).1 := by
  rw [rstep_fst]
  rcases MdkVerif.Props.C08.cstep_local c o with ⟨e, nx, rfl⟩ | ⟨mp, g, e, rfl⟩ | ⟨r, hl, hr⟩
  · exact ⟨MdkVerif.Props.C08.inv_deliverN 3 nx c e h.1, secInv_deliverN 3 nx c e h.2⟩
  · exact ⟨MdkVerif.Props.C08.inv_join c mp g e h.1, secInv_join c mp g e h.2⟩
  · rw [hr]; exact ⟨MdkVerif.Props.C08.inv_local h.1 hl, secInv_local h.2 hl⟩

instance (c : Cl) : Decidable (IInv c) := by unfold IInv MdkVerif.Props.C08.Inv; infer_instance

/-! ## one-sided steps: a delivery without effect, in one run only -/

theorem eqv_right_setRecW {S W X : List Nat} {c c1 : Cl} (h : Eqv S W X c c1) (n : Nat) (v : Rec) (hn : n ∈ W) :
    Eqv S W X c (setRec c1 n v) := by
  obtain ⟨s, k, r, m, rfl, hs, hk, hr, hm⟩ := h
  refine ⟨s, k, ainsert n v r, m, rfl, hs, hk, ?_, hm⟩
  intro x
  rw [alookup_ainsert]
  by_cases hx : x = n
  · exact Or.inr (Or.inr (by rw [hx]; exact hn))
  · simp only [hx, if_false]; exact hr x

theorem eqv_right_consume {S W X : List Nat} {c c1 : Cl} (h : Eqv S W X c c1) (x : Nat) (hx : x ∈ X) :
    Eqv S W X c { c1 with g := { c1.g with consumed := x :: c1.g.consumed } } := by
  obtain ⟨s, k, r, m, rfl, hs, hk, hr, hm⟩ := h
  exact ⟨s, x :: k, r, m, rfl, hs, hk.cons_right x hx, hr, hm⟩

/-- `c1` is `c` after a delivery of event number `n` that had no effect: inside the relation with the record of `n`
    free — and, if `c` held a record of `n` with an epoch, that record is unchanged or stuck now: with `known` that
    puts `n` into `S` instead of `W` (`touch_eqvS`), so later deliveries of `n` can still be followed in both runs -/
def Touch (n : Nat) (c c1 : Cl) : Prop :=
  Eqv [] [n] [] c c1 ∧ ∀ r, getRec c n = some r → r.epoch.isSome = true → getRec c1 n = getRec c n ∨ Stuck (getRec c1 n)

theorem touch_refl (n : Nat) (c : Cl) : Touch n c c := ⟨Eqv.refl _ _ _ c, fun _ _ _ => Or.inl rfl⟩

theorem withSecret_eq_wc (c : Cl) : withSecret c = wc c (ens c.g.path c.g.secrets) c.g.consumed c.recs c.mgr := by
  show ({ c with g := ensureSecret c.g } : Cl) = _
  rw [ensureSecret_eq]; rfl

theorem eqv_withSecret {S W X : List Nat} (c : Cl) (hp : PendOK c.g) : Eqv S W X c (withSecret c) :=
  ⟨ens c.g.path c.g.secrets, c.g.consumed, c.recs, c.mgr, withSecret_eq_wc c, SecRel.ens_right hp, ConsRel.refl _ _,
    RecRel.refl _ _ _, MRel.refl _ _⟩

theorem touch_withSecret (n : Nat) (c : Cl) (hp : PendOK c.g) : Touch n c (withSecret c) :=
  ⟨eqv_withSecret c hp, fun _ _ _ => Or.inl rfl⟩

theorem touch_setRec {n : Nat} {c c1 : Cl} (h : Touch n c c1) (v : Rec)
    (hv : ∀ r, getRec c n = some r → r.epoch.isSome = true → (v.state = 3 ∨ v.state = 4) ∧ v.epoch.isSome = true) :
    Touch n c (setRec c1 n v) :=
  ⟨eqv_right_setRecW h.1 n v (List.mem_singleton.mpr rfl),
    fun r0 h0 he => .inr ⟨v, alookup_ainsert_self n v c1.recs, hv r0 h0 he⟩⟩

theorem failRec_stuck (r : Rec) (he : r.epoch.isSome = true) (b : Bool) (ep : Option Nat) :
    ((failRec (some r) b ep).state = 3 ∨ (failRec (some r) b ep).state = 4) ∧ (failRec (some r) b ep).epoch.isSome = true := by
  refine ⟨Or.inl rfl, ?_⟩
  unfold failRec
  cases ep with
  | some x => rfl
  | none => exact he

/-- `record_failure` on a client whose record of `n` is still the original one -/
theorem touch_recordFailure {n : Nat} {c c1 : Cl} (h : Touch n c c1) (hn : getRec c1 n = getRec c n) (b : Bool) (ep : Option Nat) :
    Touch n c (recordFailure c1 n b ep) := by
  rw [recordFailure_eq, hn]
  refine touch_setRec h _ ?_
  intro r h0 he
  rw [h0]; exact failRec_stuck r he b ep

theorem syncRec_of_synced (g : GState) (h : Synced g) : syncRec g = g := by
  cases g
  simp only [Synced] at h
  obtain ⟨h1, h2, h3, h4, h5, h6⟩ := h
  subst h1 h2 h3 h4 h5 h6
  rfl

theorem touch_returnOwnCommit {n : Nat} {c c1 : Cl} (h : Touch n c c1) (hs : Synced c1.g) : Touch n c (returnOwnCommit c1).1 := by
  unfold returnOwnCommit
  rw [syncRec_of_synced _ hs]; exact h

theorem handledInner_commit {c : Cl} {e : Ev} {b : Body} {sw : List Nat} (hk : e.kind = .commit b sw)
    (h : handledInner c e = true) : epochOf e.path ≠ epochOf c.g.path ∧ isBetter c (epochOf e.path) e = false := by
  simpa [handledInner, hk] using h

theorem handledInner_other {c : Cl} {e : Ev} (hk : ∀ b sw, e.kind ≠ .commit b sw) (h : handledInner c e = true) :
    (e.sender ≠ c.id → e.cipher ∈ c.g.consumed) ∧
    (e.sender = c.id → ∃ r, getRec c e.n = some r ∧ (r.state = 1 ∨ r.state = 2)) := by
  -- ProcessedCommit (2) for the own proposal, Processed (1) for the own message
  obtain ⟨st, hst, h⟩ : ∃ st, (st = 1 ∨ st = 2) ∧ (e.sender != c.id && c.g.consumed.contains e.cipher ||
      e.sender == c.id && (match getRec c e.n with | some r => r.state == st | none => false)) = true := by
    unfold handledInner at h
    cases hk' : e.kind with
    | commit b sw => exact absurd hk' (hk b sw)
    | leave => rw [hk'] at h; exact ⟨2, .inr rfl, h⟩
    | app mid ts tok => rw [hk'] at h; exact ⟨1, .inl rfl, h⟩
  refine ⟨fun hs => ?_, fun hs => ?_⟩
  · simpa [hs] using h
  · cases hr : getRec c e.n with
    | none => simp [hs, hr] at h
    | some r =>
      have : r.state = st := by simpa [hs, hr] using h
      exact ⟨r, rfl, by rw [this]; exact hst⟩

theorem handledInner_of_handled {c : Cl} {e : Ev} (hh : handled c e = true)
    (hnb : ∀ r, getRec c e.n = some r → r.state ≠ 3 ∧ r.state ≠ 4) (hg : routes c e = true) : handledInner c e = true := by
  unfold handled at hh
  rw [hg] at hh
  cases hr : getRec c e.n with
  | none => simpa [hr] using hh
  | some r => simpa [hr, (hnb r hr).1, (hnb r hr).2] using hh

/-- All that one pass over a handled event does to the client: a failure record at once (not routed, or evicted); or
    `exporter_secret()`, and then a failure record, the re-sync of `return_own_commit`, or nothing more. -/
inductive NoEffect (c : Cl) (e : Ev) : Cl → Prop
  | failed (b : Bool) (ep : Option Nat) : NoEffect c e (recordFailure c e.n b ep)
  | failedS (b : Bool) (ep : Option Nat) : NoEffect c e (recordFailure (withSecret c) e.n b ep)
  | echo : c.g.active = true → NoEffect c e (returnOwnCommit (withSecret c)).1
  | same : NoEffect c e (withSecret c)

theorem _root_.MdkVerif.Client.Step1.noEffect {R : Cl → Cl × Res → Prop} {nx : Nat} {e : Ev} {c : Cl} {r : Cl × Res}
    (hs : Step1 R nx e c r) (hh : routes c e = true → handledInner c e = true) : NoEffect c e r.1 := by
  have other (ho : Opens c e) (hk : ∀ b sw, e.kind ≠ .commit b sw) := handledInner_other hk (hh ho.routed)
  cases hs with
  | unrouted => exact .failed false none
  | evicted => exact .failed true none
  | «sealed» => exact .failedS true none
  | refused => exact .failedS true (some (withSecret c).g.recEpoch)
  | echoed ho => exact .echo ho.active
  | own ho hs hcur =>
    -- an own commit gets here in its own epoch only, so the handled event is a proposal or a message
    have hk : ∀ b sw, e.kind ≠ .commit b sw := fun b sw hk => by
      rcases hcur with ⟨_, _, _, hk'⟩ | heq
      · rw [hk] at hk'; cases hk'
      · exact (handledInner_commit hk (hh ho.routed)).1 heq
    obtain ⟨r, hr, hst⟩ := (other ho hk).2 hs
    have ho' := ownMessage_spec (withSecret c) e
    generalize ownMessage (withSecret c) e = r' at ho'
    cases ho' with
    | same => exact .same
    | echo => exact .echo ho.active
    | confirmed hr' hst' =>
      rw [withSecret_getRec, hr] at hr'
      cases hr'
      omega
  | retried ho hk _ hb => rw [(handledInner_commit hk (hh ho.routed)).2] at hb; cases hb
  | mergedOwn ho hk heq | committed ho hk heq => exact absurd heq (handledInner_commit hk (hh ho.routed)).1
  | autoCommitted ho hk _ hs hc | queued ho hk _ hs hc | stored ho hk _ _ hs hc =>
    exact absurd ((other ho (fun _ _ h => by rw [hk] at h; cases h)).1 hs) hc

theorem touch_of_noEffect {c c1 : Cl} {e : Ev} (hi : IInv c) (h : NoEffect c e c1) : Touch e.n c c1 := by
  have hw : Touch e.n c (withSecret c) := touch_withSecret e.n c hi.2.1
  cases h with
  | failed => exact touch_recordFailure (touch_refl _ _) rfl _ _
  | failedS => exact touch_recordFailure hw rfl _ _
  | echo ha => exact touch_returnOwnCommit hw (synced_withSecret c (hi.1.1 ha))
  | same => exact hw

/-- **one pass over a handled event**: whatever the state, the delivery stays inside `Touch` -/
theorem touch_step1_handled (retry : Cl → Option (Cl × Res)) (nx : Nat) (c : Cl) (e : Ev) (hi : IInv c)
    (hg : routes c e = true) (hh : handledInner c e = true) : Touch e.n c (step1 retry nx c e).1 :=
  touch_of_noEffect hi ((step1_spec retry (R := fun _ _ => True) (fun _ _ _ => trivial) nx c e).noEffect (fun _ => hh))

/-- **`process_message` on a handled event** (every fuel): the client stays inside `Touch` -/
theorem touch_deliverN_handled (fuel nx : Nat) (c : Cl) (e : Ev) (hi : IInv c) (hh : handled c e = true) :
    Touch e.n c (deliverN fuel nx c e).1 := by
  refine deliverN_induct (P := fun c r => IInv c → handled c e = true → Touch e.n c r.1) nx e
    (fun c _ _ _ _ _ => touch_refl _ c) ?_ fuel c hi hh
  intro c r hnb hs hi hh
  exact touch_of_noEffect hi (hs.noEffect (handledInner_of_handled hh hnb))

/-- a record that blocks: the delivery returns at the dedup check, the client is untouched -/
theorem blocked_deliverN (fuel nx : Nat) (c : Cl) (e : Ev) (h : Stuck (getRec c e.n)) : (deliverN fuel nx c e).1 = c := by
  obtain ⟨r, hr, hs, _⟩ := h
  rw [deliverN_blocked fuel nx c e r hr hs]

/-! ### a refused delivery (C06): `Err`, `Unprocessable`, `PreviouslyFailed`, `IgnoredProposal` -/

def refusal : Res → Bool
  | .unprocessable | .previouslyFailed | .err _ | .ignored => true
  | _ => false

/-- "if this outcome is a refusal, the client is the old one up to secrets / the record of `e.n` / the generation of `e.cipher`" -/
def FrameE (e : Ev) (c : Cl) (r : Cl × Res) : Prop := refusal r.2 = true → Eqv [] [e.n] [e.cipher] c r.1

theorem frameE_recordFailure (e : Ev) (c c1 : Cl) (h : Eqv [] [e.n] [e.cipher] c c1) (b : Bool) (ep : Option Nat) (res : Res) :
    FrameE e c (recordFailure c1 e.n b ep, res) := by
  intro _
  rw [recordFailure_eq]
  exact eqv_right_setRecW h e.n _ (by simp)

/-- **`process_message` refusing an event** (every fuel, no rollback triggered): the client stays inside the relation, with the
    record of `e.n` free and the generation of `e.cipher` possibly consumed (the `NonAdmin` refusal decrypts first) -/
theorem refused_eqv (fuel nx : Nat) (c : Cl) (e : Ev) (hp : PendOK c.g) (hnb : isBetter c (epochOf e.path) e = false)
    (h : refusal (deliverN fuel nx c e).2 = true) : Eqv [] [e.n] [e.cipher] c (deliverN fuel nx c e).1 := by
  refine deliverN_induct (P := fun c r => PendOK c.g → isBetter c (epochOf e.path) e = false → FrameE e c r) nx e
    (fun c _ _ _ _ _ _ => Eqv.refl _ _ _ c) ?_ fuel c hp hnb h
  intro c r _ hs hp hnb
  have hw : Eqv [] [e.n] [e.cipher] c (withSecret c) := eqv_withSecret c hp
  cases hs with
  | unrouted | evicted => exact frameE_recordFailure e c c (Eqv.refl _ _ _ c) _ _ _
  | «sealed» => exact frameE_recordFailure e c _ hw _ _ _
  | refused => exact frameE_recordFailure e c _ hw _ _ _
  | own =>
    have ho := ownMessage_spec (withSecret c) e
    generalize ownMessage (withSecret c) e = r at ho
    cases ho with
    | same => exact fun _ => hw
    | confirmed | echo => exact fun hr => nomatch hr
  | echoed | mergedOwn | autoCommitted | queued | stored => exact fun hr => nomatch hr
  | retried _ _ _ hb => rw [hnb] at hb; cases hb
  | committed =>
    -- `process_commit` refuses only at the authorisation check, after the commit was decrypted
    unfold processCommit
    exact ite_elim (fun _ => frameE_recordFailure e c _ (eqv_right_consume hw e.cipher (List.mem_singleton.mpr rfl)) _ _ _)
      (fun _ => ite_elim (fun _ hr => nomatch hr) (fun _ hr => nomatch hr))

/-! ## histories -/

/-- a history: the final client and the results of ALL calls (`rstep` = `C08.cstep` with the result kept) -/
def hist (c : Cl) : List COp → Cl × List Res
  | [] => (c, [])
  | o :: os => ((hist (rstep c o).1 os).1, (rstep c o).2 :: (hist (rstep c o).1 os).2)

theorem hist_fst (c : Cl) (ops : List COp) : (hist c ops).1 = ops.foldl MdkVerif.Props.C08.cstep c := by
  induction ops generalizing c with
  | nil => rfl
  | cons o os ih => simp only [hist, List.foldl, ih, rstep_fst]

theorem hist_append (c : Cl) (a b : List COp) :
    hist c (a ++ b) = ((hist (hist c a).1 b).1, (hist c a).2 ++ (hist (hist c a).1 b).2) := by
  induction a generalizing c with
  | nil => rfl
  | cons o os ih => simp only [List.cons_append, hist, ih]

theorem hist_length (c : Cl) (ops : List COp) : (hist c ops).2.length = ops.length := by
  induction ops generalizing c with
  | nil => rfl
  | cons o os ih => simp only [hist, List.length_cons, ih]

theorem iinv_hist (c : Cl) (ops : List COp) (h : IInv c) : IInv (hist c ops).1 := by
  induction ops generalizing c with
  | nil => exact h
  | cons o os ih => exact ih _ (iinv_rstep c o h)

/-- every state reachable from a created / joined group by API calls satisfies the invariants -/
theorem iinv_reachable (id : Nat) (p : Bool) (r : Nat) (ms as : List Nat) (name : Nat) (ops : List COp) :
    IInv (hist (initCl id p r ms as name) ops).1 := iinv_hist _ ops (iinv_init id p r ms as name)

/-- what a both-sided step needs: a delivery's event number has the same record in both runs and its ciphertext is not
    in `X` (`W` is not looked at; with `S` empty, a number outside `W` has the same record: `stepOk_of_avoids`) -/
def StepOk (W X : List Nat) (c c' : Cl) : COp → Prop
  | .deliver e _ => getRec c' e.n = getRec c e.n ∧ e.cipher ∉ X
  | _ => True

/-- **every API call is a simulation** -/
theorem sim_rstep {S W X : List Nat} {c c' : Cl} (h : Eqv S W X c c') (o : COp) (hs : StepOk W X c c' o) :
    ERes S W X (rstep c o) (rstep c' o) := by
  cases o with
  | deliver e nx => exact sim_deliverN 3 nx h e hs.1 hs.2
  | send n ts idn mid mts tok => exact sim_send h n ts idn mid mts tok
  | stage n ts idn b na => exact sim_stageCommit h n ts idn b na
  | data n ts idn u => exact sim_updateData h n ts idn u
  | remove n ts idn who => exact sim_removeMembers h n ts idn who
  | add n ts idn who => exact sim_addMembers h n ts idn who
  | join mp g e => exact eres_mk (sim_join h _)
  | leave n ts idn => exact sim_leave h n ts idn
  | merge => exact sim_merge h
  | clear => exact sim_clear h
  | restart => exact sim_restart h

/-- the call is not a delivery of an event number in `W` or of a ciphertext in `X` -/
def avoids (W X : List Nat) : COp → Bool
  | .deliver e _ => !(W.contains e.n) && !(X.contains e.cipher)
  | _ => true

theorem stepOk_of_avoids {W X : List Nat} {c c' : Cl} (h : Eqv [] W X c c') (o : COp) (ha : avoids W X o = true) : StepOk W X c c' o := by
  cases o with
  | deliver e nx =>
    simp only [avoids, Bool.and_eq_true, Bool.not_eq_true', List.contains_eq_mem, decide_eq_false_iff_not] at ha
    refine ⟨?_, ha.2⟩
    rcases h.recs e.n with h1 | ⟨h1, _⟩ | h1
    · exact h1
    · cases h1
    · exact absurd h1 ha.1
  | _ => trivial

/-- **the simulation for histories, free records (C06)**: related clients run the same calls, none of which delivers an
    event number of `W` or a ciphertext of `X`: every call answers the same, the clients stay related -/
theorem hist_sim {W X : List Nat} (ops : List COp) {c c' : Cl} (h : Eqv [] W X c c') (ha : ops.all (avoids W X) = true) :
    Eqv [] W X (hist c ops).1 (hist c' ops).1 ∧ (hist c' ops).2 = (hist c ops).2 := by
  induction ops generalizing c c' with
  | nil => exact ⟨h, rfl⟩
  | cons o os ih =>
    simp only [List.all_cons, Bool.and_eq_true] at ha
    obtain ⟨h1, h2⟩ := sim_rstep h o (stepOk_of_avoids h o ha.1)
    obtain ⟨i1, i2⟩ := ih h1 ha.2
    exact ⟨i1, by simp only [hist, h2, i2]⟩

/-! ### inserted re-deliveries (C07) -/

/-- a history with inserted deliveries marked -/
inductive IOp where
  | orig (o : COp)
  | ins (e : Ev) (nx : Nat)

/-- the call delivers an event number of `S` -/
def touches (S : List Nat) : COp → Bool
  | .deliver e _ => S.contains e.n
  | _ => false

/-- the ORIGINAL history (inserted deliveries left out): final client, and the results of the original calls — but for
    deliveries of an event number that was inserted BEFORE them (their answer may legitimately differ: the inserted call
    may have left a Failed record) -/
def runA (S : List Nat) (c : Cl) : List IOp → Cl × List Res
  | [] => (c, [])
  | .ins e _ :: os => runA (e.n :: S) c os
  | .orig o :: os =>
    ((runA S (rstep c o).1 os).1, if touches S o then (runA S (rstep c o).1 os).2 else (rstep c o).2 :: (runA S (rstep c o).1 os).2)

/-- the history WITH the inserted deliveries: final client, results of the same original calls -/
def runB (S : List Nat) (c : Cl) : List IOp → Cl × List Res
  | [] => (c, [])
  | .ins e nx :: os => runB (e.n :: S) (deliver c e nx).1 os
  | .orig o :: os =>
    ((runB S (rstep c o).1 os).1, if touches S o then (runB S (rstep c o).1 os).2 else (rstep c o).2 :: (runB S (rstep c o).1 os).2)

/-- hypothesis of the insertion theorem, on the ORIGINAL run alone: every inserted event is handled and known where it is
    inserted; every original delivery of an event number inserted before it is of a handled event -/
def okIns (S : List Nat) (c : Cl) : List IOp → Bool
  | [] => true
  | .ins e _ :: os => handled c e && known c e && okIns (e.n :: S) c os
  | .orig o :: os =>
    (match o with
     | .deliver e _ => !(S.contains e.n) || handled c e
     | _ => true) && okIns S (rstep c o).1 os

/-- the event numbers inserted -/
def insNums (S : List Nat) : List IOp → List Nat
  | [] => S
  | .ins e _ :: os => insNums (e.n :: S) os
  | .orig _ :: os => insNums S os

theorem handled_transfer {S : List Nat} {c c' : Cl} (h : Eqv S [] [] c c') (e : Ev) (hn : getRec c' e.n = getRec c e.n) :
    handled c' e = handled c e := by
  have hb := h.isBetter (epochOf e.path) e
  have hro := h.routes e
  have hcons : c'.g.consumed.contains e.cipher = c.g.consumed.contains e.cipher := h.cons e.cipher (by simp)
  have hid : c'.id = c.id := by obtain ⟨s, k, r, m, rfl, _⟩ := h; rfl
  have hp : c'.g.path = c.g.path := by obtain ⟨s, k, r, m, rfl, _⟩ := h; rfl
  unfold handled handledInner
  rw [hn, hro, hb, hcons, hid, hp]

theorem known_transfer {c c' : Cl} (e : Ev) (hn : getRec c' e.n = getRec c e.n) : known c' e = known c e := by
  unfold known; rw [hn]

/-- `Touch` plus `known`: the record of `n` is equal or stuck afterwards — the relation with `n` in `S` -/
theorem touch_eqvS {c c1 : Cl} (e : Ev) (h : Touch e.n c c1) (hk : known c e = true) (hb : ∀ r, getRec c e.n = some r → (r.state = 3 ∨ r.state = 4) → c1 = c) :
    Eqv [e.n] [] [] c c1 := by
  unfold known at hk
  cases hr : getRec c e.n with
  | none => simp [hr] at hk
  | some r0 =>
    simp only [hr, Bool.or_eq_true, beq_iff_eq] at hk
    by_cases hbl : r0.state = 3 ∨ r0.state = 4
    · rw [hb r0 hr hbl]; exact Eqv.refl _ _ _ c
    · have he : r0.epoch.isSome = true := by
        rcases hk with (h1 | h1) | h1
        · exact h1
        · exact absurd (Or.inl h1) hbl
        · exact absurd (Or.inr h1) hbl
      obtain ⟨⟨s, k, r, m, rfl, hs, hkk, hrr, hm⟩, h2⟩ := h
      refine ⟨s, k, r, m, rfl, hs, hkk, ?_, hm⟩
      intro x
      rcases hrr x with h1 | ⟨h1, _⟩ | h1
      · exact Or.inl h1
      · cases h1
      · have hx : x = e.n := by simpa using h1
        subst hx
        rcases h2 r0 hr he with h3 | h3
        · exact Or.inl h3
        · exact Or.inr (Or.inl ⟨by simp, h3⟩)

/-- **one-sided step, right run**: an inserted re-delivery of an event that is handled and known in the ORIGINAL run -/
theorem ins_right {S : List Nat} {c c' : Cl} (h : Eqv S [] [] c c') (hi' : IInv c') (e : Ev) (nx : Nat)
    (hh : handled c e = true) (hk : known c e = true) : Eqv (e.n :: S) [] [] c (deliver c' e nx).1 := by
  have hmono : Eqv (e.n :: S) [] [] c c' := h.mono (fun _ hx => List.mem_cons_of_mem _ hx) (fun _ hx => hx) (fun _ hx => hx)
  by_cases hn : getRec c' e.n = getRec c e.n
  · have hh' : handled c' e = true := by rw [handled_transfer h e hn]; exact hh
    have hk' : known c' e = true := by rw [known_transfer e hn]; exact hk
    have ht := touch_deliverN_handled 3 nx c' e hi' hh'
    have h1 := touch_eqvS e ht hk' (fun r hr hs => by rw [deliverN_blocked 3 nx c' e r hr hs])
    exact hmono.trans (h1.mono (fun _ hx => by rw [List.mem_singleton.mp hx]; exact List.mem_cons_self ..) (fun _ hx => hx) (fun _ hx => hx))
  · rcases h.recs e.n with h1 | ⟨_, h1⟩ | h1
    · exact absurd h1 hn
    · have : (deliver c' e nx).1 = c' := blocked_deliverN 3 nx c' e h1
      rw [this]; exact hmono
    · cases h1

/-- **one-sided step, left run**: the right run is blocked by a stuck record, the left run re-delivers a handled event -/
theorem ins_left {S : List Nat} {c c' : Cl} (h : Eqv S [] [] c c') (hi : IInv c) (e : Ev) (nx : Nat)
    (hn : getRec c' e.n ≠ getRec c e.n) (hh : handled c e = true) :
    Eqv S [] [] (deliver c e nx).1 (deliver c' e nx).1 ∧ e.n ∈ S := by
  rcases h.recs e.n with h1 | ⟨hS, h1⟩ | h1
  · exact absurd h1 hn
  · have : (deliver c' e nx).1 = c' := blocked_deliverN 3 nx c' e h1
    rw [this]
    exact ⟨h.left_step (touch_deliverN_handled 3 nx c e hi hh).1 (Or.inl ⟨hS, h1⟩), hS⟩
  · cases h1

/-- **the insertion theorem (engine)**: related clients (same records but for stuck ones of `S`); the left one runs the original
    history, the right one the history with the inserted re-deliveries; under `okIns` (a condition on the LEFT run alone)
    they end related — same `proj` — and every original call but the later deliveries of inserted event numbers answered
    the same -/
theorem ins_sim (ops : List IOp) {S : List Nat} {c c' : Cl} (h : Eqv S [] [] c c') (hi : IInv c) (hi' : IInv c')
    (hok : okIns S c ops = true) :
    Eqv (insNums S ops) [] [] (runA S c ops).1 (runB S c' ops).1 ∧ (runB S c' ops).2 = (runA S c ops).2 := by
  induction ops generalizing S c c' with
  | nil => exact ⟨h, rfl⟩
  | cons o os ih =>
    cases o with
    | ins e nx =>
      simp only [okIns, Bool.and_eq_true] at hok
      simp only [runA, runB, insNums]
      exact ih (ins_right h hi' e nx hok.1.1 hok.1.2) hi (iinv_rstep c' (.deliver e nx) hi') hok.2
    | orig o =>
      simp only [okIns, Bool.and_eq_true] at hok
      simp only [runA, runB, insNums]
      have hiA := iinv_rstep c o hi
      have hiB := iinv_rstep c' o hi'
      by_cases hs : StepOk [] [] c c' o
      · obtain ⟨h1, h2⟩ := sim_rstep h o hs
        obtain ⟨i1, i2⟩ := ih h1 hiA hiB hok.2
        exact ⟨i1, by rw [h2, i2]⟩
      · cases o with
        | deliver e nx =>
          have hn : getRec c' e.n ≠ getRec c e.n := fun hx => hs ⟨hx, by simp⟩
          have hS : e.n ∈ S := by
            rcases h.recs e.n with h1 | ⟨h1, _⟩ | h1
            · exact absurd h1 hn
            · exact h1
            · cases h1
          have hc : S.contains e.n = true := by simpa using hS
          have hh : handled c e = true := by
            have := hok.1
            simp only [hc, Bool.not_true, Bool.false_or] at this
            exact this
          obtain ⟨h1, _⟩ := ins_left h hi e nx hn hh
          obtain ⟨i1, i2⟩ := ih h1 hiA hiB hok.2
          refine ⟨i1, ?_⟩
          simp only [touches, hc, if_true]
          exact i2
        | _ => exact absurd trivial hs

/-! ### the same in terms of plain histories: `k` re-deliveries inserted after `pre` -/

/-- along the run, every delivery of event number `n` is of a handled event (decidable, on the original run) -/
def laterHandled (n : Nat) (c : Cl) : List COp → Bool
  | [] => true
  | o :: os =>
    (match o with
     | .deliver e _ => e.n != n || handled c e
     | _ => true) && laterHandled n (rstep c o).1 os

/-- the results of the calls of a history other than the deliveries of event number `n` -/
def resExcept (n : Nat) (c : Cl) : List COp → List Res
  | [] => []
  | o :: os => if touches [n] o then resExcept n (rstep c o).1 os else (rstep c o).2 :: resExcept n (rstep c o).1 os

theorem okIns_orig (S : List Nat) (n : Nat) (hS : ∀ x ∈ S, x = n) (c : Cl) (ops : List COp) (h : laterHandled n c ops = true) :
    okIns S c (ops.map .orig) = true := by
  induction ops generalizing c with
  | nil => rfl
  | cons o os ih =>
    simp only [laterHandled, Bool.and_eq_true] at h
    simp only [List.map_cons, okIns, Bool.and_eq_true]
    refine ⟨?_, ih _ h.2⟩
    cases o with
    | deliver e nx =>
      have h1 := h.1
      simp only [Bool.or_eq_true, bne_iff_ne, ne_eq] at h1
      simp only [Bool.or_eq_true, Bool.not_eq_true', List.contains_eq_mem, decide_eq_false_iff_not]
      rcases h1 with h1 | h1
      · left; intro hm; exact h1 (hS _ hm)
      · right; exact h1
    | _ => rfl

theorem replicate_append_cons (k a : Nat) (S : List Nat) : List.replicate k a ++ a :: S = a :: (List.replicate k a ++ S) := by
  induction k with
  | zero => rfl
  | succ k ih => simp only [List.replicate_succ, List.cons_append, ih]

theorem okIns_replicate (S : List Nat) (c : Cl) (e : Ev) (nx k : Nat) (rest : List IOp) (hh : handled c e = true) (hk : known c e = true)
    (hr : okIns (List.replicate k e.n ++ S) c rest = true) : okIns S c (List.replicate k (.ins e nx) ++ rest) = true := by
  induction k generalizing S with
  | zero => simpa using hr
  | succ k ih =>
    simp only [List.replicate_succ, List.cons_append, okIns, hh, hk, Bool.and_self, Bool.true_and]
    apply ih
    rw [replicate_append_cons]; exact hr

theorem runA_orig (S : List Nat) (n : Nat) (hS : ∀ x, x ∈ S ↔ x = n) (c : Cl) (ops : List COp) :
    runA S c (ops.map .orig) = ((hist c ops).1, resExcept n c ops) := by
  induction ops generalizing c with
  | nil => rfl
  | cons o os ih =>
    have ht : touches S o = touches [n] o := by
      cases o with
      | deliver e nx =>
        simp only [touches]
        by_cases hx : e.n = n
        · have : e.n ∈ S := (hS _).2 hx
          simp [hx, (hS n).2 rfl]
        · have : ¬ e.n ∈ S := fun hm => hx ((hS _).1 hm)
          simp [hx, this]
      | _ => rfl
    simp only [List.map_cons, runA, ih, hist, resExcept, ht]

theorem runB_orig (S : List Nat) (c : Cl) (ops : List IOp) (h : ∀ o ∈ ops, ∃ o', o = .orig o') : runB S c ops = runA S c ops := by
  induction ops generalizing c with
  | nil => rfl
  | cons o os ih =>
    obtain ⟨o', rfl⟩ := h o (List.mem_cons_self ..)
    simp only [runA, runB, ih _ (fun x hx => h x (List.mem_cons_of_mem _ hx))]

theorem runA_replicate (S : List Nat) (c : Cl) (e : Ev) (nx k : Nat) (rest : List IOp) :
    runA S c (List.replicate k (.ins e nx) ++ rest) = runA (List.replicate k e.n ++ S) c rest := by
  induction k generalizing S with
  | zero => rfl
  | succ k ih =>
    simp only [List.replicate_succ, List.cons_append, runA]
    rw [ih]
    rw [replicate_append_cons]

theorem runB_replicate (S : List Nat) (c : Cl) (e : Ev) (nx k : Nat) (rest : List IOp) :
    runB S c (List.replicate k (.ins e nx) ++ rest) =
      runB (List.replicate k e.n ++ S) (hist c (List.replicate k (.deliver e nx))).1 rest := by
  induction k generalizing S c with
  | zero => rfl
  | succ k ih =>
    simp only [List.replicate_succ, List.cons_append, runB, hist]
    rw [ih]
    rw [replicate_append_cons]; rfl

/-- **insertion at one place, any number of times** (engine form of C07's history theorem): after any prefix, `k ≥ 1` deliveries
    of an event that is handled and known there; every later delivery of that event number in the original suffix is of a
    handled event.  Then the suffix ends with the same `proj` in both runs and every call of it other than the deliveries of that
    event number answers the same. -/
theorem insert_handled (c : Cl) (hi : IInv c) (suf : List COp) (e : Ev) (nx k : Nat)
    (hh : handled c e = true) (hk : known c e = true) (hl : laterHandled e.n c suf = true) :
    proj (hist (hist c (List.replicate (k + 1) (.deliver e nx))).1 suf).1 = proj (hist c suf).1 ∧
    resExcept e.n (hist c (List.replicate (k + 1) (.deliver e nx))).1 suf = resExcept e.n c suf := by
  have hS : ∀ x, x ∈ List.replicate (k + 1) e.n ++ [] ↔ x = e.n := by
    intro x; simp [List.mem_replicate]
  have hok : okIns [] c (List.replicate (k + 1) (.ins e nx) ++ suf.map .orig) = true :=
    okIns_replicate [] c e nx (k + 1) _ hh hk (okIns_orig _ e.n (fun x hx => (hS x).1 hx) c suf hl)
  obtain ⟨h1, h2⟩ := ins_sim _ (Eqv.refl [] [] [] c) hi hi hok
  rw [runA_replicate, runB_replicate, runA_orig _ e.n hS, runB_orig _ _ _ (by intro o ho; simp only [List.mem_map] at ho; obtain ⟨o', _, rfl⟩ := ho; exact ⟨o', rfl⟩),
    runA_orig _ e.n hS] at h1 h2
  exact ⟨h1.proj, h2⟩

/-- no call of the history delivers event number `n` -/
def noLater (n : Nat) (ops : List COp) : Bool := ops.all (fun o => !touches [n] o)

theorem resExcept_noLater (n : Nat) (c : Cl) (ops : List COp) (h : noLater n ops = true) : resExcept n c ops = (hist c ops).2 := by
  induction ops generalizing c with
  | nil => rfl
  | cons o os ih =>
    simp only [noLater, List.all_cons, Bool.and_eq_true, Bool.not_eq_true'] at h
    simp only [resExcept, h.1, Bool.false_eq_true, if_false, hist]
    rw [ih _ (by simpa [noLater] using h.2)]

theorem laterHandled_noLater (n : Nat) (c : Cl) (ops : List COp) (h : noLater n ops = true) : laterHandled n c ops = true := by
  induction ops generalizing c with
  | nil => rfl
  | cons o os ih =>
    simp only [noLater, List.all_cons, Bool.and_eq_true, Bool.not_eq_true'] at h
    simp only [laterHandled, Bool.and_eq_true]
    refine ⟨?_, ih _ (by simpa [noLater] using h.2)⟩
    cases o with
    | deliver e nx =>
      have h1 := h.1
      simp only [touches, List.contains_cons, List.contains_nil, Bool.or_false, beq_eq_false_iff_ne, ne_eq] at h1
      simp [h1]
    | _ => rfl

/-! ### refused deliveries inserted at one place (C06) -/

/-- the deliveries, one after the other, are all refused and none of them is judged better than an applied commit -/
def refusedSeq (c : Cl) : List (Ev × Nat) → Bool
  | [] => true
  | p :: r => !isBetter c (epochOf p.1.path) p.1 && refusal (deliver c p.1 p.2).2 && refusedSeq (deliver c p.1 p.2).1 r

def asOps (ins : List (Ev × Nat)) : List COp := ins.map (fun p => .deliver p.1 p.2)

theorem refused_seq_eqv {W X : List Nat} {c c' : Cl} (h : Eqv [] W X c c') (hi' : IInv c') (ins : List (Ev × Nat))
    (hr : refusedSeq c' ins = true) :
    Eqv [] (W ++ ins.map (·.1.n)) (X ++ ins.map (·.1.cipher)) c (hist c' (asOps ins)).1 := by
  induction ins generalizing W X c' with
  | nil => simpa [asOps, hist] using h
  | cons p r ih =>
    simp only [refusedSeq, Bool.and_eq_true, Bool.not_eq_true'] at hr
    have h1 := refused_eqv 3 p.2 c' p.1 hi'.2.1 hr.1.1 hr.1.2
    have h2 : Eqv [] (W ++ [p.1.n]) (X ++ [p.1.cipher]) c (deliver c' p.1 p.2).1 :=
      (h.mono (fun _ hx => hx) (fun _ hx => List.mem_append_left _ hx) (fun _ hx => List.mem_append_left _ hx)).trans
        (h1.mono (fun _ hx => hx) (fun _ hx => List.mem_append_right _ hx) (fun _ hx => List.mem_append_right _ hx))
    have := ih h2 (iinv_rstep c' (.deliver p.1 p.2) hi') hr.2
    have hstep : (rstep c' (.deliver p.1 p.2)).1 = (deliver c' p.1 p.2).1 := rfl
    simpa [asOps, hist, List.append_assoc, hstep] using this

/-- **insertion of refused deliveries** (engine form of C06's history theorem) -/
theorem insert_refused (c : Cl) (hi : IInv c) (ins : List (Ev × Nat)) (suf : List COp) (hr : refusedSeq c ins = true)
    (ha : suf.all (avoids (ins.map (·.1.n)) (ins.map (·.1.cipher))) = true) :
    proj (hist c (asOps ins)).1 = proj c ∧
    proj (hist (hist c (asOps ins)).1 suf).1 = proj (hist c suf).1 ∧ (hist (hist c (asOps ins)).1 suf).2 = (hist c suf).2 := by
  have h0 := refused_seq_eqv (Eqv.refl [] [] [] c) hi ins hr
  simp only [List.nil_append] at h0
  obtain ⟨h1, h2⟩ := hist_sim suf h0 ha
  exact ⟨h0.proj, h1.proj, h2⟩

end MdkVerif.Client.Ins
