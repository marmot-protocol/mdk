import MdkVerif.Model.Welcome
import MdkVerif.Proofs.Store
/-
  Proofs.Welcome — `process_welcome` branch by branch, and the client properties that the three invitation
  operations keep because every storage write they make keeps them (`Kept`).  What an accepted write changes is
  stated in Proofs/Store.lean.
-/
namespace MdkVerif.Welcome
open MdkVerif MdkVerif.Store

theorem findPw_savePw (s : Store) (p : PW) : findPw (savePw s p) p.wrapper = some p := by
  unfold findPw savePw; rw [upsertPw_eq]
  exact find?_upsertBy_self (same := fun h : PW => h.wrapper == p.wrapper) (beq_self_eq_true _) _

theorem find_upsertWelcome_self (x : Store.Welcome) (l : List Store.Welcome) :
    (upsertWelcome x l).find? (·.id == x.id) = some x := by
  rw [upsertWelcome_eq]
  exact find?_upsertBy_self (same := fun h : Store.Welcome => h.id == x.id) (beq_self_eq_true _) _

/-- the group `gid` is not Active in store `s` -/
def NotActive (s : Store) (gid : Nat) : Prop := ∀ g, findGroup s gid = some g → g.state ≠ 0

theorem isActive_false_iff (c : Client) (gid : Nat) : isActive c gid = false ↔ NotActive c.store gid := by
  unfold isActive NotActive
  cases h : findGroup c.store gid with
  | none => simp
  | some g => simp

/-! ### properties kept by the invitation operations

`process_welcome`, `accept_welcome` and `decline_welcome` change the client through five writes only.  A property of
the client that each write keeps — for the group records (`okG`) and the group ids (`okId`: relays, MLS state) it
is asked to write — is kept by the three operations. -/

structure Kept (I : Client → Prop) (okG : Group → Prop) (okId : Nat → Prop) : Prop where
  pw : ∀ {c : Client} (p : PW), I c → I { c with store := savePw c.store p }
  welcome : ∀ {c : Client} {s' : Store} {x : Store.Welcome}, I c → saveWelcome c.store x = some s' → I { c with store := s' }
  relays : ∀ {c : Client} {s' : Store} {gid : Nat} {rs : List Nat}, I c → okId gid →
    replaceRelays c.store gid rs = some s' → I { c with store := s' }
  group : ∀ {c : Client} {s' : Store} {g : Group}, I c → okG g → saveGroup c.store g = some s' → I { c with store := s' }
  mls : ∀ {c : Client} {gid : Nat} (st : MlsSt), I c → okId gid → I { c with mls := ainsert gid st c.mls }

variable {I : Client → Prop} {okG : Group → Prop} {okId : Nat → Prop}

theorem processFresh_kept (K : Kept I okG okId) (c : Client) (wr rid : Nat) (m : Invite)
    (hg : okG (pendingGroup m)) (hi : okId m.gid) (h : I c) : I (processFresh c wr m rid).1 := by
  unfold processFresh
  split
  · exact K.pw _ h
  split
  · exact h
  next s1 hs1 =>
  have h1 : I { c with store := s1 } := K.group h hg hs1
  split
  · exact h1
  next s2 hs2 =>
  have h2 : I { c with store := s2 } := K.relays (c := { c with store := s1 }) h1 hi hs2
  split
  · exact h2
  next s3 hs3 => exact K.pw _ (K.welcome (c := { c with store := s2 }) h2 hs3)

/-- the answer under a wrapper id that has a processed-welcome record `p` -/
def knownRes (s : Store) (p : PW) : Res :=
  if p.state = 1 then .err .previouslyFailed
  else match p.welcomeId with
    | some id => match findWelcome s id with
      | some w => .welcome w
      | none => .err .welcome
    | none => .err .welcome

theorem knownRes_okPw {s : Store} {wr rid : Nat} {w : Store.Welcome} (h : findWelcome s rid = some w) :
    knownRes s (okPw wr rid) = .welcome w := by
  simp [knownRes, okPw, h]

variable {c : Client} {wr rid : Nat} {m : Invite}

theorem process_invalid (h : m.shape = 1) : process c wr m = (c, .err .invalidWelcome) := if_pos h

theorem process_noId (h1 : m.shape ≠ 1) (hr : m.rid = none) : process c wr m = (c, .err .missingRumorId) := by
  unfold process; rw [if_neg h1, hr]

theorem process_known {p : PW} (h1 : m.shape ≠ 1) (hr : m.rid = some rid) (hp : findPw c.store wr = some p) :
    process c wr m = (c, knownRes c.store p) := by
  unfold process knownRes; rw [if_neg h1, hr]; simp only [hp]
  by_cases h2 : p.state = 1
  · rw [if_pos h2, if_pos h2]
  · rw [if_neg h2, if_neg h2]
    cases p.welcomeId with
    | none => rfl
    | some id => dsimp only; cases findWelcome c.store id <;> rfl

theorem process_replay {sw : Store.Welcome} (h1 : m.shape ≠ 1) (hr : m.rid = some rid) (hp : findPw c.store wr = none)
    (hw : findWelcome c.store rid = some sw) :
    process c wr m = ({ c with store := savePw c.store (okPw wr rid) }, .welcome sw) := by
  unfold process; rw [if_neg h1, hr]; simp only [hp, hw]

theorem process_fresh (h1 : m.shape ≠ 1) (hr : m.rid = some rid) (hp : findPw c.store wr = none)
    (hw : findWelcome c.store rid = none) : process c wr m = processFresh c wr m rid := by
  unfold process; rw [if_neg h1, hr]; simp only [hp, hw]

/-- how `process_welcome` ends: refused or answered from the records without a write, the replay of a stored rumor
    under a new wrapper id (one dedup record), or the fresh path -/
inductive Processed (c : Client) (wr : Nat) (m : Invite) : Client × Res → Prop
  | invalid : m.shape = 1 → Processed c wr m (c, .err .invalidWelcome)
  | noId : m.shape ≠ 1 → m.rid = none → Processed c wr m (c, .err .missingRumorId)
  | known {rid : Nat} {p : PW} : m.shape ≠ 1 → m.rid = some rid → findPw c.store wr = some p →
      Processed c wr m (c, knownRes c.store p)
  | replay {rid : Nat} {sw : Store.Welcome} : m.shape ≠ 1 → m.rid = some rid → findPw c.store wr = none →
      findWelcome c.store rid = some sw → Processed c wr m ({ c with store := savePw c.store (okPw wr rid) }, .welcome sw)
  | fresh {rid : Nat} : m.shape ≠ 1 → m.rid = some rid → findPw c.store wr = none → findWelcome c.store rid = none →
      Processed c wr m (processFresh c wr m rid)

theorem process_cases (c : Client) (wr : Nat) (m : Invite) : Processed c wr m (process c wr m) := by
  by_cases h1 : m.shape = 1
  · rw [process_invalid h1]; exact .invalid h1
  cases hr : m.rid with
  | none => rw [process_noId h1 hr]; exact .noId h1 hr
  | some rid =>
    cases hp : findPw c.store wr with
    | some p => rw [process_known h1 hr hp]; exact .known h1 hr hp
    | none =>
      cases hw : findWelcome c.store rid with
      | some sw => rw [process_replay h1 hr hp hw]; exact .replay h1 hr hp hw
      | none => rw [process_fresh h1 hr hp hw]; exact .fresh h1 hr hp hw

theorem process_kept (K : Kept I okG okId) (c : Client) (wr : Nat) (m : Invite)
    (hg : okG (pendingGroup m)) (hi : okId m.gid) (h : I c) : I (process c wr m).1 := by
  have hc := process_cases c wr m
  generalize process c wr m = p at hc
  cases hc with
  | invalid | noId | known => exact h
  | replay => exact K.pw _ h
  | fresh => exact processFresh_kept K c wr _ m hg hi h

theorem accept_kept (K : Kept I okG okId) (c : Client) (m : Invite)
    (hg : ∀ g : Group, g.gid = m.gid → okG { g with state := 0, selfUpd := 0 }) (hi : okId m.gid) (h : I c) :
    I (accept c m).1 := by
  unfold accept
  split
  · exact h
  split
  · exact h
  split
  · exact K.pw _ h
  have h0 := K.mls ⟨m.tok, m.epoch, m.members⟩ h hi
  simp only
  split
  · exact h0
  next s1 hs1 =>
  have h1 : I { store := s1, mls := _ } := K.welcome h0 hs1
  split
  · exact h1
  next g hgf =>
  split
  · exact h1
  next s2 hs2 =>
  have h2 : I { store := s2, mls := _ } := K.group (c := { store := s1, mls := _ }) h1 (hg g (findGroup_gid hgf)) hs2
  split
  · exact h2
  next s3 hs3 => exact K.relays (c := { store := s2, mls := _ }) h2 hi hs3

theorem decline_kept (K : Kept I okG okId) (c : Client) (m : Invite)
    (hg : ∀ g : Group, g.gid = m.gid → okG { g with state := 1 }) (h : I c) : I (decline c m).1 := by
  unfold decline
  split
  · exact h
  split
  · exact h
  split
  · exact K.pw _ h
  split
  · exact h
  next s1 hs1 =>
  have h1 : I { c with store := s1 } := K.welcome h hs1
  split
  · exact h1
  next g hgf =>
  split
  · exact h1
  next s2 hs2 => exact K.group (c := { c with store := s1 }) h1 (hg g (findGroup_gid hgf)) hs2

theorem notActive_kept (gid : Nat) : Kept (fun c => NotActive c.store gid) (fun g => g.state ≠ 0) (fun _ => True) where
  pw _ h := h
  welcome h hs := by obtain rfl := saveWelcome_some hs; exact h
  relays h _ hs := by obtain rfl := replaceRelays_some hs; exact h
  group {c _ g} h hg hs := by
    obtain rfl := saveGroup_some hs
    intro g' hg'
    by_cases e : gid = g.gid
    · rw [e] at hg'; cases (find_replaceGroup_self g _).symm.trans hg'; exact hg
    · exact h g' ((find_replaceGroup_ne g _ gid e).symm.trans hg')
  mls _ h _ := h

theorem proj_kept (gid : Nat) (P : Proj) : Kept (fun c => proj c gid = P) (fun g => g.gid ≠ gid) (fun i => i ≠ gid) where
  pw _ h := h
  welcome h hs := by obtain rfl := saveWelcome_some hs; exact h
  relays h hi hs := by
    obtain rfl := replaceRelays_some hs
    rw [← h]; unfold proj
    exact congrArg (Proj.mk _ _) (alookup_ainsert_ne _ _ _ _ (Ne.symm hi))
  group h hg hs := by
    obtain rfl := saveGroup_some hs
    rw [← h]; unfold proj
    exact congrArg (Proj.mk · _ _) (find_replaceGroup_ne _ _ _ (Ne.symm hg))
  mls st h hi := by
    rw [← h]; unfold proj
    exact congrArg (Proj.mk _ · _) (alookup_ainsert_ne _ _ _ _ (Ne.symm hi))

end MdkVerif.Welcome
