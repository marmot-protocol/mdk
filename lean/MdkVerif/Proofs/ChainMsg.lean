import MdkVerif.Model.Client
import MdkVerif.Proofs.Client
import MdkVerif.Proofs.Store
import MdkVerif.Proofs.Fork
import MdkVerif.Proofs.ForkInv
import MdkVerif.Proofs.Chain
import MdkVerif.Props.C01Fork
/-
  MdkVerif.Proofs.ChainMsg — lemmas for the history-level theorems about application messages
  (`Props/C02Chain.lean`), on top of the chain theorems of C01 (`Proofs/Chain.lean`).

  The frames and invariants of `process_message` proved here (`mtrans_deliverN`, `recMid_deliverN`, `li_deliverN`) go by
  `deliverN_induct` over the outcome relations of Proofs/Client.lean.
-/
namespace MdkVerif.ChainMsg
open MdkVerif MdkVerif.Client MdkVerif.Fork MdkVerif.Chain MdkVerif.Props.C01Fork
open MdkVerif.Store (alookup_ainsert_self alookup_ainsert_ne)

/-! ## §A  the message table -/

/-- the stored row of a message id (`get_message` by id) -/
def findRow (m : Nat) (l : List MsgRow) : Option MsgRow := l.find? (·.mid == m)

/-- what a rollback to epoch `k` does to a row (`invalidate_messages_after_epoch`) -/
def rbRow (k : Nat) (r : MsgRow) : MsgRow := if r.epoch > k then { r with state := 3 } else r

/-- message ids are unique in the table (the same predicate as `Props.C02.RowsUnique`) -/
def Uniq (l : List MsgRow) : Prop := l.Pairwise (fun a b => a.mid ≠ b.mid)

/-- the message id an application-message event carries -/
def appMid (e : Ev) : Option Nat :=
  match e.kind with
  | .app mid _ _ => some mid
  | _ => none

/-- the row `process_application_message` files for the event `e` at a receiver whose epoch is `ep` -/
def rowOf (ep : Nat) (e : Ev) : Option MsgRow :=
  match e.kind with
  | .app mid ts tok => some { mid := mid, author := e.sender, state := 1, epoch := ep, wrapper := e.n, msgTs := ts, tok := tok }
  | _ => none

theorem appMid_kind {e : Ev} {m : Nat} (h : appMid e = some m) : ∃ ts tok, e.kind = .app m ts tok := by
  unfold appMid at h
  split at h
  · rename_i mid ts tok hk
    cases h; exact ⟨ts, tok, hk⟩
  · cases h

theorem appMid_of_kind {e : Ev} {m ts tok : Nat} (h : e.kind = .app m ts tok) : appMid e = some m := by
  simp [appMid, h]

@[simp] theorem rbRow_mid (k : Nat) (r : MsgRow) : (rbRow k r).mid = r.mid := by
  unfold rbRow; split <;> rfl

theorem rbRow_le {k : Nat} {r : MsgRow} (h : r.epoch ≤ k) : rbRow k r = r := by
  unfold rbRow; rw [if_neg (by omega)]

theorem rbRow_gt {k : Nat} {r : MsgRow} (h : r.epoch > k) : (rbRow k r).state = 3 := by
  unfold rbRow; rw [if_pos h]

theorem findRow_map_rbRow (k m : Nat) (l : List MsgRow) : findRow m (l.map (rbRow k)) = (findRow m l).map (rbRow k) := by
  induction l with
  | nil => rfl
  | cons a t ih =>
    simp only [findRow, List.map_cons, List.find?_cons, rbRow_mid] at ih ⊢
    split
    · rfl
    · exact ih

theorem upsertRow_eq (r : MsgRow) (l : List MsgRow) : upsertRow r l = Store.upsertBy (·.mid == r.mid) r l := by
  induction l with
  | nil => rfl
  | cons h t ih => rw [upsertRow, Store.upsertBy, ih]

theorem findRow_upsert_self (r : MsgRow) (l : List MsgRow) : findRow r.mid (upsertRow r l) = some r := by
  rw [upsertRow_eq]; exact Store.find?_upsertBy_self (same := (·.mid == r.mid)) (beq_self_eq_true _) l

theorem findRow_upsert_ne (r : MsgRow) (m : Nat) (l : List MsgRow) (h : m ≠ r.mid) : findRow m (upsertRow r l) = findRow m l := by
  rw [upsertRow_eq]
  refine Store.find?_upsertBy_ne (p := (·.mid == m)) (beq_false_of_ne (Ne.symm h)) (fun a c => ?_) l
  rw [eq_of_beq c]; exact beq_false_of_ne (Ne.symm h)

theorem findRow_mid {m : Nat} {l : List MsgRow} {r : MsgRow} (h : findRow m l = some r) : r.mid = m ∧ r ∈ l := by
  have h1 := List.find?_some h
  exact ⟨by simpa using h1, List.mem_of_find?_eq_some h⟩

theorem mem_upsertRow (r x : MsgRow) (l : List MsgRow) (h : x ∈ upsertRow r l) : x = r ∨ x ∈ l := by
  induction l with
  | nil => simp [upsertRow] at h; exact Or.inl h
  | cons a t ih =>
    by_cases c : (a.mid == r.mid) = true
    · simp only [upsertRow, c, if_true, List.mem_cons] at h
      rcases h with h | h
      · exact Or.inl h
      · exact Or.inr (List.mem_cons_of_mem _ h)
    · have c' : (a.mid == r.mid) = false := by simpa using c
      simp only [upsertRow, c', Bool.false_eq_true, if_false, List.mem_cons] at h
      rcases h with h | h
      · exact Or.inr (by simp [h])
      · rcases ih h with h | h
        · exact Or.inl h
        · exact Or.inr (List.mem_cons_of_mem _ h)

theorem uniq_upsertRow (r : MsgRow) (l : List MsgRow) (h : Uniq l) : Uniq (upsertRow r l) := by
  induction l with
  | nil => simp [upsertRow, Uniq]
  | cons a t ih =>
    have ht := List.pairwise_cons.mp h
    by_cases c : (a.mid == r.mid) = true
    · have ce : a.mid = r.mid := by simpa using c
      simp only [upsertRow, c, if_true]
      exact List.pairwise_cons.mpr ⟨fun x hx => by rw [← ce]; exact ht.1 x hx, ht.2⟩
    · have c' : (a.mid == r.mid) = false := by simpa using c
      simp only [upsertRow, c', Bool.false_eq_true, if_false]
      refine List.pairwise_cons.mpr ⟨?_, ih ht.2⟩
      intro x hx
      rcases mem_upsertRow r x t hx with rfl | hx
      · simpa using c'
      · exact ht.1 x hx

theorem uniq_map_rbRow (k : Nat) (l : List MsgRow) (h : Uniq l) : Uniq (l.map (rbRow k)) := by
  unfold Uniq at h ⊢
  rw [List.pairwise_map]
  exact h.imp (by intro a b hab; simpa using hab)

/-- with unique ids, the row found is the ONLY row of that id: "stored exactly once" -/
theorem uniq_filter {m : Nat} {l : List MsgRow} {r : MsgRow} (hu : Uniq l) (h : findRow m l = some r) :
    l.filter (·.mid == m) = [r] := by
  induction l with
  | nil => cases h
  | cons a t ih =>
    have ht := List.pairwise_cons.mp hu
    simp only [findRow, List.find?_cons] at h
    by_cases c : (a.mid == m) = true
    · simp only [c, Option.some.injEq] at h
      subst h
      have hm : a.mid = m := by simpa using c
      have : t.filter (·.mid == m) = [] := by
        apply List.filter_eq_nil_iff.mpr
        intro x hx
        have := ht.1 x hx
        rw [hm] at this
        simpa using Ne.symm this
      simp [c, this]
    · have c' : (a.mid == m) = false := by simpa using c
      simp only [c'] at h
      simp only [List.filter_cons, c', Bool.false_eq_true, if_false]
      exact ih ht.2 h

theorem filter_nil_of_findRow_none {m : Nat} {l : List MsgRow} (h : findRow m l = none) : l.filter (·.mid == m) = [] := by
  apply List.filter_eq_nil_iff.mpr
  intro x hx
  exact List.find?_eq_none.mp h x hx

/-! ## §B  frame of `process_message` on the message table -/

/-- how the message table may change: by re-markings of a rollback to `ep` and by upserts of rows satisfying `ok` -/
inductive MTrans (ep : Nat) (ok : MsgRow → Prop) : List MsgRow → List MsgRow → Prop where
  | refl (l : List MsgRow) : MTrans ep ok l l
  | remark (l : List MsgRow) : MTrans ep ok l (l.map (rbRow ep))
  | upsert (l : List MsgRow) (r : MsgRow) (h : ok r) : MTrans ep ok l (upsertRow r l)
  | trans {a b c : List MsgRow} : MTrans ep ok a b → MTrans ep ok b c → MTrans ep ok a c

theorem MTrans.mono {ep : Nat} {ok ok' : MsgRow → Prop} {a b : List MsgRow} (h : MTrans ep ok a b) (hk : ∀ r, ok r → ok' r) :
    MTrans ep ok' a b := by
  induction h with
  | refl l => exact .refl l
  | remark l => exact .remark l
  | upsert l r h => exact .upsert l r (hk r h)
  | trans _ _ ih1 ih2 => exact .trans ih1 ih2

theorem MTrans.uniq {ep : Nat} {ok : MsgRow → Prop} {a b : List MsgRow} (h : MTrans ep ok a b) (hu : Uniq a) : Uniq b := by
  induction h with
  | refl l => exact hu
  | remark l => exact uniq_map_rbRow ep l hu
  | upsert l r _ => exact uniq_upsertRow r l hu
  | trans _ _ ih1 ih2 => exact ih2 (ih1 hu)

/-- the row of a message id that no upsert touches changes at most by the re-marking -/
theorem MTrans.frame {ep : Nat} {ok : MsgRow → Prop} {a b : List MsgRow} (h : MTrans ep ok a b) (m : Nat)
    (hm : ∀ r, ok r → r.mid ≠ m) (P : Option MsgRow → Prop) (hP : ∀ o, P o → P (o.map (rbRow ep))) :
    P (findRow m a) → P (findRow m b) := by
  induction h with
  | refl l => exact id
  | remark l => intro hp; rw [findRow_map_rbRow]; exact hP _ hp
  | upsert l r hr => intro hp; rw [findRow_upsert_ne r m l (Ne.symm (hm r hr))]; exact hp
  | trans _ _ ih1 ih2 => exact fun hp => ih2 (ih1 hp)

/-- without upserts no row appears, and a row changes at most its state: to invalidated, and only if its epoch tag is
    later than `ep` -/
theorem MTrans.rows_noupsert {ep : Nat} {a b : List MsgRow} (h : MTrans ep (fun _ => False) a b) :
    ∀ x ∈ b, ∃ y ∈ a, x = y ∨ (x = { y with state := 3 } ∧ y.epoch > ep) := by
  induction h with
  | refl l => exact fun x hx => ⟨x, hx, Or.inl rfl⟩
  | remark l =>
    intro x hx
    obtain ⟨y, hy, rfl⟩ := List.mem_map.mp hx
    refine ⟨y, hy, ?_⟩
    unfold rbRow
    split
    · rename_i hgt; exact Or.inr ⟨rfl, hgt⟩
    · exact Or.inl rfl
  | upsert l r hr => exact hr.elim
  | trans _ _ ih1 ih2 =>
    intro x hx
    obtain ⟨y, hy, hxy⟩ := ih2 x hx
    obtain ⟨z, hz, hyz⟩ := ih1 y hy
    refine ⟨z, hz, ?_⟩
    rcases hxy with rfl | ⟨rfl, hgt⟩
    · exact hyz
    · rcases hyz with rfl | ⟨rfl, hgt'⟩
      · exact Or.inr ⟨rfl, hgt⟩
      · exact Or.inr ⟨rfl, hgt'⟩

/-- the message id in the dedup record of event number `n` -/
def recMid (c : Cl) (n : Nat) : Option Nat := (getRec c n).bind (·.mid)

/-- the rows a delivery of `e` to the client `id` may upsert: the row of the application message `e` carries (foreign
    sender: `process_application_message`), or the row named by the event's own dedup record `om` (own event:
    the `CannotDecryptOwnMessage` path confirms the cached copy) -/
def OkRow (id : Nat) (e : Ev) (om : Option Nat) (r : MsgRow) : Prop :=
  (e.sender ≠ id ∧ appMid e = some r.mid) ∨ (e.sender = id ∧ om = some r.mid)

theorem rbRec_mid (ep : Nat) (r : Rec) : (rbRec ep r).mid = r.mid := by
  unfold rbRec rbRec2 rbRec1
  repeat' split
  all_goals rfl

theorem recMid_rollbackTo (c c1 : Cl) (ep n : Nat) (hr : rollbackTo c ep = some c1) : recMid c1 n = recMid c n := by
  unfold recMid
  rw [rollbackTo_getRec hr]
  cases getRec c n with
  | none => rfl
  | some r => exact rbRec_mid ep r

theorem mtrans_ownMessage (ep : Nat) (c : Cl) (e : Ev) (hs : e.sender = c.id) :
    MTrans ep (OkRow c.id e (recMid c e.n)) c.msgs (ownMessage c e).1.msgs := by
  have h := ownMessage_spec c e
  generalize ownMessage c e = r at h ⊢
  cases h with
  | same | echo => exact .refl _
  | confirmed hr _ hm => exact .upsert _ _ (Or.inr ⟨hs, by simp [recMid, hr, hm]⟩)

/-- **frame of `process_message` on the message table**, every state, event and fuel: the table changes only by
    re-markings of a rollback to the event's epoch (rows with a later epoch tag become invalidated) and by upserts of
    the delivered message's own row (or, for an own event, of the row its dedup record names) -/
theorem mtrans_deliverN (fuel nx : Nat) (c : Cl) (e : Ev) :
    MTrans (epochOf e.path) (OkRow c.id e (recMid c e.n)) c.msgs (deliverN fuel nx c e).1.msgs := by
  refine deliverN_induct (P := fun c r => MTrans (epochOf e.path) (OkRow c.id e (recMid c e.n)) c.msgs r.1.msgs) nx e
    (fun _ _ _ _ => .refl _) ?_ fuel c
  intro c r _ hs
  have hown := mtrans_ownMessage (epochOf e.path) (withSecret c) e
  -- With the client a constructor application, `x.msgs` and `c.msgs` are compared by reducing both.  For a variable
  -- `c` the unifier first tries to identify `x` with `c`, field by field through every layer of `{ · with … }`.
  obtain ⟨id, pers, ret, mp, hg, g, msgs, recs, mgr⟩ := c
  cases hs with
  | own _ hs => exact hown hs
  | retried _ _ _ _ hrb ih =>
    rw [(frame_rollbackTo 0 _ _ _ hrb).id, recMid_rollbackTo _ _ _ e.n hrb] at ih
    obtain ⟨_, _, _, _, _, _, rfl⟩ := rollbackTo_spec hrb
    exact .trans (.remark _) ih
  | committed =>
    exact processCommit_cases (P := fun r => MTrans _ _ msgs r.1.msgs) _ e _ _ (.refl _) (fun _ _ _ _ => .refl _)
  | stored _ hk _ _ hfor => exact .upsert _ _ (Or.inl ⟨hfor, by simp [appMid, hk]⟩)
  | _ => exact .refl _

/-! ### the message id named by a dedup record

  An own event re-validates the row its dedup record names.  For the frame of a whole delivery list one needs to know
  that the record of an own event that names NO message (an own commit: `OwnCommit.record`) keeps naming none. -/

theorem recMid_setRec_self (c : Cl) (n : Nat) (r : Rec) : recMid (setRec c n r) n = r.mid := by
  simp [recMid, getRec, setRec, alookup_ainsert_self]

theorem recMid_recordFailure_self (c : Cl) (n : Nat) (b : Bool) (ep : Option Nat) :
    recMid (recordFailure c n b ep) n = recMid c n := by
  unfold recordFailure
  rw [recMid_setRec_self]
  rfl

theorem recMid_ownMessage (c : Cl) (e : Ev) (h : recMid c e.n = none) : recMid (ownMessage c e).1 e.n = none := by
  have hs := ownMessage_spec c e
  generalize ownMessage c e = r at hs ⊢
  cases hs with
  | same | echo => exact h
  | confirmed hr _ hm => simp [recMid, hr, hm] at h

/-- a dedup record that names no message keeps naming none, whatever is delivered — except a foreign application message
    under the record's own event number (which files its message id there) -/
theorem recMid_deliverN (fuel nx : Nat) (c : Cl) (e : Ev) (n : Nat)
    (hown : e.n = n → e.sender = c.id ∨ appMid e = none) (h : recMid c n = none) :
    recMid (deliverN fuel nx c e).1 n = none := by
  by_cases hn : n = e.n
  · subst hn
    refine deliverN_induct (P := fun c r => (e.sender = c.id ∨ appMid e = none) → recMid c e.n = none → recMid r.1 e.n = none)
      nx e (fun _ _ _ _ _ h => h) ?_ fuel c (hown rfl) h
    intro c r _ hs hown h
    cases hs with
    | unrouted | evicted => exact (recMid_recordFailure_self c e.n _ _).trans h
    | «sealed» | refused => exact (recMid_recordFailure_self (withSecret c) e.n _ _).trans h
    | own => exact recMid_ownMessage (withSecret c) e h
    | echoed => exact h
    | retried _ _ _ _ hrb ih =>
      exact ih (by rw [(frame_rollbackTo 0 _ _ _ hrb).id]; exact hown) ((recMid_rollbackTo _ _ _ e.n hrb).trans h)
    | committed =>
      exact processCommit_cases (P := fun r => recMid r.1 e.n = none) _ e _ _ ((recMid_recordFailure_self _ e.n _ _).trans h)
        (fun _ _ _ hm => (recMid_setRec_self _ _ _).trans hm)
    | mergedOwn | autoCommitted | queued => exact recMid_setRec_self _ _ _
    | stored _ hk _ _ hfor =>
      rcases hown with x | x
      · exact absurd x hfor
      · simp [appMid, hk] at x
  · exact (frame_deliverN fuel nx c e n hn).recs (fun o => o.bind (·.mid) = none)
      (fun o ho => by cases o with
        | none => exact ho
        | some r => simpa [rbRec_mid] using ho) h

/-! ## §C  `process_message` on an application message: which handler runs -/

/-- an application message that reaches the handlers: routed to an active group, opened by the outer layer, created in the
    current epoch or a retained past one -/
structure AppOpens (c : Cl) (e : Ev) (mid ts tok : Nat) : Prop extends Opens c e where
  kind : e.kind = .app mid ts tok
  le : epochOf e.path ≤ epochOf c.g.path
  past : epochOf e.path < epochOf c.g.path → c.g.past.contains e.path = true

theorem AppOpens.current {c : Cl} {e : Ev} {mid ts tok : Nat} (ho : Opens c e) (hk : e.kind = .app mid ts tok)
    (hp : e.path = c.g.path) : AppOpens c e mid ts tok :=
  ⟨ho, hk, by rw [hp]; exact Nat.le_refl _, by rw [hp]; intro a; exact absurd a (Nat.lt_irrefl _)⟩

/-- … and which handler it reaches: the client's own message coming back is handled from the records (`CannotDecryptOwnMessage`); a foreign one whose
    ratchet generation was used already (a second offer) is Unprocessable — a Failed record, nothing else; otherwise
    `process_application_message` stores it -/
theorem step1_app (retry : Cl → Option (Cl × Res)) (nx : Nat) {c : Cl} {e : Ev} {mid ts tok : Nat} (h : AppOpens c e mid ts tok) :
    step1 retry nx c e =
      if e.sender = c.id then ownMessage (withSecret c) e
      else if e.cipher ∈ c.g.consumed then failUnprocessable (withSecret c) e
      else storeApp (consume (withSecret c) e.cipher) e mid ts tok := by
  have h1 : ¬ epochOf c.g.path < epochOf e.path := Nat.not_lt.mpr h.le
  have h2 : ¬ (epochOf e.path < epochOf c.g.path ∧ ¬ e.path ∈ c.g.past) := by
    intro ⟨a, b⟩; exact b (by simpa using h.past a)
  unfold step1
  simp only [consume]
  simp [h.routed, h.active, h.opens, h.kind]
  rw [if_neg h1, if_neg h2]

/-- the dedup record of event number `n` does not block re-processing (absent, or neither Failed nor EpochInvalidated) -/
def NotBlocked (c : Cl) (n : Nat) : Prop := ∀ r, getRec c n = some r → r.state ≠ 3 ∧ r.state ≠ 4

theorem notBlocked_of_none {c : Cl} {n : Nat} (h : getRec c n = none) : NotBlocked c n := by
  intro r hr; rw [h] at hr; cases hr

theorem deliverOnce_notBlocked (retry : Cl → Option (Cl × Res)) (nx : Nat) (c : Cl) (e : Ev) (h : NotBlocked c e.n) :
    deliverOnce retry nx c e = step1 retry nx c e :=
  MdkVerif.Props.C08.deliverOnce_notBlocked retry nx c e h

theorem core_ensureSecret (g : GState) : core (ensureSecret g) = core g := by
  simp [core, dataOf]

theorem outerOpens_congr (g g' : GState) (e : Ev) (hp : g'.path = g.path) (hs : g'.secrets = g.secrets) :
    outerOpens g' e = outerOpens g e := by
  unfold outerOpens; rw [hp, hs]

theorem ensureSecret_fix (g : GState) (h : alookup (epochOf g.path) g.secrets ≠ none) : ensureSecret g = g := by
  cases hq : alookup (epochOf g.path) g.secrets with
  | none => exact absurd hq h
  | some q => exact ensureSecret_of_some g q hq

theorem ensureSecret_has (g : GState) : alookup (epochOf g.path) (ensureSecret g).secrets ≠ none := by
  cases hq : alookup (epochOf g.path) g.secrets with
  | none => rw [ensureSecret_of_none g hq]; simp [alookup_ainsert_self]
  | some q => rw [ensureSecret_of_some g q hq, hq]; simp

/-- what a stored application message leaves: the row upserted, the ratchet generation consumed, the current epoch's
    exporter secret cached, the last-message pointer possibly moved, the event's dedup record Processed — and nothing else -/
structure AppStored (c : Cl) (e : Ev) (row : MsgRow) (c' : Cl) : Prop where
  id : c'.id = c.id
  persistent : c'.persistent = c.persistent
  retention : c'.retention = c.retention
  maxPast : c'.maxPast = c.maxPast
  hasGroup : c'.hasGroup = c.hasGroup
  mgr : c'.mgr = c.mgr
  msgs : c'.msgs = upsertRow row c.msgs
  g : ∃ l, c'.g = { ensureSecret c.g with consumed := e.cipher :: c.g.consumed, last := l }
  recs : ∀ n, n ≠ e.n → getRec c' n = getRec c n
  record : getRec c' e.n = some { state := 1, epoch := some (epochOf c.g.path), hasGroup := true, mid := some row.mid }

namespace AppStored
variable {c c' : Cl} {e : Ev} {row : MsgRow}

theorem path (h : AppStored c e row c') : c'.g.path = c.g.path := by
  obtain ⟨l, hl⟩ := h.g; rw [hl]; exact ensureSecret_path c.g
theorem core (h : AppStored c e row c') : Chain.core c'.g = Chain.core c.g := by
  obtain ⟨l, hl⟩ := h.g; rw [hl]; exact core_ensureSecret c.g
theorem active (h : AppStored c e row c') : c'.g.active = c.g.active := by
  obtain ⟨l, hl⟩ := h.g; rw [hl]; exact ensureSecret_active c.g
theorem recNid (h : AppStored c e row c') : c'.g.recNid = c.g.recNid := by
  obtain ⟨l, hl⟩ := h.g; rw [hl]; exact ensureSecret_recNid c.g
theorem nid (h : AppStored c e row c') : c'.g.nid = c.g.nid := by
  obtain ⟨l, hl⟩ := h.g; rw [hl]; exact ensureSecret_nid c.g
theorem past (h : AppStored c e row c') : c'.g.past = c.g.past := by
  obtain ⟨l, hl⟩ := h.g; rw [hl]; exact ensureSecret_past c.g
theorem secrets (h : AppStored c e row c') : c'.g.secrets = (ensureSecret c.g).secrets := by
  obtain ⟨l, hl⟩ := h.g; rw [hl]
theorem consumed (h : AppStored c e row c') : c'.g.consumed = e.cipher :: c.g.consumed := by
  obtain ⟨l, hl⟩ := h.g; rw [hl]
theorem fix (h : AppStored c e row c') : ensureSecret c'.g = c'.g := by
  apply ensureSecret_fix
  rw [h.path, h.secrets]
  exact ensureSecret_has c.g
theorem secretsOK (h : AppStored c e row c') (hs : SecretsOK c.g) : SecretsOK c'.g := by
  intro ep q hq
  rw [h.secrets] at hq
  rw [h.path]
  have := secretsOK_ensure c.g hs ep q hq
  rwa [ensureSecret_path] at this

theorem ready (h : AppStored c e row c') (hr : Ready c) : Ready c' :=
  ⟨h.hasGroup ▸ hr.hasGroup, h.active ▸ hr.act, h.retention ▸ hr.ret, h.secretsOK hr.sec,
   fun s hm => by rw [h.path]; exact hr.below s (h.mgr ▸ hm), by rw [h.recNid, h.nid]; exact hr.nid⟩

/-- events with other numbers and ciphertexts stay unseen and unconsumed -/
theorem keepsFresh (h : AppStored c e row c') (E : List Ev)
    (hf : ∀ x ∈ E, getRec c x.n = none ∧ x.cipher ∉ c.g.consumed) (hd : ∀ x ∈ E, x.n ≠ e.n ∧ x.cipher ≠ e.cipher) :
    ∀ x ∈ E, getRec c' x.n = none ∧ x.cipher ∉ c'.g.consumed := by
  intro x hx
  refine ⟨by rw [h.recs x.n (hd x hx).1]; exact (hf x hx).1, ?_⟩
  rw [h.consumed]
  intro hm
  rcases List.mem_cons.mp hm with y | y
  · exact (hd x hx).2 y
  · exact (hf x hx).2 y

end AppStored

theorem storeApp_stored (c : Cl) (e : Ev) (mid ts tok : Nat) :
    AppStored c e { mid := mid, author := e.sender, state := 1, epoch := epochOf c.g.path, wrapper := e.n, msgTs := ts, tok := tok }
      (storeApp (consume (withSecret c) e.cipher) e mid ts tok).1 := by
  obtain ⟨l, hl⟩ := updLast_last (consume (withSecret c) e.cipher).g mid ts
  -- (the client as a constructor application: see `mtrans_deliverN`)
  obtain ⟨id, pers, ret, mp, hg, g, msgs, recs, mgr⟩ := c
  refine ⟨rfl, rfl, rfl, rfl, rfl, rfl, ?_, ⟨l, ?_⟩, ?_, ?_⟩
  · show upsertRow _ msgs = _
    simp only [consume, withSecret_path]
  · show updLast _ mid ts = _
    rw [hl]
    simp only [consume, withSecret, ensureSecret_consumed]
  · intro n hn
    simp only [storeApp, getRec, setRec]
    exact alookup_ainsert_ne _ _ _ _ hn
  · simp only [storeApp, getRec, setRec, consume, withSecret_path]
    exact alookup_ainsert_self _ _ _

theorem deliverN_app (fuel nx : Nat) {c : Cl} {e : Ev} {mid ts tok : Nat} (hnb : NotBlocked c e.n) (h : AppOpens c e mid ts tok) :
    deliverN fuel nx c e =
      if e.sender = c.id then ownMessage (withSecret c) e
      else if e.cipher ∈ c.g.consumed then failUnprocessable (withSecret c) e
      else storeApp (consume (withSecret c) e.cipher) e mid ts tok := by
  obtain ⟨retry, hd⟩ := deliverN_once fuel nx c e
  rw [hd, deliverOnce_notBlocked retry nx c e hnb, step1_app retry nx h]

/-- **a fresh application message is stored** (every fuel): the hypotheses name exactly the tests of
    `process_message` — not blocked by its dedup record, routed by its `h` tag, the group active, the outer layer opens
    it, created in the current epoch or a retained past one, by somebody else, its ratchet generation unused -/
theorem deliverN_app_stored (fuel nx : Nat) {c : Cl} {e : Ev} {mid ts tok : Nat} (hnb : NotBlocked c e.n)
    (h : AppOpens c e mid ts tok) (hf : e.sender ≠ c.id) (hc : e.cipher ∉ c.g.consumed) :
    (deliverN fuel nx c e).2 = .app mid ∧
    AppStored c e { mid := mid, author := e.sender, state := 1, epoch := epochOf c.g.path, wrapper := e.n, msgTs := ts, tok := tok }
      (deliverN fuel nx c e).1 := by
  rw [deliverN_app fuel nx hnb h, if_neg hf, if_neg hc]
  exact ⟨rfl, storeApp_stored c e mid ts tok⟩

/-- a second offer of a stored application message: Unprocessable; it only overwrites its own dedup record (Failed)
    and caches the exporter secret; a blocked one changes nothing at all -/
theorem deliverN_app_dup (fuel nx : Nat) {c : Cl} {e : Ev} {mid ts tok : Nat} (h : AppOpens c e mid ts tok)
    (hf : e.sender ≠ c.id) (hc : e.cipher ∈ c.g.consumed) :
    (deliverN fuel nx c e).2 = .unprocessable ∧ Quiet e.n c (deliverN fuel nx c e).1 := by
  obtain ⟨retry, hd⟩ := deliverN_once fuel nx c e
  rw [hd]
  refine deliverOnce_cases (P := fun r => r.2 = .unprocessable ∧ Quiet e.n c r.1) retry nx c e
    (fun _ _ _ => ⟨if_pos h.routed, quiet_refl _ c⟩) (fun _ => ?_)
  rw [step1_app retry nx h, if_neg hf, if_pos hc]
  exact ⟨rfl, (quiet_withSecret e.n c).recordFailure true (some _)⟩

/-- the outer layer opens an event created in the client's current state (the stored exporter secrets follow the path) -/
theorem outerOpens_current (g : GState) (e : Ev) (hs : SecretsOK g) (hp : e.path = g.path) :
    outerOpens (ensureSecret g) e = true := by
  have : alookup (epochOf g.path) (ensureSecret g).secrets = some g.path := by
    cases hq : alookup (epochOf g.path) g.secrets with
    | none => rw [ensureSecret_of_none g hq]; simp [alookup_ainsert_self]
    | some q =>
      rw [ensureSecret_of_some g q hq, hq]
      obtain ⟨h1, h2⟩ := hs _ q hq
      have : q.length = g.path.length := by simp only [epochOf] at h1; omega
      rw [h2.eq_of_length this]
  unfold outerOpens
  simp only [ensureSecret_path, this, hp]
  simp

/-! ### the sender's own copy (`create_message`, then the event coming back) -/

theorem send_eq (c : Cl) (n ts idn mid mts tok : Nat) (hg : c.hasGroup = true) (ha : c.g.active = true) (hp : c.g.props = []) :
    send c n ts idn mid mts tok =
      (setRec { c with g := updLast (ensureSecret c.g) mid mts,
                       msgs := upsertRow { mid := mid, author := c.id, state := 0, epoch := epochOf (ensureSecret c.g).path, wrapper := n, msgTs := mts, tok := tok } c.msgs } n
          { state := 0, epoch := some (epochOf (ensureSecret c.g).path), hasGroup := true, mid := some mid },
       .ev { n := n, ts := ts, idnum := idn, cipher := n, sender := c.id, path := (ensureSecret c.g).path, kind := .app mid mts tok, tag := (ensureSecret c.g).recNid }) := by
  unfold send
  simp only [hg, ha, hp, Bool.not_true, Bool.false_eq_true, if_false, List.isEmpty_nil]

/-- the client right after `create_message` -/
def sent (c : Cl) (n mid mts tok : Nat) : Cl :=
  setRec { c with g := updLast (ensureSecret c.g) mid mts,
                  msgs := upsertRow { mid := mid, author := c.id, state := 0, epoch := epochOf (ensureSecret c.g).path, wrapper := n, msgTs := mts, tok := tok } c.msgs } n
    { state := 0, epoch := some (epochOf (ensureSecret c.g).path), hasGroup := true, mid := some mid }

def sentEv (c : Cl) (n ts idn mid mts tok : Nat) : Ev :=
  { n := n, ts := ts, idnum := idn, cipher := n, sender := c.id, path := (ensureSecret c.g).path, kind := .app mid mts tok, tag := (ensureSecret c.g).recNid }

theorem own_step (c : Cl) (n ts idn mid mts tok nx : Nat) (hg : c.hasGroup = true) (ha : c.g.active = true) (hsec : SecretsOK c.g) :
    deliver (sent c n mid mts tok) (sentEv c n ts idn mid mts tok) nx = ownMessage (withSecret (sent c n mid mts tok)) (sentEv c n ts idn mid mts tok) := by
  obtain ⟨l, hl⟩ := updLast_last (ensureSecret c.g) mid mts
  have hg1 : (sent c n mid mts tok).g = { ensureSecret c.g with last := l } := hl
  have hrec : getRec (sent c n mid mts tok) n = some { state := 0, epoch := some (epochOf (ensureSecret c.g).path), hasGroup := true, mid := some mid } := by
    simp only [sent, getRec, setRec]; exact alookup_ainsert_self _ _ _
  have hsec1 : SecretsOK (sent c n mid mts tok).g := by rw [hg1]; exact secretsOK_ensure _ hsec
  have hroutes : routes (sent c n mid mts tok) (sentEv c n ts idn mid mts tok) = true := by
    have h1 : (sent c n mid mts tok).hasGroup = true := hg
    have h2 : (sentEv c n ts idn mid mts tok).tag = (sent c n mid mts tok).g.recNid := by rw [hg1]; rfl
    simp [routes, h1, h2]
  have hopen : outerOpens (withSecret (sent c n mid mts tok)).g (sentEv c n ts idn mid mts tok) = true :=
    outerOpens_current _ _ hsec1 (by rw [hg1]; rfl)
  have hnb : NotBlocked (sent c n mid mts tok) (sentEv c n ts idn mid mts tok).n := by
    intro r hr
    have : (sentEv c n ts idn mid mts tok).n = n := rfl
    rw [this, hrec] at hr; cases hr; exact ⟨by simp, by simp⟩
  have hpath : (sentEv c n ts idn mid mts tok).path = (sent c n mid mts tok).g.path := by rw [hg1]; rfl
  exact (deliverN_app 3 nx hnb (.current ⟨hroutes, by rw [hg1]; simpa using ha, hopen⟩ rfl hpath)).trans (if_pos rfl)

theorem own_result (c : Cl) (n ts idn mid mts tok : Nat) :
    ownMessage (withSecret (sent c n mid mts tok)) (sentEv c n ts idn mid mts tok) =
      (setRec { withSecret (sent c n mid mts tok) with
          msgs := upsertRow { mid := mid, author := c.id, state := 1, epoch := epochOf (ensureSecret c.g).path, wrapper := n, msgTs := mts, tok := tok } (sent c n mid mts tok).msgs } n
        { state := 1, epoch := some (epochOf (ensureSecret c.g).path), hasGroup := true, mid := some mid }, .app mid) := by
  have hrec : getRec (withSecret (sent c n mid mts tok)) (sentEv c n ts idn mid mts tok).n =
      some { state := 0, epoch := some (epochOf (ensureSecret c.g).path), hasGroup := true, mid := some mid } := by
    simp only [sent, sentEv, getRec, setRec]; exact alookup_ainsert_self _ _ _
  have hf : (withSecret (sent c n mid mts tok)).msgs.find? (·.mid == mid) =
      some { mid := mid, author := c.id, state := 0, epoch := epochOf (ensureSecret c.g).path, wrapper := n, msgTs := mts, tok := tok } :=
    findRow_upsert_self { mid := mid, author := c.id, state := 0, epoch := epochOf (ensureSecret c.g).path, wrapper := n, msgTs := mts, tok := tok } c.msgs
  unfold ownMessage
  rw [hrec]
  simp only [beq_self_eq_true, if_true, hf]
  rfl


/-! ## §D  one slot: application messages created in the client's current state -/

/-- the conditions on the messages of one slot that mention only the EVENTS and the core `k` of the state they were
    created in: application messages created in the state with path `k.1`, by others than the receiver `id`, published
    under that state's nostr group id, with pairwise distinct event numbers, ciphertexts and message ids -/
structure SlotEv (id : Nat) (k : Core) (M : List Ev) : Prop where
  kind : ∀ e ∈ M, (appMid e).isSome = true
  path : ∀ e ∈ M, e.path = k.1
  foreign : ∀ e ∈ M, e.sender ≠ id
  tag : ∀ e ∈ M, e.tag = k.2.2.nid
  distinct : ∀ e1 ∈ M, ∀ e2 ∈ M, e1 ≠ e2 → e1.n ≠ e2.n ∧ e1.cipher ≠ e2.cipher ∧ appMid e1 ≠ appMid e2

/-- an event that is stale for the whole slot: created in a state that is not a prefix of the client's path (a message or
    a commit of a branch that lost, for instance), with an event number of its own -/
def StaleSlot (p : Path) (M : List Ev) (x : Ev) : Prop := ¬ x.path <+: p ∧ ∀ e ∈ M, x.n ≠ e.n

theorem rowOf_some {ep : Nat} {e : Ev} (h : (appMid e).isSome = true) :
    ∃ mid ts tok, e.kind = .app mid ts tok ∧
      rowOf ep e = some { mid := mid, author := e.sender, state := 1, epoch := ep, wrapper := e.n, msgTs := ts, tok := tok } := by
  cases hk : e.kind with
  | app mid ts tok => exact ⟨mid, ts, tok, rfl, by simp [rowOf, hk]⟩
  | commit b sw => simp [appMid, hk] at h
  | leave => simp [appMid, hk] at h

theorem rowOf_mid {ep : Nat} {e : Ev} {row : MsgRow} (h : rowOf ep e = some row) : appMid e = some row.mid := by
  unfold rowOf at h
  split at h
  · rename_i mid ts tok hk
    cases h; simp [appMid, hk]
  · cases h

theorem ready_ensure {c c' : Cl} (h : Ready c) (hg : c'.hasGroup = c.hasGroup) (hr : c'.retention = c.retention)
    (hm : c'.mgr = c.mgr) (hgg : c'.g = c.g ∨ c'.g = ensureSecret c.g) : Ready c' := by
  rcases hgg with x | x
  · exact ⟨hg ▸ h.hasGroup, x ▸ h.act, hr ▸ h.ret, x ▸ h.sec, fun s hs => by rw [x]; exact h.below s (hm ▸ hs), x ▸ h.nid⟩
  · refine ⟨hg ▸ h.hasGroup, by rw [x, ensureSecret_active]; exact h.act, hr ▸ h.ret, by rw [x]; exact secretsOK_ensure _ h.sec,
      fun s hs => by rw [x, ensureSecret_path]; exact h.below s (hm ▸ hs), by rw [x, ensureSecret_recNid, ensureSecret_nid]; exact h.nid⟩

/-- what no delivery inside a slot changes of the group state: the MLS path, the retained past states, the stored exporter
    secrets (up to caching the current one), the id in force -/
structure GKeep (g0 g : GState) : Prop where
  path : g.path = g0.path
  past : g.past = g0.past
  secrets : (ensureSecret g).secrets = (ensureSecret g0).secrets
  recNid : g.recNid = g0.recNid

theorem gkeep_refl (g : GState) : GKeep g g := ⟨rfl, rfl, rfl, rfl⟩

theorem GKeep.trans {g0 g1 g2 : GState} (h1 : GKeep g0 g1) (h2 : GKeep g1 g2) : GKeep g0 g2 :=
  ⟨h2.path.trans h1.path, h2.past.trans h1.past, h2.secrets.trans h1.secrets, h2.recNid.trans h1.recNid⟩

theorem gkeep_quiet {n : Nat} {c c' : Cl} (hq : Quiet n c c') : GKeep c.g c'.g := by
  rcases hq.g with x | x <;> rw [x]
  · exact gkeep_refl _
  · exact ⟨ensureSecret_path _, ensureSecret_past c.g, by rw [ensureSecret_idem], ensureSecret_recNid _⟩

theorem gkeep_stored {c c' : Cl} {e : Ev} {row : MsgRow} (hs : AppStored c e row c') : GKeep c.g c'.g :=
  ⟨hs.path, hs.past, by rw [hs.fix]; exact hs.secrets, hs.recNid⟩

/-- what the client looks like inside a slot, after the delivery list `dl`, relative to its state `c0` at the start of the
    slot: same configuration, snapshots, MLS state and group data; consumed generations and dedup records grew only by
    the delivered events; every delivered message of the slot has its row; no other row was touched -/
structure SlotInv (c0 : Cl) (M : List Ev) (dl : List Ev) (c : Cl) : Prop where
  id : c.id = c0.id
  persistent : c.persistent = c0.persistent
  retention : c.retention = c0.retention
  maxPast : c.maxPast = c0.maxPast
  mgr : c.mgr = c0.mgr
  ready : Ready c
  path : c.g.path = c0.g.path
  core : core c.g = core c0.g
  cons : ∀ x ∈ c.g.consumed, x ∈ c0.g.consumed ∨ ∃ e ∈ dl, e ∈ M ∧ e.cipher = x
  recs : ∀ n, (∀ e ∈ dl, n ≠ e.n) → getRec c n = getRec c0 n
  rows : ∀ m, (∀ e ∈ dl, e ∈ M → appMid e ≠ some m) → findRow m c.msgs = findRow m c0.msgs
  done : ∀ e ∈ dl, e ∈ M → ∀ row, rowOf (epochOf c0.g.path) e = some row →
    findRow row.mid c.msgs = some row ∧ e.cipher ∈ c.g.consumed
  uniq : Uniq c.msgs
  dlOK : ∀ e ∈ dl, e ∈ M ∨ StaleSlot c0.g.path M e
  gk : GKeep c0.g c.g

theorem slotInv_init (c0 : Cl) (M : List Ev) (hr : Ready c0) (hu : Uniq c0.msgs) : SlotInv c0 M [] c0 :=
  ⟨rfl, rfl, rfl, rfl, rfl, hr, rfl, rfl, fun _ hx => Or.inl hx, fun _ _ => rfl, fun _ _ => rfl,
   fun e he => (by cases he), hu, fun e he => (by cases he), gkeep_refl _⟩

theorem slotInv_quiet {c0 c c' : Cl} {M dl : List Ev} {x : Ev} (h : SlotInv c0 M dl c) (hq : Quiet x.n c c')
    (hpers : c'.persistent = c.persistent) (hx : x ∈ M → x ∈ dl) (hok : x ∈ M ∨ StaleSlot c0.g.path M x) :
    SlotInv c0 M (dl ++ [x]) c' := by
  have hmem : ∀ e, e ∈ dl → e ∈ dl ++ [x] := fun e he => List.mem_append_left _ he
  have hpath : c'.g.path = c.g.path := by
    rcases hq.g with y | y <;> rw [y]
    exact ensureSecret_path _
  have hcore : core c'.g = core c.g := by
    rcases hq.g with y | y <;> rw [y]
    exact core_ensureSecret _
  refine ⟨hq.id.trans h.id, hpers.trans h.persistent, hq.retention.trans h.retention, hq.maxPast.trans h.maxPast,
    hq.mgr.trans h.mgr, ready_ensure h.ready hq.hasGroup hq.retention hq.mgr hq.g, hpath.trans h.path, hcore.trans h.core,
    ?_, ?_, ?_, ?_, hq.msgs ▸ h.uniq, ?_, h.gk.trans (gkeep_quiet hq)⟩
  rotate_right
  · intro e he
    rcases List.mem_append.mp he with y | y
    · exact h.dlOK e y
    · simp only [List.mem_singleton] at y; subst y; exact hok
  · intro y hy
    rw [hq.consumed] at hy
    rcases h.cons y hy with z | ⟨e, he, z⟩
    · exact Or.inl z
    · exact Or.inr ⟨e, hmem e he, z⟩
  · intro n hn
    rw [hq.recs n (hn x (by simp))]
    exact h.recs n (fun e he => hn e (hmem e he))
  · intro m hm
    rw [hq.msgs]
    exact h.rows m (fun e he => hm e (hmem e he))
  · intro e he heM row hrow
    rw [hq.msgs, hq.consumed]
    rcases List.mem_append.mp he with y | y
    · exact h.done e y heM row hrow
    · simp only [List.mem_singleton] at y
      subst y
      exact h.done e (hx heM) heM row hrow

/-- what a slot assumes of the client's state at its start -/
structure SlotBase (c0 : Cl) (M : List Ev) : Prop where
  ev : SlotEv c0.id (core c0.g) M
  fresh : ∀ e ∈ M, getRec c0 e.n = none ∧ e.cipher ∉ c0.g.consumed

theorem slot_step (c0 : Cl) (M dl : List Ev) (c : Cl) (x : Ev) (nx : Nat) (hb : SlotBase c0 M) (h : SlotInv c0 M dl c)
    (hx : x ∈ M ∨ StaleSlot c0.g.path M x) : SlotInv c0 M (dl ++ [x]) (deliver c x nx).1 := by
  have hpers := (deliver_config nx c x).2.1
  rcases hx with hxM | hst
  · obtain ⟨mid, ts, tok, hk, hrow⟩ := rowOf_some (ep := epochOf c0.g.path) (hb.ev.kind x hxM)
    have hbase : Base c := base_of c h.ready.hasGroup h.ready.act h.ready.ret h.ready.sec h.ready.below.noFork
    have hpath : x.path = c.g.path := (hb.ev.path x hxM).trans h.path.symm
    have ho : outerOpens (ensureSecret c.g) x = true := outerOpens_parent c hbase x hpath
    have hnid : c.g.nid = c0.g.nid := congrArg (fun k : Core => k.2.2.nid) h.core
    have hroutes : routes c x = true := by
      have : x.tag = c.g.recNid := by rw [h.ready.nid, hnid]; exact hb.ev.tag x hxM
      simp [routes, h.ready.hasGroup, this]
    have hfor : x.sender ≠ c.id := by rw [h.id]; exact hb.ev.foreign x hxM
    have hap := AppOpens.current ⟨hroutes, h.ready.act, ho⟩ hk hpath
    by_cases hd : x ∈ dl
    · obtain ⟨_, hq⟩ := deliverN_app_dup 3 nx hap hfor (h.done x hd hxM _ hrow).2
      exact slotInv_quiet h hq hpers (fun _ => hd) (Or.inl hxM)
    · have hnum : ∀ e ∈ dl, x.n ≠ e.n := by
        intro e he
        rcases h.dlOK e he with y | y
        · exact (hb.ev.distinct x hxM e y (fun z => hd (z ▸ he))).1
        · exact (y.2 x hxM).symm
      have hn : getRec c x.n = none := by rw [h.recs x.n hnum]; exact (hb.fresh x hxM).1
      have hc : x.cipher ∉ c.g.consumed := by
        intro z
        rcases h.cons _ z with y | ⟨e, he, heM, y⟩
        · exact (hb.fresh x hxM).2 y
        · by_cases hex : x = e
          · exact hd (hex ▸ he)
          · exact (hb.ev.distinct x hxM e heM hex).2.1 y.symm
      have hs := (deliverN_app_stored 3 nx (notBlocked_of_none hn) hap hfor hc).2
      rw [h.path] at hs
      change AppStored c x _ (deliver c x nx).1 at hs
      have hmem : ∀ e, e ∈ dl → e ∈ dl ++ [x] := fun e he => List.mem_append_left _ he
      have hmid : appMid x = some mid := appMid_of_kind hk
      refine ⟨hs.id.trans h.id, hpers.trans h.persistent, hs.retention.trans h.retention, hs.maxPast.trans h.maxPast,
        hs.mgr.trans h.mgr,
        ⟨hs.hasGroup ▸ h.ready.hasGroup, hs.active ▸ h.ready.act, hs.retention ▸ h.ready.ret, hs.secretsOK h.ready.sec,
          fun s hm => by rw [hs.path]; exact h.ready.below s (hs.mgr ▸ hm), by rw [hs.recNid, hs.nid]; exact h.ready.nid⟩,
        hs.path.trans h.path, hs.core.trans h.core, ?_, ?_, ?_, ?_, by rw [hs.msgs]; exact uniq_upsertRow _ _ h.uniq, ?_,
        h.gk.trans (gkeep_stored hs)⟩
      · intro y hy
        rw [hs.consumed] at hy
        rcases List.mem_cons.mp hy with z | z
        · exact Or.inr ⟨x, by simp, hxM, z.symm⟩
        · rcases h.cons y z with w | ⟨e, he, heM, w⟩
          · exact Or.inl w
          · exact Or.inr ⟨e, hmem e he, heM, w⟩
      · intro n hn'
        rw [hs.recs n (hn' x (by simp))]
        exact h.recs n (fun e he => hn' e (hmem e he))
      · intro m hm
        have : m ≠ mid := fun z => hm x (by simp) hxM (by rw [hmid, z])
        rw [hs.msgs, findRow_upsert_ne _ m _ this]
        exact h.rows m (fun e he => hm e (hmem e he))
      · intro e he heM row hr
        rcases List.mem_append.mp he with y | y
        · have hex : e ≠ x := fun z => hd (z ▸ y)
          have hmm : row.mid ≠ mid := by
            have h1 := (hb.ev.distinct e heM x hxM hex).2.2
            rw [rowOf_mid hr, hmid] at h1
            exact fun z => h1 (by rw [z])
          obtain ⟨d1, d2⟩ := h.done e y heM row hr
          rw [hs.msgs, findRow_upsert_ne _ _ _ hmm, hs.consumed]
          exact ⟨d1, List.mem_cons_of_mem _ d2⟩
        · simp only [List.mem_singleton] at y
          subst y
          rw [hrow] at hr
          cases hr
          rw [hs.msgs, hs.consumed]
          exact ⟨findRow_upsert_self _ _, by simp⟩
      · intro e he
        rcases List.mem_append.mp he with y | y
        · exact h.dlOK e y
        · simp only [List.mem_singleton] at y; subst y; exact Or.inl hxM
  · have hq : Quiet x.n c (deliver c x nx).1 :=
      quiet_stale 3 nx c x (secretsOK_ensure _ h.ready.sec) (by rw [h.path]; exact hst.1)
    exact slotInv_quiet h hq hpers (fun hxM => absurd rfl (hst.2 x hxM)) (Or.inr hst)

/-- **one slot**: any list over the slot's messages and stale events — any order, any repetition — leaves every
    delivered message of the slot stored exactly as sent, and touches nothing else -/
theorem slot_run (c0 : Cl) (M : List Ev) (nx : Nat) (hb : SlotBase c0 M) (l : List Ev) :
    ∀ (dl : List Ev) (c : Cl), SlotInv c0 M dl c → (∀ e ∈ l, e ∈ M ∨ StaleSlot c0.g.path M e) →
      SlotInv c0 M (dl ++ l) (run nx c l) := by
  induction l with
  | nil => intro dl c h _; simpa using h
  | cons x t ih =>
    intro dl c h hl
    have := ih (dl ++ [x]) _ (slot_step c0 M dl c x nx hb h (hl x List.mem_cons_self))
      (fun e he => hl e (List.mem_cons_of_mem _ he))
    rw [run_cons]
    simpa using this

/-! ## §E  one fork level and the message table -/

/-- a run of events that are all stale for the client: only exporter-secret caching and their own records -/
theorem stale_only_run (nx : Nat) (c : Cl) (hs : SecretsOK c.g) (l : List Ev) :
    ∀ c1 : Cl, (c1.g = c.g ∨ c1.g = ensureSecret c.g) → c1.id = c.id → (∀ e ∈ l, ¬ e.path <+: c.g.path) →
      ((run nx c1 l).g = c.g ∨ (run nx c1 l).g = ensureSecret c.g) ∧ (run nx c1 l).id = c.id := by
  induction l with
  | nil => intro c1 h1 h2 _; exact ⟨h1, h2⟩
  | cons e t ih =>
    intro c1 h1 h2 hl
    rw [run_cons]
    have hp : c1.g.path = c.g.path := by rcases h1 with x | x <;> rw [x]; exact ensureSecret_path _
    have hsec : SecretsOK (ensureSecret c1.g) := by
      rcases h1 with x | x <;> rw [x]
      · exact secretsOK_ensure _ hs
      · rw [ensureSecret_idem]; exact secretsOK_ensure _ hs
    have hq := quiet_stale 3 nx c1 e hsec (by rw [hp]; exact hl e List.mem_cons_self)
    refine ih _ ?_ (hq.id.trans h2) (fun x hx => hl x (List.mem_cons_of_mem _ hx))
    have hg' : (deliver c1 e nx).1.g = c1.g ∨ (deliver c1 e nx).1.g = ensureSecret c1.g := hq.g
    rcases hg' with y | y <;> rcases h1 with x | x
    · exact Or.inl (y.trans x)
    · exact Or.inr (y.trans x)
    · exact Or.inr (y.trans (by rw [x]))
    · exact Or.inr (y.trans (by rw [x, ensureSecret_idem]))

/-- inside a fork level (after any prefix of a delivery list over the fork's commits and stale events) the client is at
    the parent state or at the child of one of the fork's commits, its identity unchanged, its stored secrets following
    its path -/
theorem level_prefix_state (c : Cl) (T l : List Ev) (nx : Nat) (hat : AtFork c T)
    (hl : ∀ e ∈ l, e ∈ T ∨ StaleAt c T e) :
    (run nx c l).id = c.id ∧ SecretsOK (ensureSecret (run nx c l).g) ∧
    ((run nx c l).g.path = c.g.path ∨ ∃ a ∈ T, (run nx c l).g.path = c.g.path ++ [a.cipher]) := by
  by_cases hne : ∃ e ∈ l, e ∈ T
  · obtain ⟨w, _, hwT, _, hd⟩ := fork_level_mixed c T l nx hat hl hne
    exact ⟨hd.form.id, secretsOK_ensure _ (hd.secrets (atFork_secrets hat)), Or.inr ⟨w, hwT, hd.path⟩⟩
  · have hall : ∀ e ∈ l, ¬ e.path <+: c.g.path := by
      intro e he
      rcases hl e he with x | x
      · exact absurd ⟨e, he, x⟩ hne
      · exact x.parent
    obtain ⟨h1, h2⟩ := stale_only_run nx c (atFork_secrets hat) l c (Or.inl rfl) rfl hall
    refine ⟨h2, ?_, Or.inl ?_⟩
    · rcases h1 with x | x <;> rw [x]
      · exact secretsOK_ensure _ (atFork_secrets hat)
      · rw [ensureSecret_idem]; exact secretsOK_ensure _ (atFork_secrets hat)
    · rcases h1 with x | x <;> rw [x]
      exact ensureSecret_path _

/-- the dedup record of every own commit of the fork names no message (there is at most one: the committer's) -/
def OwnRec (id : Nat) (T : List Ev) (c1 : Cl) : Prop := ∀ o ∈ T, o.sender = id → recMid c1 o.n = none

theorem ownRec_atFork {c : Cl} {T : List Ev} (hat : AtFork c T) : OwnRec c.id T c := by
  cases hat with
  | bystander _ _ _ _ _ _ hS => intro o ho hs; exact absurd hs (hS.foreign o ho)
  | committer o S _ _ _ _ _ _ ho hS _ hT =>
    intro o' ho' hs
    rcases List.mem_cons.mp ((hT o').mp ho') with rfl | x
    · simp [recMid, ho.record]
    · exact absurd hs (hS.foreign o' x)

theorem appMid_commit {e : Ev} (h : ∃ b sw, e.kind = .commit b sw) : appMid e = none := by
  obtain ⟨b, sw, hk⟩ := h
  simp [appMid, hk]

/-- **the message table through one fork level** (any role, any delivery list over the fork's commits, stale events
    interleaved): nothing is upserted; rows change at most by the re-marking of a rollback to the PARENT epoch -/
theorem level_rows (c : Cl) (T : List Ev) (nx : Nat) (hat : AtFork c T) (l2 : List Ev) :
    ∀ l1 : List Ev, (∀ e ∈ l1 ++ l2, e ∈ T ∨ StaleAt c T e) → OwnRec c.id T (run nx c l1) →
      MTrans (epochOf c.g.path) (fun _ => False) (run nx c l1).msgs (run nx c (l1 ++ l2)).msgs := by
  induction l2 with
  | nil => intro l1 _ _; rw [List.append_nil]; exact .refl _
  | cons e t ih =>
    intro l1 hl hown
    have hl1 : ∀ x ∈ l1, x ∈ T ∨ StaleAt c T x := fun x hx => hl x (List.mem_append_left _ hx)
    obtain ⟨hid, hsec, hpath⟩ := level_prefix_state c T l1 nx hat hl1
    have hrun : run nx c (l1 ++ [e]) = (deliver (run nx c l1) e nx).1 := by rw [run_append]; rfl
    have key : MTrans (epochOf c.g.path) (fun _ => False) (run nx c l1).msgs (run nx c (l1 ++ [e])).msgs ∧
        OwnRec c.id T (run nx c (l1 ++ [e])) := by
      rw [hrun]
      rcases hl e (by simp) with heT | hst
      · have hm := mtrans_deliverN 3 nx (run nx c l1) e
        rw [atFork_paths hat e heT, hid] at hm
        constructor
        · refine hm.mono ?_
          intro r hr
          rcases hr with ⟨_, h2⟩ | ⟨h1, h2⟩
          · rw [appMid_commit (atFork_kind hat e heT)] at h2; cases h2
          · rw [hown e heT h1] at h2; cases h2
        · intro o ho hs
          exact recMid_deliverN 3 nx _ e o.n (fun _ => Or.inr (appMid_commit (atFork_kind hat e heT))) (hown o ho hs)
      · have hq : Quiet e.n (run nx c l1) (deliver (run nx c l1) e nx).1 := by
          apply quiet_stale 3 nx _ e hsec
          rcases hpath with x | ⟨a, ha, x⟩ <;> rw [x]
          · exact hst.parent
          · exact not_prefix_child hst.parent (hst.child a ha)
        constructor
        · exact hq.msgs ▸ .refl _
        · intro o ho hs
          have : recMid (deliver (run nx c l1) e nx).1 o.n = recMid (run nx c l1) o.n := by
            unfold recMid; rw [hq.recs o.n (fun x => hst.num o ho x.symm)]
          rw [this]; exact hown o ho hs
    have := ih (l1 ++ [e]) (by simpa using hl) key.2
    rw [List.append_assoc] at this
    exact key.1.trans this

theorem rowOf_epoch {ep : Nat} {e : Ev} {row : MsgRow} (h : rowOf ep e = some row) : row.epoch = ep := by
  unfold rowOf at h
  split at h
  · cases h; rfl
  · cases h

/-- the events are unseen and their ratchet generations unused -/
def Fresh (c : Cl) (E : List Ev) : Prop := ∀ e ∈ E, getRec c e.n = none ∧ e.cipher ∉ c.g.consumed

/-- what a client has done after one fork level (delivery list `l`) followed by the slot of the messages `M` created
    in the winner's state (delivery list `m`) -/
structure LevelSlotDone (c : Cl) (w : Ev) (T M l m : List Ev) (c2 : Cl) : Prop where
  path : c2.g.path = c.g.path ++ [w.cipher]
  core : core c2.g = coreStep (core c.g) w
  id : c2.id = c.id
  persistent : c2.persistent = c.persistent
  retention : c2.retention = c.retention
  maxPast : c2.maxPast = c.maxPast
  ready : Ready c2
  uniq : Uniq c2.msgs
  /-- every delivered message of the slot is stored as sent, under the epoch of the winner's state -/
  stored : ∀ e ∈ m, e ∈ M → ∀ row, rowOf (epochOf c.g.path + 1) e = some row → findRow row.mid c2.msgs = some row
  /-- the row of any other message id changed at most by the re-marking of a rollback to the PARENT epoch -/
  kept : ∀ mid, (∀ e ∈ M, appMid e ≠ some mid) → ∀ P : Option MsgRow → Prop,
    (∀ o, P o → P (o.map (rbRow (epochOf c.g.path)))) → P (findRow mid c.msgs) → P (findRow mid c2.msgs)
  unseen : ∀ n, getRec c n = none → (∀ e ∈ l ++ m, n ≠ e.n) → getRec c2 n = none
  cons : ∀ x ∈ c2.g.consumed, x ∈ c.g.consumed ∨ (∃ e ∈ T, e.cipher = x) ∨ (∃ e ∈ M, e.cipher = x)
  /-- the retained past states, the stored exporter secrets and the id in force after the level and its slot -/
  past : c2.g.past = (c.g.path :: c.g.past).take c.maxPast
  secrets : (ensureSecret c2.g).secrets = secretsAfter (c.g.path ++ [w.cipher]) (secretsAfter c.g.path c.g.secrets)
  sec0 : alookup (epochOf c.g.path) (secretsAfter c.g.path c.g.secrets) = some c.g.path
  recNid : c2.g.recNid = c.g.recNid

theorem secretsAfter_idem (p : Path) (S : List (Nat × Path)) : secretsAfter p (secretsAfter p S) = secretsAfter p S := by
  unfold secretsAfter
  cases h : alookup (epochOf p) S with
  | some q => simp [h]
  | none => simp [alookup_ainsert_self]

/-- **one level and its slot**: a client at the fork `T` in either role, the level's delivery list `l` (all of `T`, any
    order, any repetition, stale events interleaved), then any list `m` over the messages `M` created in the state the
    MIP-03 winner `w` leads to (any order, any repetition, stale events interleaved) -/
theorem msg_level_slot (nx : Nat) (c : Cl) (w : Ev) (T M l m : List Ev) (hat : AtFork c T) (hbelow : Below c)
    (hu : Uniq c.msgs) (hmin : IsMin w T) (hl : ∀ e ∈ l, e ∈ T ∨ StaleAt c T e) (hcov : ∀ e ∈ T, e ∈ l)
    (hM : SlotEv c.id (coreStep (core c.g) w) M) (hfresh : Fresh c M)
    (hlM : ∀ e1 ∈ l, ∀ e2 ∈ M, e1.n ≠ e2.n) (hTM : ∀ e1 ∈ T, ∀ e2 ∈ M, e1.cipher ≠ e2.cipher)
    (hm : ∀ e ∈ m, e ∈ M ∨ StaleSlot (c.g.path ++ [w.cipher]) M e) :
    LevelSlotDone c w T M l m (run nx (run nx c l) m) := by
  have hd := fork_level_min c T l nx hat hl hcov hmin
  have hsec : SecretsOK c.g := atFork_secrets hat
  have hready1 : Ready (run nx c l) :=
    ⟨hd.form.hg, hd.active, by rw [hd.form.ret]; exact hd.base.ret, hd.secrets hsec, hd.below hbelow, hd.recNid⟩
  have hrows : MTrans (epochOf c.g.path) (fun _ => False) c.msgs (run nx c l).msgs := by
    have := level_rows c T nx hat l [] (by simpa using hl) (ownRec_atFork hat)
    simpa using this
  have hu1 : Uniq (run nx c l).msgs := hrows.uniq hu
  have hb : SlotBase (run nx c l) M := by
    refine ⟨by rw [hd.form.id, hd.core]; exact hM, ?_⟩
    intro e he
    constructor
    · exact (hd.frame e.n (fun x hx => (hlM x hx e he).symm)).recs (· = none) (fun o ho => by rw [ho]; rfl) (hfresh e he).1
    · intro hx
      rcases hd.cons _ hx with y | ⟨e', he', y⟩
      · exact (hfresh e he).2 y
      · exact hTM e' he' e he y
  have hslot := slot_run (run nx c l) M nx hb m [] _ (slotInv_init _ M hready1 hu1) (by rw [hd.path]; exact hm)
  rw [List.nil_append] at hslot
  refine ⟨hslot.path.trans hd.path, hslot.core.trans hd.core, hslot.id.trans hd.form.id,
    hslot.persistent.trans (run_persistent nx l c), hslot.retention.trans hd.form.ret, hslot.maxPast.trans hd.form.mp,
    hslot.ready, hslot.uniq, ?_, ?_, ?_, ?_, ?_, ?_, ?_, hslot.gk.recNid.trans hd.keptId⟩
  rotate_left 4
  · obtain ⟨b, sw, hk⟩ := hd.com.kind
    have := (wc_fields hd.g).2.2.2.2.2.2.2.2.2.2.2.2.1
    rw [childOfG_commit c.maxPast c.g w b sw hk] at this
    rw [hslot.gk.past, this]
  · obtain ⟨b, sw, hk⟩ := hd.com.kind
    have := (wc_fields hd.g).2.2.2.2.2.2.2.2.2.2.2.1
    rw [childOfG_commit c.maxPast c.g w b sw hk] at this
    rw [hslot.gk.secrets, ensureSecret_eq, hd.path, this]
    exact secretsAfter_idem _ _
  · have := gP_sec0 c hd.base
    rw [gP, ensureSecret_eq] at this
    exact this
  · intro e he heM row hr
    rw [← hd.epoch] at hr
    exact (hslot.done e he heM row hr).1
  · intro mid hmid P hP hp
    rw [hslot.rows mid (fun e _ heM => hmid e heM)]
    exact hrows.frame mid (fun r hr => hr.elim) P hP hp
  · intro n hn hne
    rw [hslot.recs n (fun e he => hne e (List.mem_append_right _ he))]
    exact (hd.frame n (fun e he => hne e (List.mem_append_left _ he))).recs (· = none) (fun o ho => by rw [ho]; rfl) hn
  · intro x hx
    rcases hslot.cons x hx with y | ⟨e, _, heM, y⟩
    · rcases hd.cons x y with z | z
      · exact Or.inl z
      · exact Or.inr (Or.inl z)
    · exact Or.inr (Or.inr ⟨e, heM, y⟩)

/-! ### retained past states (the past-epoch window along a chain) -/

/-- the state with path `q`, `d ≥ 1` epochs back, is a retained past state of `g` (at position `d - 1` of `past`, the most
    recent first) whose exporter secret is stored -/
structure Retained (g : GState) (q : Path) (d : Nat) : Prop where
  pos : 1 ≤ d
  past : g.past[d - 1]? = some q
  secret : alookup (epochOf q) (ensureSecret g).secrets = some q
  epoch : epochOf q + d = epochOf g.path

theorem Retained.contains {g : GState} {q : Path} {d : Nat} (h : Retained g q d) : g.past.contains q = true := by
  have := List.mem_of_getElem? h.past
  simpa using this

/-- the outer layer opens an event of a retained past state at most `DEFAULT_EPOCH_LOOKBACK = 5` epochs back (the `5` of
    `outerOpens`) -/
theorem outerOpens_retained {g : GState} {q : Path} {d : Nat} (h : Retained g q d) (hd : d ≤ 5) (e : Ev) (hp : e.path = q) :
    outerOpens (ensureSecret g) e = true := by
  have hpos := h.pos
  have hep := h.epoch
  simp only [outerOpens, Bool.or_eq_true, List.any_eq_true]
  right
  refine ⟨d - 1, by simp; omega, ?_⟩
  have e1 : d - 1 + 1 = d := by omega
  have e2 : epochOf (ensureSecret g).path - d = epochOf q := by rw [ensureSecret_path]; omega
  rw [e1, e2, h.secret, hp]
  simp
  omega

theorem retained_step {c c2 : Cl} {w : Ev} {T M l m : List Ev} (h1 : LevelSlotDone c w T M l m c2) :
    (∀ q d, Retained c.g q d → d + 1 ≤ c.maxPast → Retained c2.g q (d + 1)) ∧
    (1 ≤ c.maxPast → Retained c2.g c.g.path 1) := by
  have hpath : epochOf c2.g.path = epochOf c.g.path + 1 := by rw [h1.path, epochOf_snoc]
  constructor
  · intro q d hr hd
    have hpos := hr.pos
    refine ⟨by omega, ?_, ?_, by rw [hpath]; have := hr.epoch; omega⟩
    · rw [h1.past, List.getElem?_take]
      have : d + 1 - 1 < c.maxPast := by omega
      rw [if_pos this]
      have e1 : d + 1 - 1 = (d - 1) + 1 := by omega
      rw [e1, List.getElem?_cons_succ]
      exact hr.past
    · rw [h1.secrets, alookup_secretsAfter_ne _ _ _ (by rw [epochOf_snoc]; have := hr.epoch; omega)]
      have := hr.secret
      rw [ensureSecret_eq] at this
      exact this
  · intro hmp
    refine ⟨Nat.le_refl _, ?_, ?_, by rw [hpath]⟩
    · rw [h1.past, List.getElem?_take]
      simp
      omega
    · rw [h1.secrets, alookup_secretsAfter_ne _ _ _ (by rw [epochOf_snoc]; omega)]
      exact h1.sec0

/-! ### chains of levels with their slots -/

/-- the conditions on the messages of all slots of a chain, on the EVENTS and the core of the start state only: slot k
    holds application messages created in the state the winners of levels 1..k lead to (`SlotEv`), event numbers and
    ciphertexts differ from those of every commit of the chain from level k on and of every message of a later slot,
    message ids differ from those of the later slots -/
def SlotsEv (id : Nat) : Core → List Level → List (List Ev) → Prop
  | _, [], [] => True
  | k, L :: Ls, M :: Ms =>
      SlotEv id (coreStep k L.1) M ∧
      (∀ a ∈ L.2, ∀ b ∈ M ++ Ms.flatten, a.n ≠ b.n ∧ a.cipher ≠ b.cipher) ∧
      (∀ a ∈ M, ∀ b ∈ evs Ls ++ Ms.flatten, a.n ≠ b.n ∧ a.cipher ≠ b.cipher) ∧
      (∀ a ∈ M, ∀ b ∈ Ms.flatten, appMid a ≠ appMid b) ∧
      SlotsEv id (coreStep k L.1) Ls Ms
  | _, _, _ => False

/-- a schedule: per level the delivery list of the level (`.1`: every commit of the level at least once, any order, any
    repetition, events that are stale for the level interleaved) followed by the delivery list of its slot (`.2`: messages
    of the slot — any of them, any order, any repetition — and events that are stale for the winner's state).  Stale
    events carry event numbers different from those of `all`. -/
def MLevelWise (all : List Ev) : Path → List Level → List (List Ev) → List (List Ev × List Ev) → Prop
  | _, [], [], [] => True
  | p, L :: Ls, M :: Ms, lm :: rest =>
      (∀ e ∈ lm.1, e ∈ L.2 ∨ (StalePath p L.2 e ∧ ∀ a ∈ all, e.n ≠ a.n)) ∧ (∀ e ∈ L.2, e ∈ lm.1) ∧
      (∀ e ∈ lm.2, e ∈ M ∨ (¬ e.path <+: p ++ [L.1.cipher] ∧ ∀ a ∈ all, e.n ≠ a.n)) ∧
      MLevelWise all (p ++ [L.1.cipher]) Ls Ms rest
  | _, _, _, _ => False

/-- the whole delivery list of a schedule -/
def flat (sched : List (List Ev × List Ev)) : List Ev := sched.flatMap (fun p => p.1 ++ p.2)

@[simp] theorem flat_nil : flat [] = [] := rfl
@[simp] theorem flat_cons (lm : List Ev × List Ev) (rest : List (List Ev × List Ev)) :
    flat (lm :: rest) = lm.1 ++ (lm.2 ++ flat rest) := by simp [flat]

/-- what a client has done after a schedule over a chain with slots -/
structure MsgDone (c : Cl) (Ls : List Level) (Ms : List (List Ev)) (sched : List (List Ev × List Ev)) (c' : Cl) : Prop where
  path : c'.g.path = c.g.path ++ Ls.map (·.1.cipher)
  core : core c'.g = (Ls.map (·.1)).foldl coreStep (core c.g)
  id : c'.id = c.id
  persistent : c'.persistent = c.persistent
  retention : c'.retention = c.retention
  maxPast : c'.maxPast = c.maxPast
  ready : Ready c'
  uniq : Uniq c'.msgs
  /-- every message of slot k that was delivered in slot k has its row: the sender's data, Processed, epoch tag = the
      epoch of the state it was created in -/
  stored : ∀ k lm M, sched[k]? = some lm → Ms[k]? = some M → ∀ e ∈ lm.2, e ∈ M → ∀ row,
    rowOf (epochOf c.g.path + k + 1) e = some row → findRow row.mid c'.msgs = some row
  /-- message ids that belong to no slot: no row appears, and a row filed under an epoch up to the start epoch stays as it is -/
  kept : ∀ mid, (∀ e ∈ Ms.flatten, appMid e ≠ some mid) →
    (findRow mid c.msgs = none → findRow mid c'.msgs = none) ∧
    (∀ row, findRow mid c.msgs = some row → row.epoch ≤ epochOf c.g.path → findRow mid c'.msgs = some row)
  recNid : c'.g.recNid = c.g.recNid
  unseen : ∀ n, getRec c n = none → (∀ e ∈ flat sched, n ≠ e.n) → getRec c' n = none
  cons : ∀ x ∈ c'.g.consumed, x ∈ c.g.consumed ∨ ∃ e ∈ evs Ls ++ Ms.flatten, e.cipher = x
  /-- a retained past state stays retained as long as it is at most `max_past_epochs` back -/
  retained : ∀ q d, Retained c.g q d → d + Ls.length ≤ c.maxPast → Retained c'.g q (d + Ls.length)
  /-- the states the client went through are retained: the state after level k, `d` epochs back (k + d = number of levels) -/
  own : ∀ k d, k + d = Ls.length → 1 ≤ d → d ≤ c.maxPast →
    Retained c'.g (c.g.path ++ (Ls.map (·.1.cipher)).take k) d

theorem msgDone_nil (c : Cl) (hr : Ready c) (hu : Uniq c.msgs) : MsgDone c [] [] [] c :=
  ⟨by simp, rfl, rfl, rfl, rfl, rfl, hr, hu, fun k lm M h => by simp at h, fun _ _ => ⟨id, fun _ h _ => h⟩, rfl,
   fun _ h _ => h, fun _ h => Or.inl h, fun _ _ h _ => h, fun k d h1 h2 _ => by simp at h1; omega⟩

/-- a level with its slot followed by the rest of the chain -/
theorem msgDone_cons {c c2 c' : Cl} {w : Ev} {T M l m : List Ev} {Ls : List Level} {Ms : List (List Ev)}
    {rest : List (List Ev × List Ev)} (h1 : LevelSlotDone c w T M l m c2) (h2 : MsgDone c2 Ls Ms rest c')
    (hmids : ∀ a ∈ M, ∀ b ∈ Ms.flatten, appMid a ≠ appMid b) :
    MsgDone c ((w, T) :: Ls) (M :: Ms) ((l, m) :: rest) c' := by
  have hep : epochOf c2.g.path = epochOf c.g.path + 1 := by rw [h1.path, epochOf_snoc]
  refine ⟨?_, ?_, h2.id.trans h1.id, h2.persistent.trans h1.persistent, h2.retention.trans h1.retention,
    h2.maxPast.trans h1.maxPast, h2.ready, h2.uniq, ?_, ?_, h2.recNid.trans h1.recNid, ?_, ?_, ?_, ?_⟩
  rotate_left 4
  · intro n hn hne
    refine h2.unseen n (h1.unseen n hn (fun e he => hne e ?_)) (fun e he => hne e ?_)
    · rw [flat_cons]
      rcases List.mem_append.mp he with x | x
      · exact List.mem_append_left _ x
      · exact List.mem_append_right _ (List.mem_append_left _ x)
    · rw [flat_cons]
      exact List.mem_append_right _ (List.mem_append_right _ he)
  · intro x hx
    rcases h2.cons x hx with y | ⟨e, he, y⟩
    · rcases h1.cons x y with z | ⟨e, he, z⟩ | ⟨e, he, z⟩
      · exact Or.inl z
      · exact Or.inr ⟨e, by simp [he], z⟩
      · exact Or.inr ⟨e, by simp [he], z⟩
    · refine Or.inr ⟨e, ?_, y⟩
      rcases List.mem_append.mp he with z | z
      · simp [z]
      · simp [z]
  · intro q d hr hd
    simp only [List.length_cons] at hd
    have r1 := (retained_step h1).1 q d hr (by omega)
    have r2 := h2.retained q (d + 1) r1 (by rw [h1.maxPast]; omega)
    have : d + 1 + Ls.length = d + (((w, T) :: Ls).length) := by simp only [List.length_cons]; omega
    rw [this] at r2
    exact r2
  · intro k d hkd hd1 hdm
    simp only [List.length_cons] at hkd
    cases k with
    | zero =>
      have r1 := (retained_step h1).2 (by omega)
      have r2 := h2.retained c.g.path 1 r1 (by rw [h1.maxPast]; omega)
      have : 1 + Ls.length = d := by omega
      rw [this] at r2
      simpa using r2
    | succ k' =>
      have r2 := h2.own k' d (by omega) hd1 (by rw [h1.maxPast]; exact hdm)
      rw [h1.path] at r2
      simpa [List.take_succ_cons] using r2
  · rw [h2.path, h1.path]; simp
  · rw [h2.core, h1.core]; rfl
  · intro k lm M' hk hM' e he heM row hr
    cases k with
    | zero =>
      simp only [List.getElem?_cons_zero, Option.some.injEq] at hk hM'
      subst hk; subst hM'
      have hfound := h1.stored e he heM row (by simpa using hr)
      have hmid := rowOf_mid hr
      refine (h2.kept row.mid ?_).2 row hfound ?_
      · intro b hb hbm
        exact hmids e heM b hb (by rw [hmid, hbm])
      · rw [rowOf_epoch hr, hep]; omega
    | succ k' =>
      simp only [List.getElem?_cons_succ] at hk hM'
      refine h2.stored k' lm M' hk hM' e he heM row ?_
      rw [hep]
      have : epochOf c.g.path + 1 + k' + 1 = epochOf c.g.path + (k' + 1) + 1 := by omega
      rw [this]; exact hr
  · intro mid hmid
    have hM : ∀ e ∈ M, appMid e ≠ some mid := fun e he => hmid e (by simp [he])
    have hMs : ∀ e ∈ Ms.flatten, appMid e ≠ some mid := fun e he => hmid e (by
      simp only [List.flatten_cons, List.mem_append]; exact Or.inr he)
    constructor
    · intro hn
      exact (h2.kept mid hMs).1 (h1.kept mid hM (· = none) (fun o ho => by rw [ho]; rfl) hn)
    · intro row hrow hle
      have : findRow mid c2.msgs = some row :=
        h1.kept mid hM (· = some row) (fun o ho => by rw [ho]; simp [rbRow_le hle]) hrow
      exact (h2.kept mid hMs).2 row this (by rw [hep]; omega)

/-- one level (any role) with its slot, then the rest of the chain as given by `ih` -/
theorem msg_chain_step (nx : Nat) (all : List Ev) (c : Cl) (w : Ev) (T M : List Ev) (Ls : List Level) (Ms : List (List Ev))
    (lm : List Ev × List Ev) (rest : List (List Ev × List Ev))
    (hat : AtFork c T) (hbelow : Below c) (hu : Uniq c.msgs) (hmin : IsMin w T)
    (hcross : ∀ e1 ∈ T, ∀ e2 ∈ evs Ls, e1.n ≠ e2.n ∧ e1.cipher ≠ e2.cipher)
    (hch : ChainEv c.id (coreStep (core c.g) w) Ls)
    (hms : SlotsEv c.id (core c.g) ((w, T) :: Ls) (M :: Ms))
    (hall : ∀ e ∈ T ++ evs Ls ++ (M :: Ms).flatten, e ∈ all)
    (hfresh : Fresh c (evs Ls ++ (M :: Ms).flatten))
    (hw : MLevelWise all c.g.path ((w, T) :: Ls) (M :: Ms) (lm :: rest))
    (ih : ∀ c2 : Cl, Ready c2 → Uniq c2.msgs → c2.g.path = c.g.path ++ [w.cipher] → ChainEv c2.id (core c2.g) Ls →
      SlotsEv c2.id (core c2.g) Ls Ms → Fresh c2 (evs Ls ++ Ms.flatten) → MsgDone c2 Ls Ms rest (run nx c2 (flat rest))) :
    MsgDone c ((w, T) :: Ls) (M :: Ms) (lm :: rest) (run nx c (flat (lm :: rest))) := by
  obtain ⟨l, m⟩ := lm
  obtain ⟨hl, hcov, hm, _⟩ := hw
  obtain ⟨hM, hTM, hMF, hmids, hms'⟩ := hms
  have hTall : ∀ a ∈ T, a ∈ all := fun a ha => hall a (by simp [ha])
  have hMall : ∀ a ∈ M, a ∈ all := fun a ha => hall a (by simp [ha])
  have hFall : ∀ a ∈ evs Ls ++ Ms.flatten, a ∈ all := by
    intro a ha
    rcases List.mem_append.mp ha with x | x
    · exact hall a (by simp [x])
    · exact hall a (by simp [x])
  have hlS : ∀ e ∈ l, e ∈ T ∨ StaleAt c T e := fun e he => (hl e he).imp id (staleAt_of_path hTall)
  have hmS : ∀ e ∈ m, e ∈ M ∨ StaleSlot (c.g.path ++ [w.cipher]) M e :=
    fun e he => (hm e he).imp id (fun x => ⟨x.1, fun a ha => x.2 a (hMall a ha)⟩)
  have h1 := msg_level_slot nx c w T M l m hat hbelow hu hmin hlS hcov hM
    (fun e he => hfresh e (by simp [he]))
    (by
      intro e1 h1 e2 h2
      rcases hl e1 h1 with x | x
      · exact (hTM e1 x e2 (by simp [h2])).1
      · exact x.2 e2 (hMall e2 h2))
    (fun e1 h1 e2 h2 => (hTM e1 h1 e2 (by simp [h2])).2) hmS
  -- the future events are still unseen and unconsumed
  have hfresh2 : Fresh (run nx (run nx c l) m) (evs Ls ++ Ms.flatten) := by
    intro e he
    have hef := hfresh e (by
      rcases List.mem_append.mp he with x | x
      · simp [x]
      · simp [x])
    have hTe : ∀ a ∈ T, a.n ≠ e.n ∧ a.cipher ≠ e.cipher := by
      intro a ha
      rcases List.mem_append.mp he with x | x
      · exact hcross a ha e x
      · exact hTM a ha e (by simp [x])
    constructor
    · apply h1.unseen e.n hef.1
      intro x hx
      rcases List.mem_append.mp hx with y | y
      · rcases hl x y with z | z
        · exact (hTe x z).1.symm
        · exact (z.2 e (hFall e he)).symm
      · rcases hm x y with z | z
        · exact (hMF x z e he).1.symm
        · exact (z.2 e (hFall e he)).symm
    · intro hx
      rcases h1.cons _ hx with y | ⟨a, ha, y⟩ | ⟨a, ha, y⟩
      · exact hef.2 y
      · exact (hTe a ha).2 y
      · exact (hMF a ha e he).2 y
  have h2 := ih _ h1.ready h1.uniq h1.path (by rw [h1.id, h1.core]; exact hch) (by rw [h1.id, h1.core]; exact hms') hfresh2
  have hrun : run nx c (flat ((l, m) :: rest)) = run nx (run nx (run nx c l) m) (flat rest) := by
    rw [flat_cons, run_append, run_append]
  rw [hrun]
  exact msgDone_cons h1 h2 hmids

/-- **chain of forks with message slots, bystander**: induction over the levels -/
theorem msg_chain_rest (nx : Nat) (all : List Ev) (Ls : List Level) : ∀ (c : Cl) (Ms : List (List Ev))
    (sched : List (List Ev × List Ev)), Ready c → Uniq c.msgs → ChainEv c.id (core c.g) Ls → SlotsEv c.id (core c.g) Ls Ms →
    (∀ e ∈ evs Ls ++ Ms.flatten, e ∈ all) → Fresh c (evs Ls ++ Ms.flatten) → MLevelWise all c.g.path Ls Ms sched →
    MsgDone c Ls Ms sched (run nx c (flat sched)) := by
  induction Ls with
  | nil =>
    intro c Ms sched hr hu _ hms _ _ hw
    cases Ms with
    | nil =>
      cases sched with
      | nil => exact msgDone_nil c hr hu
      | cons _ _ => cases hw
    | cons _ _ => cases hms
  | cons L Ls ih =>
    intro c Ms sched hr hu hch hms hall hfresh hw
    obtain ⟨w, T⟩ := L
    cases Ms with
    | nil => cases hms
    | cons M Ms =>
      cases sched with
      | nil => cases hw
      | cons lm rest =>
        obtain ⟨hlev, hmin, hcross, hch'⟩ := hch
        have hS : Siblings c T := siblings_of_levelEv c T hr.nid hlev (fun e he => hfresh e (by simp [he]))
        have hall' : ∀ e ∈ T ++ evs Ls ++ (M :: Ms).flatten, e ∈ all := by
          intro e he; apply hall e
          simpa [List.append_assoc] using he
        refine msg_chain_step nx all c w T M Ls Ms lm rest
          (.bystander hr.hasGroup hr.act hr.ret hr.sec hr.below.noFork hr.nid hS) hr.below hu hmin hcross hch' hms hall'
          (fun e he => hfresh e (by
            rcases List.mem_append.mp he with x | x
            · simp [x]
            · exact List.mem_append_right _ x)) hw ?_
        intro c2 hr2 hu2 hp2 hch2 hms2 hf2
        exact ih c2 Ms rest hr2 hu2 hch2 hms2
          (fun e he => hall e (by
            rcases List.mem_append.mp he with x | x
            · simp [x]
            · simp [x])) hf2 (hp2 ▸ hw.2.2.2)

/-- **chain of forks with message slots, first level in any role** (bystander or committer), later levels as a bystander -/
theorem msg_chain_run (nx : Nat) (all : List Ev) (c : Cl) (w : Ev) (T : List Ev) (rest : List Level) (Ms : List (List Ev))
    (sched : List (List Ev × List Ev)) (hat : AtFork c T) (hbelow : Below c) (hu : Uniq c.msgs) (hmin : IsMin w T)
    (hcross : ∀ e1 ∈ T, ∀ e2 ∈ evs rest, e1.n ≠ e2.n ∧ e1.cipher ≠ e2.cipher)
    (hch : ChainEv c.id (coreStep (core c.g) w) rest)
    (hms : SlotsEv c.id (core c.g) ((w, T) :: rest) Ms)
    (hall : ∀ e ∈ T ++ evs rest ++ Ms.flatten, e ∈ all)
    (hfresh : Fresh c (evs rest ++ Ms.flatten))
    (hw : MLevelWise all c.g.path ((w, T) :: rest) Ms sched) :
    MsgDone c ((w, T) :: rest) Ms sched (run nx c (flat sched)) := by
  cases Ms with
  | nil => cases hms
  | cons M Ms =>
    cases sched with
    | nil => cases hw
    | cons lm rest' =>
      refine msg_chain_step nx all c w T M rest Ms lm rest' hat hbelow hu hmin hcross hch hms hall hfresh hw ?_
      intro c2 hr2 hu2 hp2 hch2 hms2 hf2
      exact msg_chain_rest nx all rest c2 Ms rest' hr2 hu2 hch2 hms2
        (fun e he => hall e (by
          rcases List.mem_append.mp he with x | x
          · simp [x]
          · simp [x])) hf2 (hp2 ▸ hw.2.2.2)

/-! ## §F  messages of a losing branch: an invariant of every schedule of foreign events

  `P` is the MLS path of a fork's parent state, `w` the ciphertext of the commit the client ends on, `LM` the message
  ids of messages created on OTHER branches of that fork.  Whatever foreign events are delivered, in whatever order:
  a row with an id of `LM` that is not invalidated carries an epoch tag later than the parent's, and while such a row
  exists the client is not on the branch through `w` — because the only way from another branch of the fork to that
  branch is a rollback to the parent epoch or below, which invalidates the row. -/

/-- snapshots hold earlier states of the branch the client is on -/
structure PrefInv (c : Cl) : Prop where
  below : ∀ s ∈ c.mgr, s.saved.path <+: c.g.path
  sorted : c.mgr.Pairwise (fun a b => a.saved.path <+: b.saved.path)

/-- the rows of the losing branches' messages (`LM`), seen from the fork at `P` whose winner is `w`: such a row that is still
    valid was filed beyond the fork's epoch, and then the client is not on the winner's branch -/
structure RowInv (P : Path) (w : Nat) (LM : Nat → Prop) (c : Cl) : Prop where
  /-- a row that is not invalidated was filed under an epoch the client has not rolled back beyond -/
  bound : ∀ r ∈ c.msgs, r.state ≠ 3 → r.epoch ≤ epochOf c.g.path
  losing : ∀ r ∈ c.msgs, LM r.mid → r.state ≠ 3 → epochOf P < r.epoch ∧ ¬ (P ++ [w]) <+: c.g.path

def LI (P : Path) (w : Nat) (LM : Nat → Prop) (c : Cl) : Prop := PrefInv c ∧ RowInv P w LM c

/-- every application message that carries an id of `LM` was created on a branch through another child of `P` than `w` -/
def LosingEv (P : Path) (w : Nat) (LM : Nat → Prop) (e : Ev) : Prop :=
  ∀ m, appMid e = some m → LM m → ∃ a, a ≠ w ∧ (P ++ [a]) <+: e.path

theorem li_same {P : Path} {w : Nat} {LM : Nat → Prop} {c c' : Cl} (h : LI P w LM c) (hp : c'.g.path = c.g.path)
    (hm : c'.mgr = c.mgr) (hmsgs : c'.msgs = c.msgs) : LI P w LM c' :=
  ⟨⟨fun s hs => by rw [hp]; exact h.1.below s (hm ▸ hs), hm ▸ h.1.sorted⟩,
   ⟨fun r hr => by rw [hp]; exact h.2.bound r (hmsgs ▸ hr), fun r hr => by rw [hp]; exact h.2.losing r (hmsgs ▸ hr)⟩⟩

theorem prefix_snoc_cases {p q : Path} {x y : Nat} (h : p ++ [x] <+: q ++ [y]) : (p = q ∧ x = y) ∨ p ++ [x] <+: q := by
  rcases List.prefix_concat_iff.mp h with z | z
  · left
    have := List.append_inj' z rfl
    exact ⟨this.1, by simpa using this.2⟩
  · exact Or.inr z

theorem two_children {P q : Path} {a w : Nat} (h1 : P ++ [a] <+: q) (h2 : P ++ [w] <+: q) : a = w := by
  obtain ⟨t1, rfl⟩ := h1
  obtain ⟨t2, h2⟩ := h2
  simp only [List.append_assoc, List.append_cancel_left_eq, List.singleton_append, List.cons.injEq] at h2
  exact h2.1.symm

/-- snapshot the current state, then move one commit on -/
theorem li_extend {P : Path} {w : Nat} {LM : Nat → Prop} {c c' : Cl} (h : LI P w LM c) (e : Ev) (x : Nat)
    (hm : c'.mgr = (mgrCreate c (epochOf c.g.path) e).mgr) (hmsgs : c'.msgs = c.msgs) (hp : c'.g.path = c.g.path ++ [x]) :
    LI P w LM c' := by
  refine ⟨⟨?_, ?_⟩, ⟨?_, ?_⟩⟩
  · rw [hm, hp]
    exact mgrCreate_saved (Q := fun g => g.path <+: c.g.path ++ [x]) _ e (List.prefix_append _ _)
      (fun s hs => (h.1.below s hs).trans (List.prefix_append _ _))
  · rw [hm]
    exact mgrCreate_sorted _ e h.1.sorted h.1.below
  · intro r hr hv
    rw [hp, epochOf_snoc]
    exact Nat.le_succ_of_le (h.2.bound r (hmsgs ▸ hr) hv)
  · intro r hr hl hv
    obtain ⟨h1, h2⟩ := h.2.losing r (hmsgs ▸ hr) hl hv
    refine ⟨h1, ?_⟩
    rw [hp]
    intro hx
    rcases prefix_snoc_cases hx with ⟨z, _⟩ | z
    · have := h.2.bound r (hmsgs ▸ hr) hv
      rw [← z] at this
      omega
    · exact h2 z

theorem li_rollbackTo {P : Path} {w : Nat} {LM : Nat → Prop} (c c1 : Cl) (ep : Nat) (hh : HInv c) (h : LI P w LM c)
    (hr : rollbackTo c ep = some c1) : LI P w LM c1 := by
  obtain ⟨h1, s, hs, hsep, hg, h3⟩ := rollbackTo_sorted h.1.sorted hr
  have hsp : epochOf c1.g.path = ep := by rw [hg, ← (hh.saved s hs).2.2]; exact hsep
  have hrow : ∀ r' ∈ c1.msgs, r'.state ≠ 3 → r' ∈ c.msgs ∧ r'.epoch ≤ ep := by
    obtain ⟨_, _, _, _, _, _, rfl⟩ := rollbackTo_spec hr
    intro r' hr' hv
    obtain ⟨r, hr, rfl⟩ := List.mem_map.mp hr'
    by_cases hgt : r.epoch > ep
    · simp [hgt] at hv
    · simp only [hgt, if_false] at hv ⊢
      exact ⟨hr, by omega⟩
  refine ⟨⟨fun t ht => hg ▸ h3 t ht, h1⟩, ⟨?_, ?_⟩⟩
  · intro r' hr' hv
    rw [hsp]; exact (hrow r' hr' hv).2
  · intro r' hr' hl hv
    obtain ⟨a1, a2⟩ := h.2.losing r' (hrow r' hr' hv).1 hl hv
    exact ⟨a1, fun hx => a2 (hx.trans (hg ▸ h.1.below s hs))⟩

theorem li_storeApp {P : Path} {w : Nat} {LM : Nat → Prop} (c : Cl) (e : Ev) (mid ts tok : Nat) (h : LI P w LM c)
    (hpath : e.path <+: c.g.path) (hlose : LM mid → ∃ a, a ≠ w ∧ (P ++ [a]) <+: e.path) :
    LI P w LM (storeApp c e mid ts tok).1 := by
  obtain ⟨l, hl⟩ := updLast_last c.g mid ts
  have hp : (storeApp c e mid ts tok).1.g.path = c.g.path := by
    show (updLast c.g mid ts).path = _
    rw [hl]
  refine ⟨⟨fun s hs => by rw [hp]; exact h.1.below s hs, h.1.sorted⟩, ⟨?_, ?_⟩⟩
  · intro r hr hv
    rw [hp]
    rcases mem_upsertRow _ r c.msgs hr with rfl | x
    · exact Nat.le_refl _
    · exact h.2.bound r x hv
  · intro r hr hlm hv
    rw [hp]
    rcases mem_upsertRow _ r c.msgs hr with rfl | x
    · obtain ⟨a, ha, hpa⟩ := hlose hlm
      have hpa' : P ++ [a] <+: c.g.path := hpa.trans hpath
      refine ⟨?_, fun hx => ha (two_children hpa' hx)⟩
      show epochOf P < epochOf c.g.path
      have := hpa'.length_le
      simp only [List.length_append, List.length_singleton] at this
      simp only [epochOf]; omega
    · exact h.2.losing r x hlm hv

/-- the invariant is kept by every delivery of a foreign event, for every state, event and fuel -/
theorem li_deliverN {P : Path} {w : Nat} {LM : Nat → Prop} (fuel nx : Nat) (c : Cl) (e : Ev)
    (hf : e.sender ≠ c.id) (hlose : LosingEv P w LM e) (hh : HInv c) (h : LI P w LM c) :
    LI P w LM (deliverN fuel nx c e).1 := by
  refine deliverN_induct (P := fun c r => e.sender ≠ c.id → HInv c → LI P w LM c → LI P w LM r.1) nx e
    (fun _ _ _ _ _ _ h => h) ?_ fuel c hf hh h
  intro c r _ hs hf hh h
  have hhw := hinv_withSecret c hh
  have hw : LI P w LM (withSecret c) := li_same h (ensureSecret_path _) rfl rfl
  have hc : LI P w LM (consume (withSecret c) e.cipher) := li_same hw rfl rfl rfl
  have hp (b sw) := mergeCommit_path c.maxPast (consume (withSecret c) e.cipher).g e b sw
  have hstore := li_storeApp (P := P) (w := w) (LM := LM) (consume (withSecret c) e.cipher) e
  -- (the client as a constructor application: see `mtrans_deliverN`)
  obtain ⟨id, pers, ret, mp, hg, g, msgs, recs, mgr⟩ := c
  cases hs with
  | unrouted | evicted => exact li_same h rfl rfl rfl
  | own _ hown | mergedOwn _ _ _ hown => exact absurd hown hf
  | retried _ _ _ _ hrb ih =>
    exact ih (by rw [(frame_rollbackTo 0 _ _ _ hrb).id]; exact hf) (hinv_rollbackTo _ _ _ hhw hrb) (li_rollbackTo _ _ _ hhw hw hrb)
  | committed _ hk =>
    refine processCommit_cases (P := fun r => LI P w LM r.1) _ e _ _ (li_same hc rfl rfl rfl) (fun g' r hg' _ => ?_)
    refine li_extend hc e e.cipher rfl rfl ?_
    rcases hg' with rfl | rfl
    · exact (hp _ _ hk).1
    · exact (ensureSecret_path _).trans (hp _ _ hk).1
  | autoCommitted => exact li_same hw (ensureSecret_path _) rfl rfl
  | stored ho hk =>
    have hpre : e.path <+: (ensureSecret g).path := by
      apply Classical.byContradiction
      intro hn
      have := ho.opens
      rw [outerOpens_stale _ e hhw.sec hn] at this
      cases this
    exact hstore _ _ _ hc hpre (fun hm => hlose _ (appMid_of_kind hk) hm)
  | _ => exact li_same hw rfl rfl rfl

theorem li_run {P : Path} {w : Nat} {LM : Nat → Prop} (nx : Nat) (l : List Ev) : ∀ c : Cl,
    (∀ e ∈ l, e.sender ≠ c.id ∧ LosingEv P w LM e) → HInv c → LI P w LM c →
    HInv (run nx c l) ∧ LI P w LM (run nx c l) := by
  induction l with
  | nil => intro c _ hh h; exact ⟨hh, h⟩
  | cons e t ih =>
    intro c hl hh h
    obtain ⟨hf, hlose⟩ := hl e List.mem_cons_self
    rw [run_cons]
    refine ih _ ?_ (hinv_deliverN 3 nx c e hh) (li_deliverN 3 nx c e hf hlose hh h)
    intro x hx
    rw [(deliver_config nx c e).1]
    exact hl x (List.mem_cons_of_mem _ hx)

/-! ## decidable forms of the event conditions (for closed examples) -/

instance (id : Nat) (k : Core) (M : List Ev) : Decidable (SlotEv id k M) :=
  decidable_of_iff
    ((∀ e ∈ M, (appMid e).isSome = true) ∧ (∀ e ∈ M, e.path = k.1) ∧ (∀ e ∈ M, e.sender ≠ id) ∧ (∀ e ∈ M, e.tag = k.2.2.nid) ∧
      (∀ e1 ∈ M, ∀ e2 ∈ M, e1 ≠ e2 → e1.n ≠ e2.n ∧ e1.cipher ≠ e2.cipher ∧ appMid e1 ≠ appMid e2))
    ⟨fun ⟨a, b, c, d, e⟩ => ⟨a, b, c, d, e⟩, fun h => ⟨h.kind, h.path, h.foreign, h.tag, h.distinct⟩⟩

instance decSlotsEv (id : Nat) : ∀ (k : Core) (Ls : List Level) (Ms : List (List Ev)), Decidable (SlotsEv id k Ls Ms)
  | _, [], [] => isTrue trivial
  | _, [], _ :: _ => isFalse (fun h => h)
  | _, _ :: _, [] => isFalse (fun h => h)
  | k, L :: Ls, M :: Ms => by
    unfold SlotsEv
    have := decSlotsEv id (coreStep k L.1) Ls Ms
    infer_instance

instance decMLevelWise (all : List Ev) : ∀ (p : Path) (Ls : List Level) (Ms : List (List Ev)) (sched : List (List Ev × List Ev)),
    Decidable (MLevelWise all p Ls Ms sched)
  | _, [], [], [] => isTrue trivial
  | _, [], [], _ :: _ => isFalse (fun h => h)
  | _, [], _ :: _, _ => isFalse (fun h => h)
  | _, _ :: _, [], _ => isFalse (fun h => h)
  | _, _ :: _, _ :: _, [] => isFalse (fun h => h)
  | p, L :: Ls, M :: Ms, lm :: rest => by
    unfold MLevelWise
    have := decMLevelWise all (p ++ [L.1.cipher]) Ls Ms rest
    infer_instance

instance (c : Cl) (E : List Ev) : Decidable (Fresh c E) := by unfold Fresh; infer_instance
instance (l : List MsgRow) : Decidable (Uniq l) := by unfold Uniq; infer_instance

end MdkVerif.ChainMsg
