import MdkVerif.Model.Locks
import MdkVerif.Proofs.Ite
/-
  MdkVerif.Proofs.Locks — lemmas about the interleaving semantics of `Model.Locks`
  (generic in the state, result and operation-name types): what `step` does; single-section
  operations run as the sequential run in completion order (`SeqInv`) and keep program order
  (`OrderInv`); thread pools related queue by queue (`Pairs`, `Fresh`) and a relation kept along
  a schedule with stuttering (`exec_sim`); on these, the simulation of check-then-act operations
  by their fusions (`Rel`, `rel_step`) and the decidable form of its side condition.
-/
namespace MdkVerif.Locks
variable {ι σ ρ : Type}

theorem step_nil {c : Cfg ι σ ρ} {t : Nat} (h : c.thr t = []) : step c t = c := by
  simp [step, h]

theorem isDone_some {p : Prog σ ρ} {r : ρ} (h : p.isDone = some r) : p = .done r := by
  cases p <;> simp [Prog.isDone] at h
  subst h; rfl

theorem isDone_done (r : ρ) : (Prog.done r : Prog σ ρ).isDone = some r := rfl

/-- the operation at the head of `t` completes in this step -/
theorem step_complete {c : Cfg ι σ ρ} {t : Nat} {it : Item ι σ ρ} {rest : List (Item ι σ ρ)} {r : ρ}
    (h : c.thr t = it :: rest) (hd : (it.rem.adv c.st).2.1.isDone = some r) :
    step c t = { st := (it.rem.adv c.st).1, thr := setThr c.thr t rest, log := c.log ++ [(t, it.op, r)] } := by
  simp [step, h, hd]

/-- the operation at the head of `t` runs one section and is not finished -/
theorem step_continue {c : Cfg ι σ ρ} {t : Nat} {it : Item ι σ ρ} {rest : List (Item ι σ ρ)}
    (h : c.thr t = it :: rest) (hd : (it.rem.adv c.st).2.1.isDone = none) :
    step c t = { st := (it.rem.adv c.st).1,
                 thr := setThr c.thr t ({ op := it.op, rem := (it.rem.adv c.st).2.1, pc := it.pc + 1,
                                          held := it.held ++ (it.rem.adv c.st).2.2 } :: rest),
                 log := c.log } := by
  simp [step, h, hd]

theorem step_st {c : Cfg ι σ ρ} {t : Nat} {it : Item ι σ ρ} {rest : List (Item ι σ ρ)} (h : c.thr t = it :: rest) :
    (step c t).st = (it.rem.adv c.st).1 := by
  unfold step; rw [h]; dsimp only; split <;> rfl

theorem step_done {c : Cfg ι σ ρ} {t : Nat} {it : Item ι σ ρ} {rest : List (Item ι σ ρ)} {r : ρ}
    (h : c.thr t = it :: rest) (hr : it.rem = .done r) :
    step c t = { st := c.st, thr := setThr c.thr t rest, log := c.log ++ [(t, it.op, r)] } := by
  simp [step, h, hr, Prog.adv, Prog.isDone]

theorem setThr_same (thr : Nat → List (Item ι σ ρ)) (t : Nat) (q : List (Item ι σ ρ)) :
    setThr thr t q t = q := by simp [setThr]

theorem setThr_other (thr : Nat → List (Item ι σ ρ)) {t u : Nat} (q : List (Item ι σ ρ)) (h : u ≠ t) :
    setThr thr t q u = thr u := by simp [setThr, h]

theorem step_sec_done {c : Cfg ι σ ρ} {t : Nat} {it : Item ι σ ρ} {rest : List (Item ι σ ρ)}
    {lk : Lock} {upd : σ → σ} {next : σ → Prog σ ρ} {r : ρ}
    (h : c.thr t = it :: rest) (hr : it.rem = .sec lk upd next) (hn : next c.st = .done r) :
    step c t = { st := upd c.st, thr := setThr c.thr t rest, log := c.log ++ [(t, it.op, r)] } := by
  simp [step, h, hr, hn, Prog.adv, Prog.isDone]

theorem step_sec_sec {c : Cfg ι σ ρ} {t : Nat} {it : Item ι σ ρ} {rest : List (Item ι σ ρ)}
    {lk lk' : Lock} {upd upd' : σ → σ} {next next' : σ → Prog σ ρ}
    (h : c.thr t = it :: rest) (hr : it.rem = .sec lk upd next) (hn : next c.st = .sec lk' upd' next') :
    step c t = { st := upd c.st,
                 thr := setThr c.thr t ({ op := it.op, rem := .sec lk' upd' next', pc := it.pc + 1, held := it.held } :: rest),
                 log := c.log } := by
  simp [step, h, hr, hn, Prog.adv, Prog.isDone]

theorem exec_nil (c : Cfg ι σ ρ) : exec c [] = c := rfl
theorem exec_cons (c : Cfg ι σ ρ) (t : Nat) (r : List Nat) : exec c (t :: r) = exec (step c t) r := rfl

theorem exec_invariant {P : Cfg ι σ ρ → Prop} (hstep : ∀ c t, P c → P (step c t)) (sched : List Nat) :
    ∀ c, P c → P (exec c sched) := foldl_invariant hstep sched

theorem seqRun_snoc (prog : ι → Prog σ ρ) (l : List ι) (i : ι) (s : σ) :
    seqRun prog (l ++ [i]) s =
      (((prog i).run (seqRun prog l s).1).1, (seqRun prog l s).2 ++ [((prog i).run (seqRun prog l s).1).2]) := by
  induction l generalizing s with
  | nil => simp [seqRun]
  | cons j js ih => simp [seqRun, ih]

theorem run_atomic (lk : Lock) (f : σ → σ × ρ) (s : σ) : (Prog.atomic lk f).run s = f s := by
  simp [Prog.atomic, Prog.run]

theorem run_cta (lk1 lk2 : Lock) (chk : σ → Bool) (err : ρ) (act : σ → σ × ρ) (s : σ) :
    (Prog.cta lk1 lk2 chk err act).run s = if chk s then act s else (s, err) := by
  by_cases h : chk s <;> simp [Prog.cta, Prog.run, h, Prog.atomic]

theorem run_fused (lk : Lock) (chk : σ → Bool) (err : ρ) (act : σ → σ × ρ) (s : σ) :
    (Prog.fused lk chk err act).run s = if chk s then act s else (s, err) := by
  simp [Prog.fused, run_atomic]

theorem run_nested {β : Type} (K : NestOps ι σ ρ β) (i : ι) (s : σ) : (K.nested i).run s = K.eff i s := by
  show Prog.run (match K.early i (K.L.get s) with
    | some r => .done r
    | none => K.inner i (K.L.get s)) _ = match K.early i (K.L.get s) with
    | some r => _
    | none => _
  cases K.early i (K.L.get s) <;> rfl

theorem single_atomic (lk : Lock) (f : σ → σ × ρ) : (Prog.atomic lk f).single := by
  intro s; exact ⟨_, rfl⟩

/-! ## single-section operations: every schedule is the sequential run in completion order -/

theorem single_adv {p : Prog σ ρ} (h : p.single) (s : σ) :
    ∃ r, (p.adv s).2.1.isDone = some r ∧ p.run s = ((p.adv s).1, r) := by
  cases p with
  | done r => exact ⟨r, rfl, rfl⟩
  | sec _ upd next | hold _ upd next | act upd next =>
    obtain ⟨r, hr⟩ := h s
    exact ⟨r, by simp [Prog.adv, hr, Prog.isDone], by simp [Prog.run, Prog.adv, hr]⟩

/-- the invariant of `single_section_atomic` -/
def SeqInv (prog : ι → Prog σ ρ) (s0 : σ) (c : Cfg ι σ ρ) : Prop :=
  (∀ t it, it ∈ c.thr t → it.rem = prog it.op ∧ (prog it.op).single) ∧
  seqRun prog (c.log.map (·.2.1)) s0 = (c.st, c.log.map (·.2.2))

theorem seqInv_step (prog : ι → Prog σ ρ) (s0 : σ) (c : Cfg ι σ ρ) (t : Nat)
    (h : SeqInv prog s0 c) : SeqInv prog s0 (step c t) := by
  obtain ⟨hq, hl⟩ := h
  cases hth : c.thr t with
  | nil => rw [step_nil hth]; exact ⟨hq, hl⟩
  | cons it rest =>
    have hrem : it.rem = prog it.op := (hq t it (by simp [hth])).1
    have hs : (prog it.op).single := (hq t it (by simp [hth])).2
    have hrest : ∀ u it', it' ∈ setThr c.thr t rest u → it'.rem = prog it'.op ∧ (prog it'.op).single := by
      intro u it' hm
      by_cases e : u = t
      · subst e; rw [setThr_same] at hm; exact hq u it' (by simp [hth, hm])
      · rw [setThr_other _ _ e] at hm; exact hq u it' hm
    obtain ⟨r, hd, hrun⟩ := single_adv hs c.st
    rw [← hrem] at hd
    rw [step_complete hth hd]
    refine ⟨hrest, ?_⟩
    simp only [List.map_append, List.map_cons, List.map_nil]
    rw [seqRun_snoc, hl, hrun, hrem]

theorem seqInv_init (prog : ι → Prog σ ρ) (ops : Nat → List ι) (hs : ∀ t i, i ∈ ops t → (prog i).single) (s0 : σ) :
    SeqInv prog s0 (init prog ops s0) := by
  refine ⟨?_, ?_⟩
  · intro t it hm
    simp only [init, List.mem_map] at hm
    obtain ⟨i, hi, rfl⟩ := hm
    exact ⟨rfl, hs t i hi⟩
  · simp [init, seqRun]

/-! ## program order: a thread's completed ops followed by its remaining ops are its op list -/

def OrderInv (ops : Nat → List ι) (c : Cfg ι σ ρ) : Prop :=
  ∀ t, ((c.log.filter (fun e => e.1 == t)).map (·.2.1)) ++ (c.thr t).map (·.op) = ops t

theorem orderInv_step (ops : Nat → List ι) (c : Cfg ι σ ρ) (t : Nat) (h : OrderInv ops c) :
    OrderInv ops (step c t) := by
  cases hth : c.thr t with
  | nil => rw [step_nil hth]; exact h
  | cons it rest =>
    have complete : ∀ (s' : σ) (r : ρ),
        OrderInv ops ({ st := s', thr := setThr c.thr t rest, log := c.log ++ [(t, it.op, r)] } : Cfg ι σ ρ) := by
      intro s' r u
      by_cases e : u = t
      · subst e
        have := h u
        rw [hth] at this
        simp only [setThr_same, List.filter_append, List.map_append]
        simpa using this
      · have := h u
        have e' : ¬ (t = u) := fun x => e x.symm
        simp only [setThr_other _ _ e, List.filter_append, List.map_append]
        simpa [e'] using this
    cases hd : (it.rem.adv c.st).2.1.isDone with
    | some r => rw [step_complete hth hd]; exact complete _ r
    | none =>
      rw [step_continue hth hd]
      intro u
      by_cases e : u = t
      · subst e
        have := h u
        rw [hth] at this
        simpa [setThr_same] using this
      · simpa [setThr_other _ _ e] using h u

theorem orderInv_init (prog : ι → Prog σ ρ) (ops : Nat → List ι) (s0 : σ) : OrderInv ops (init prog ops s0) := by
  intro t; simp [init, Function.comp_def]

def Pairs (F : Item ι σ ρ → Item ι σ ρ → Prop) : List (Item ι σ ρ) → List (Item ι σ ρ) → Prop
  | [], [] => True
  | ic :: rc, ia :: ra => F ic ia ∧ Pairs F rc ra
  | _, _ => False

section pairs
variable {F : Item ι σ ρ → Item ι σ ρ → Prop}

theorem pairs_nil_left {qa : List (Item ι σ ρ)} (h : Pairs F [] qa) : qa = [] := by
  cases qa with
  | nil => rfl
  | cons x y => exact h.elim

theorem pairs_cons_left {ic : Item ι σ ρ} {rc qa : List (Item ι σ ρ)} (h : Pairs F (ic :: rc) qa) :
    ∃ ia ra, qa = ia :: ra ∧ F ic ia ∧ Pairs F rc ra := by
  cases qa with
  | nil => exact h.elim
  | cons ia ra => exact ⟨ia, ra, rfl, h.1, h.2⟩

theorem pairs_ops (hF : ∀ ic ia, F ic ia → ic.op = ia.op) :
    ∀ qc qa : List (Item ι σ ρ), Pairs F qc qa → qc.map (·.op) = qa.map (·.op)
  | [], [], _ => rfl
  | ic :: rc, ia :: ra, h => by rw [List.map_cons, List.map_cons, hF ic ia h.1, pairs_ops hF rc ra h.2]
  | [], _ :: _, h => h.elim
  | _ :: _, [], h => h.elim

theorem pairs_map {α : Type} (f g : α → Item ι σ ρ) :
    ∀ l : List α, (∀ i, i ∈ l → F (f i) (g i)) → Pairs F (l.map f) (l.map g)
  | [], _ => trivial
  | i :: l, h => ⟨h i List.mem_cons_self, pairs_map f g l fun j hj => h j (List.mem_cons_of_mem _ hj)⟩

end pairs

/-- an operation that has not started: the same item on both sides (`keep` says what else is known of
    it), or an operation that is to be fused (`is`; `start` says what is known of it) against its fusion -/
def Fresh (is : ι → Bool) (fuse : ι → Prog σ ρ) (keep start : Item ι σ ρ → Prop) (ic ia : Item ι σ ρ) : Prop :=
  (is ic.op = false ∧ ic = ia ∧ keep ic) ∨
  (is ic.op = true ∧ start ic ∧ ia = { op := ic.op, rem := fuse ic.op, pc := 0 })

theorem fresh_op {is : ι → Bool} {fuse : ι → Prog σ ρ} {keep start : Item ι σ ρ → Prop} (ic ia : Item ι σ ρ)
    (h : Fresh is fuse keep start ic ia) : ic.op = ia.op := by
  rcases h with ⟨_, rfl, _⟩ | ⟨_, _, rfl⟩ <;> rfl

theorem setThr_rel {Q : List (Item ι σ ρ) → List (Item ι σ ρ) → Prop} {c a : Cfg ι σ ρ} {t u : Nat}
    {qc qa : List (Item ι σ ρ)} (ht : Q qc qa) (hoth : u ≠ t → Q (c.thr u) (a.thr u)) :
    Q (setThr c.thr t qc u) (setThr a.thr t qa u) := by
  by_cases e : u = t
  · subst e; rw [setThr_same, setThr_same]; exact ht
  · rw [setThr_other _ _ e, setThr_other _ _ e]; exact hoth e

/-- a simulation in which the abstract side stands still where `skip` says so, along a schedule -/
theorem exec_sim {R : Cfg ι σ ρ → Cfg ι σ ρ → Prop} {skip : Cfg ι σ ρ → Nat → Bool} {ok : Cfg ι σ ρ → Nat → Prop}
    {red : Cfg ι σ ρ → List Nat → List Nat} {along : Cfg ι σ ρ → List Nat → Prop}
    (red_nil : ∀ c, red c [] = [])
    (red_cons : ∀ c t r, red c (t :: r) = if skip c t then red (step c t) r else t :: red (step c t) r)
    (along_cons : ∀ c t r, along c (t :: r) → ok c t ∧ along (step c t) r)
    (hstep : ∀ c a t, R c a → ok c t → R (step c t) (if skip c t then a else step a t)) (sched : List Nat) :
    ∀ c a, R c a → along c sched → R (exec c sched) (exec a (red c sched)) := by
  induction sched with
  | nil => intro c a h _; rw [red_nil]; exact h
  | cons t r ih =>
    intro c a h hs
    obtain ⟨h1, h2⟩ := along_cons c t r hs
    have := hstep c a t h h1
    rw [red_cons]
    cases hp : skip c t <;> rw [hp] at this
    · exact ih _ _ this h2
    · exact ih _ _ this h2

/-! ## check-then-act: simulation by the fused (atomic) operations -/

section cta
variable (K : CtaOps ι σ ρ) (prog : ι → Prog σ ρ)

/-- an operation that has not started: identical on both sides, or check-then-act vs its fusion -/
def FreshRel : Item ι σ ρ → Item ι σ ρ → Prop :=
  Fresh K.is (K.fuse prog) (fun _ => True) (fun ic => ic.rem = prog ic.op ∧ ic.pc = 0)

/-- the queues of one thread: nothing has started, or the head is a check-then-act between its
    sections, its check still true, against its fusion -/
def QRel (st : σ) (qc qa : List (Item ι σ ρ)) : Prop :=
  Pairs (FreshRel K prog) qc qa ∨
  ∃ ic rc ra, qc = ic :: rc ∧ qa = { op := ic.op, rem := K.fuse prog ic.op, pc := 0 } :: ra ∧
    K.is ic.op = true ∧ ic.pc > 0 ∧ ic.rem = Prog.atomic (K.lk2 ic.op) (K.act ic.op) ∧ K.chk ic.op st = true ∧
    Pairs (FreshRel K prog) rc ra

def Rel (c a : Cfg ι σ ρ) : Prop :=
  c.st = a.st ∧ c.log = a.log ∧ ∀ u, QRel K prog c.st (c.thr u) (a.thr u)

/-- moving to a new state keeps a queue related, provided a head that is between its sections
    keeps its check true -/
theorem qrel_state (st st' : σ) (qc qa : List (Item ι σ ρ)) (h : QRel K prog st qc qa)
    (hk : ∀ it rest, qc = it :: rest → K.is it.op = true → it.pc > 0 → K.chk it.op st = true → K.chk it.op st' = true) :
    QRel K prog st' qc qa :=
  h.imp id fun ⟨ic, rc, ra, e1, e2, h1, h2, h3, h4, ht⟩ => ⟨ic, rc, ra, e1, e2, h1, h2, h3, hk ic rc e1 h1 h2 h4, ht⟩

theorem qrel_ops (st : σ) (qc qa : List (Item ι σ ρ)) (h : QRel K prog st qc qa) :
    qc.map (·.op) = qa.map (·.op) := by
  rcases h with h | ⟨ic, rc, ra, rfl, rfl, _, _, _, _, ht⟩
  · exact pairs_ops fresh_op _ _ h
  · rw [List.map_cons, List.map_cons, pairs_ops fresh_op _ _ ht]

theorem passes_eq {c : Cfg ι σ ρ} {t : Nat} {it : Item ι σ ρ} {rest : List (Item ι σ ρ)} (h : c.thr t = it :: rest) :
    K.passes c t = (K.is it.op && it.pc == 0 && K.chk it.op c.st) := by
  simp [CtaOps.passes, h]

theorem rel_step (hK : K.describes prog) (c a : Cfg ι σ ρ) (t : Nat) (h : Rel K prog c a)
    (hs : K.stableStep c t) :
    Rel K prog (step c t) (if K.passes c t then a else step a t) := by
  obtain ⟨hst, hlog, hq⟩ := h
  -- other threads stay related whatever the new state is, by the side condition
  have others : ∀ u, u ≠ t → QRel K prog (step c t).st (c.thr u) (a.thr u) := fun u hu =>
    qrel_state K prog c.st _ _ _ (hq u) (hs u hu)
  -- the relation once the head of `t` has completed on both sides with the same state and result
  have completed : ∀ {ic : Item ι σ ρ} {rc ra : List (Item ι σ ρ)} {s' : σ} {r : ρ}, Pairs (FreshRel K prog) rc ra →
      step c t = ⟨s', setThr c.thr t rc, c.log ++ [(t, ic.op, r)]⟩ →
      Rel K prog (step c t) ⟨s', setThr a.thr t ra, a.log ++ [(t, ic.op, r)]⟩ := by
    intro ic rc ra s' r htail hc
    rw [hc] at others ⊢
    exact ⟨rfl, by rw [hlog], fun u => setThr_rel (.inl htail) (others u)⟩
  have fused : ∀ {i : ι} {ra : List (Item ι σ ρ)} (b : Bool), K.is i = true → K.chk i c.st = b →
      a.thr t = { op := i, rem := K.fuse prog i, pc := 0 } :: ra →
      step a t = ⟨(if b then K.act i c.st else (c.st, K.err i)).1, setThr a.thr t ra,
        a.log ++ [(t, i, (if b then K.act i c.st else (c.st, K.err i)).2)]⟩ := by
    intro i ra b hi hb hta
    rw [show K.fuse prog i = Prog.fused (K.lk2 i) (K.chk i) (K.err i) (K.act i) by simp [CtaOps.fuse, hi]] at hta
    rw [← hb, hst]
    exact step_complete hta rfl
  rcases hq t with hp | ⟨ic, rc, ra, hth, hta, hyes, hpc, hrem, hchk, htail⟩
  · cases hth : c.thr t with
    | nil =>
      rw [hth] at hp
      have hps : K.passes c t = false := by simp [CtaOps.passes, hth]
      rw [hps, step_nil hth, step_nil (pairs_nil_left hp)]; exact ⟨hst, hlog, hq⟩
    | cons ic rc =>
      rw [hth] at hp
      obtain ⟨ia, ra, hta, hfresh, htail⟩ := pairs_cons_left hp
      rw [passes_eq K hth]
      rcases hfresh with ⟨hno, rfl, _⟩ | ⟨hyes, ⟨hrem, hpc⟩, rfl⟩
      · -- not a check-then-act: both sides run the same item
        rw [hno]; simp only [Bool.false_and, Bool.false_eq_true, if_false]
        cases hd : (ic.rem.adv c.st).2.1.isDone with
        | some r =>
          rw [step_complete hta (hst ▸ hd), ← hst]; exact completed htail (step_complete hth hd)
        | none =>
          have hc := step_continue hth hd
          rw [step_continue hta (hst ▸ hd), ← hst, hc]; rw [hc] at others
          exact ⟨rfl, hlog, fun u => setThr_rel (.inl ⟨.inl ⟨hno, rfl, trivial⟩, htail⟩) (others u)⟩
      · -- a check-then-act that has not started, against its fusion
        rw [hK ic.op hyes] at hrem
        rw [hyes, hpc]; simp only [Bool.true_and, beq_self_eq_true]
        have hadv : ic.rem.adv c.st =
            (c.st, if K.chk ic.op c.st then Prog.atomic (K.lk2 ic.op) (K.act ic.op) else .done (K.err ic.op), []) := by
          rw [hrem]; rfl
        cases hchk : K.chk ic.op c.st <;> rw [hchk] at hadv
        · -- the check fails: both sides complete with the error, state unchanged
          simp only [Bool.false_eq_true, if_false]
          rw [fused false hyes hchk hta]
          exact completed htail ((step_complete hth (by rw [hadv]; rfl)).trans (by rw [hadv]; rfl))
        · -- the check passes: the concrete side only remembers it, the abstract side waits
          simp only [if_true]
          have hc := step_continue hth (by rw [hadv]; rfl)
          rw [hadv] at hc
          rw [hc] at others ⊢
          refine ⟨hst, hlog, fun u => ?_⟩
          by_cases e : u = t
          · subst e
            simp only [setThr_same]
            exact .inr ⟨_, rc, ra, rfl, hta, hyes, Nat.succ_pos _, rfl, hchk, htail⟩
          · simp only [setThr_other _ _ e]; exact others u e
  · -- between the sections: the act runs now; the fused op checks (true) and acts now
    have hp : (ic.pc == 0) = false := by simp; omega
    rw [passes_eq K hth, hp]; simp only [Bool.and_false, Bool.false_and, Bool.false_eq_true, if_false]
    rw [fused true hyes hchk hta]
    exact completed htail ((step_complete hth (by rw [hrem]; rfl)).trans (by rw [hrem]; rfl))

theorem rel_init (ops : Nat → List ι) (s0 : σ) :
    Rel K prog (init prog ops s0) (init (K.fuse prog) ops s0) := by
  refine ⟨rfl, rfl, fun u => .inl (pairs_map _ _ _ fun i _ => ?_)⟩
  cases hi : K.is i
  · exact .inl ⟨hi, by simp [CtaOps.fuse, hi], trivial⟩
  · exact .inr ⟨hi, ⟨rfl, rfl⟩, rfl⟩

/-! ### a decidable sufficient form of the side condition (finitely many active threads) -/

theorem step_keeps_idle (c : Cfg ι σ ρ) (t : Nat) (us : List Nat) (h : ∀ u, u ∉ us → c.thr u = []) :
    ∀ u, u ∉ us → (step c t).thr u = [] := by
  intro u hu
  cases hth : c.thr t with
  | nil => rw [step_nil hth]; exact h u hu
  | cons it rest =>
    have hne : u ≠ t := by
      intro e; subst e
      rw [h u hu] at hth; cases hth
    cases hd : (it.rem.adv c.st).2.1.isDone with
    | some r => rw [step_complete hth hd]; simp only [setThr_other _ _ hne]; exact h u hu
    | none => rw [step_continue hth hd]; simp only [setThr_other _ _ hne]; exact h u hu

theorem stable_of_stableB (us : List Nat) (sched : List Nat) :
    ∀ c : Cfg ι σ ρ, (∀ u, u ∉ us → c.thr u = []) → K.stableB c us sched = true → K.stable c sched := by
  induction sched with
  | nil => intro c _ _; trivial
  | cons t r ih =>
    intro c hidle hb
    simp only [CtaOps.stableB, Bool.and_eq_true] at hb
    refine ⟨?_, ih _ (step_keeps_idle c t us hidle) hb.2⟩
    intro u hu it rest e h1 h2 h3
    by_cases hm : u ∈ us
    · have := List.all_eq_true.mp hb.1 u hm
      simp only [e, Bool.or_eq_true, beq_iff_eq] at this
      rcases this with x | x
      · exact absurd x hu
      · rcases x with x | x
        · simp [h1, h2, h3] at x
        · exact x
    · rw [hidle u hm] at e; cases e

end cta

end MdkVerif.Locks
