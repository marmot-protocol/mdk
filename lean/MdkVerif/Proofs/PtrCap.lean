import MdkVerif.Proofs.Sort
import MdkVerif.Proofs.MemLru
/-
  MdkVerif.Proofs.PtrCap — lemmas behind `Props/C18.lean`: the display key and its order (`keyGt`, of which both
  listing comparators are instances), the cached last-message pointer as the largest key seen (`MaxOf`), and the
  pointer under the per-group message cap of the memory backend with its LRU caches (`trackedSave`, `PtrInv`).
-/
namespace MdkVerif.Props.C18
open MdkVerif MdkVerif.Store List

/-! ### the two comparators are strict total orders on the display keys -/

/-- display key of a message -/
def key (m : Msg) : Nat × Nat × Nat := (m.created, m.processed, m.id)

theorem keyGt_iff (a b : Nat × Nat × Nat) :
    keyGt a b = true ↔ b.1 < a.1 ∨ (a.1 = b.1 ∧ (b.2.1 < a.2.1 ∨ (a.2.1 = b.2.1 ∧ b.2.2 < a.2.2))) := by
  simp only [keyGt, Bool.or_eq_true, Bool.and_eq_true, decide_eq_true_eq, beq_iff_eq, gt_iff_lt]

theorem keyGt_false_iff (a b : Nat × Nat × Nat) :
    keyGt a b = false ↔ a.1 < b.1 ∨ (a.1 = b.1 ∧ (a.2.1 < b.2.1 ∨ (a.2.1 = b.2.1 ∧ a.2.2 ≤ b.2.2))) := by
  rw [← Bool.not_eq_true, keyGt_iff]; omega

theorem keyGt_irrefl (a : Nat × Nat × Nat) : keyGt a a = false := by
  rw [keyGt_false_iff]; omega
theorem keyGt_negtrans (a b c : Nat × Nat × Nat) (h1 : keyGt a b = false) (h2 : keyGt b c = false) :
    keyGt a c = false := by
  rw [keyGt_false_iff] at *; omega
theorem keyGt_total (a b : Nat × Nat × Nat) (h1 : keyGt a b = false) (h2 : keyGt b a = false) : a = b := by
  rw [keyGt_false_iff] at *
  exact Prod.ext (by omega) (Prod.ext (by omega) (by omega))
theorem keyGt_asymm (a b : Nat × Nat × Nat) (h : keyGt a b = true) : keyGt b a = false := by
  rw [keyGt_false_iff]; rw [keyGt_iff] at h; omega

/-! both comparators are `keyGt` on a triple of the message's fields (definitionally), in the order each sorts by -/

theorem createdFirst_strictWeak : StrictWeak createdFirstBefore :=
  ⟨fun a b h => keyGt_asymm (key a) (key b) h, fun a b c h1 h2 => keyGt_negtrans (key c) (key b) (key a) h2 h1⟩

theorem processedFirst_strictWeak : StrictWeak processedFirstBefore :=
  ⟨fun a b h => keyGt_asymm (a.processed, a.created, a.id) (b.processed, b.created, b.id) h,
   fun a b c h1 h2 => keyGt_negtrans (c.processed, c.created, c.id) (b.processed, b.created, b.id) (a.processed, a.created, a.id) h2 h1⟩

theorem orderOf_strictWeak (sort : Nat) : StrictWeak (orderOf sort) := by
  unfold orderOf; split
  · exact processedFirst_strictWeak
  · exact createdFirst_strictWeak

/-- totality: two messages neither of which precedes the other have the same display key -/
theorem orderOf_total (sort : Nat) (a b : Msg)
    (h1 : orderOf sort a b = false) (h2 : orderOf sort b a = false) :
    a.created = b.created ∧ a.processed = b.processed ∧ a.id = b.id := by
  unfold orderOf at h1 h2
  by_cases c : (sort == 1) = true
  · rw [if_pos c] at h1 h2
    have := keyGt_total (a.processed, a.created, a.id) (b.processed, b.created, b.id) h1 h2
    simp only [Prod.mk.injEq] at this
    exact ⟨this.2.1, this.1, this.2.2⟩
  · rw [if_neg c] at h1 h2
    have := keyGt_total (key a) (key b) h1 h2
    simp only [key, Prod.mk.injEq] at this
    exact this

/-! ### the cached last-message pointer -/

/-- the pointer fields of a record, when all three are present -/
def ptr (g : Group) : Option (Nat × Nat × Nat) :=
  match g.lastAt, g.lastProc, g.lastId with
  | some a, some p, some i => some (a, p, i)
  | _, _, _ => none

/-- a pointer is well formed when it is entirely absent or entirely present (what mdk itself writes) -/
def PtrWF (g : Group) : Prop :=
  (g.lastAt = none ∧ g.lastProc = none ∧ g.lastId = none) ∨ (ptr g).isSome

theorem updLast_wf (g : Group) (k : Nat × Nat × Nat) (hw : PtrWF g) : PtrWF (updLast g k) := by
  unfold updLast
  split
  · right; simp [ptr]
  · exact hw

/-- spec: running maximum of the display keys -/
def omax (o : Option (Nat × Nat × Nat)) (k : Nat × Nat × Nat) : Option (Nat × Nat × Nat) :=
  match o with
  | none => some k
  | some p => if keyGt k p then some k else some p

/-- one update: the new pointer is the larger of the old pointer and the message key -/
theorem updLast_max (g : Group) (k : Nat × Nat × Nat) (hw : PtrWF g) :
    ptr (updLast g k) = omax (ptr g) k := by
  unfold omax
  rcases hw with ⟨h1, h2, h3⟩ | hw
  · simp [updLast, dominates, ptr, h1, h2, h3]
  · cases ha : g.lastAt with
    | none => simp [ptr, ha] at hw
    | some a =>
      cases hp : g.lastProc with
      | none => simp [ptr, ha, hp] at hw
      | some p =>
        cases hi : g.lastId with
        | none => simp [ptr, ha, hp, hi] at hw
        | some i =>
          by_cases c : keyGt k (a, p, i) = true
          · simp [updLast, dominates, ptr, ha, hp, hi, c]
          · have c' : keyGt k (a, p, i) = false := by simpa using c
            simp [updLast, dominates, ptr, ha, hp, hi, c']

/-- the pointer after processing messages `ms` in ANY arrival order -/
def track (g : Group) (ms : List Msg) : Group := ms.foldl (fun g m => updLast g (key m)) g

/-- `o` is the largest display key among `L` (`none`: there is no message) -/
def MaxOf (o : Option (Nat × Nat × Nat)) (L : List Msg) : Prop :=
  match o with
  | none => L = []
  | some q => (∃ m ∈ L, key m = q) ∧ ∀ m ∈ L, keyGt (key m) q = false

/-- the head of the default listing is the message with the largest display key -/
theorem head_of_maxOf (L : List Msg) (q : Nat × Nat × Nat) (h : MaxOf (some q) L) :
    (sortBy createdFirstBefore L).head?.map key = some q := by
  obtain ⟨⟨m0, hm0, hk0⟩, hall⟩ := h
  have hperm := sortBy_perm createdFirstBefore L
  have hsorted := sortBy_sorted createdFirst_strictWeak L
  cases hs : sortBy createdFirstBefore L with
  | nil =>
    have := hperm.length_eq; rw [hs] at this
    cases L with
    | nil => cases hm0
    | cons a t => simp at this
  | cons h t =>
    simp only [List.head?_cons, Option.map_some]
    rw [hs] at hsorted hperm
    have hmem : h ∈ L := hperm.mem_iff.mp (by simp)
    have hhead : createdFirstBefore m0 h = false := by
      have hm' : m0 ∈ h :: t := hperm.mem_iff.mpr hm0
      rcases List.mem_cons.mp hm' with rfl | hm'
      · exact keyGt_irrefl (key m0)
      · exact (List.pairwise_cons.mp hsorted).1 m0 hm'
    have h1 : keyGt (key h) q = false := hall h hmem
    have h2 : keyGt q (key h) = false := hk0 ▸ hhead
    rw [keyGt_total _ _ h2 h1]

/-- a new message joins: the largest key is the larger of the old largest key and the new key -/
theorem maxOf_add (L : List Msg) (o : Option (Nat × Nat × Nat)) (hmax : MaxOf o L) (m : Msg) :
    MaxOf (omax o (key m)) (L ++ [m]) := by
  cases o with
  | none =>
    have : L = [] := hmax
    subst this
    exact ⟨⟨m, by simp, rfl⟩, fun x hx => by simp at hx; subst hx; exact keyGt_irrefl _⟩
  | some q =>
    obtain ⟨⟨mq, hmq, hkq⟩, hall⟩ := hmax
    by_cases c : keyGt (key m) q = true
    · simp only [omax, c, if_true]
      refine ⟨⟨m, by simp, rfl⟩, fun x hx => ?_⟩
      rcases List.mem_append.mp hx with hx | hx
      · exact keyGt_negtrans _ _ _ (hall x hx) (keyGt_asymm _ _ c)
      · simp at hx; subst hx; exact keyGt_irrefl _
    · have c' : keyGt (key m) q = false := by simpa using c
      simp only [omax, c', Bool.false_eq_true, if_false]
      refine ⟨⟨mq, by simp [hmq], hkq⟩, fun x hx => ?_⟩
      rcases List.mem_append.mp hx with hx | hx
      · exact hall x hx
      · simp at hx; subst hx; exact c'

theorem track_maxOf (ms : List Msg) : ∀ (g : Group) (L : List Msg), PtrWF g → MaxOf (ptr g) L →
    MaxOf (ptr (track g ms)) (L ++ ms) := by
  induction ms with
  | nil => intro g L _ h; rw [List.append_nil]; exact h
  | cons m ms ih =>
    intro g L hw h
    have := ih (updLast g (key m)) (L ++ [m]) (updLast_wf g _ hw) (updLast_max g _ hw ▸ maxOf_add L _ h m)
    rwa [List.append_assoc] at this

/-! ### the pointer under the per-group message cap of the memory backend (`Model/MemLru.lean`)

  At `max_messages_per_group` a new message pushes a stored one out.  The pointer keeps designating the head of the
  default order only if the victim is never that head: since /repo 3a82aa4 the victim is the LAST message of the default
  order (regenerated facts `memCapVictimKeys`, `memCapVictimIsMin`), so with a cap of at least 2 the head survives. -/

open MdkVerif.MemLru

/-- the eviction order re-extracted from the source IS the default listing order, ascending -/
theorem cap_victim_chain : Generated.memCapVictimKeys = [0, 1, 2] ∧ Generated.memCapVictimIsMin = true := by decide

theorem capLt_eq (a b : Msg) : capLt a b = keyGt (key b) (key a) := by
  have h1 : Generated.memCapVictimKeys = [0, 1, 2] := cap_victim_chain.1
  have h2 : Generated.memCapVictimIsMin = true := cap_victim_chain.2
  simp only [capLt, h1, h2, if_true, chainLt, fieldOf, keyGt, key]
  rw [Bool.eq_iff_iff]
  simp
  omega

theorem argMin_none (lt : Msg → Msg → Bool) (l : List Msg) (h : argMin lt l = none) : l = [] := by
  cases l with
  | nil => rfl
  | cons m t =>
    simp only [argMin] at h
    cases ha : argMin lt t with
    | none => rw [ha] at h; cases h
    | some b => rw [ha] at h; simp only [] at h; split at h <;> cases h

/-- the victim is a stored message that no stored message precedes in the ascending default order -/
theorem argMin_spec (l : List Msg) (v : Msg) (h : argMin capLt l = some v) :
    v ∈ l ∧ ∀ x ∈ l, keyGt (key v) (key x) = false := by
  induction l generalizing v with
  | nil => cases h
  | cons m t ih =>
    simp only [argMin] at h
    cases ha : argMin capLt t with
    | none =>
      rw [ha] at h; cases h
      have := argMin_none _ _ ha; subst this
      exact ⟨by simp, fun x hx => by simp at hx; subst hx; exact keyGt_irrefl _⟩
    | some b =>
      rw [ha] at h
      simp only [] at h
      obtain ⟨hb, hall⟩ := ih b ha
      by_cases c : capLt b m = true
      · rw [if_pos c] at h; cases h
        rw [capLt_eq] at c
        refine ⟨List.mem_cons_of_mem _ hb, fun x hx => ?_⟩
        rcases List.mem_cons.mp hx with rfl | hx
        · exact keyGt_asymm _ _ c
        · exact hall x hx
      · rw [if_neg c] at h; cases h
        have c' : keyGt (key m) (key b) = false := by rw [capLt_eq] at c; simpa using c
        refine ⟨by simp, fun x hx => ?_⟩
        rcases List.mem_cons.mp hx with rfl | hx
        · exact keyGt_irrefl _
        · exact keyGt_negtrans _ _ _ c' (hall x hx)

/-- what mdk-core does for a message it stores: save it, then update the group's pointer with it -/
def trackedSave (s : MemStore) (m : Msg) : MemStore :=
  (MemLru.updLastOp (MemLru.okErr (MemLru.saveMessage s m) s).1 m.gid (key m)).1

/-- the group's messages after `save_message` of a NEW id -/
def afterSave (s : MemStore) (m : Msg) : List Msg :=
  (match capVictim s m with
    | some v => (groupMsgs s.u m.gid).filter (fun x => x.id != v)
    | none => groupMsgs s.u m.gid) ++ [m]

theorem groupMsgs_append (u : Store) (l : List Msg) (m : Msg) (h : u.msgs = l ++ [m]) :
    groupMsgs u m.gid = l.filter (·.gid == m.gid) ++ [m] := by
  simp [groupMsgs, h, List.filter_append]

theorem saveMessage_new (s : MemStore) (m : Msg) (g : Group) (hg : findGroup s.u m.gid = some g)
    (hfresh : ∀ x ∈ s.u.msgs, ¬ (x.gid = m.gid ∧ x.id = m.id)) :
    ∃ s1, MemLru.saveMessage s m = some s1 ∧ GFrame s1 s ∧ groupMsgs s1.u m.gid = afterSave s m := by
  have hfg : ¬ (findGroup s.u m.gid).isNone = true := by rw [hg]; simp
  have heq := saveMessage_eq s m
  rw [if_neg hfg] at heq
  by_cases cq : m.gid ∈ s.qMsgGroups
  · rw [if_pos cq] at heq
    refine ⟨_, heq, gframe_saveMessage s m _ heq, ?_⟩
    rw [withById_eq]
    show groupMsgs { (capEvict s m).u with msgs := upsertMsg m (capEvict s m).u.msgs } m.gid = afterSave s m
    unfold afterSave capEvict
    cases hv : capVictim s m with
    | none => exact groupMsgs_append _ s.u.msgs m (upsertMsg_fresh m _ hfresh)
    | some v =>
      have hf2 : ∀ x ∈ s.u.msgs.filter (fun x => !(x.gid == m.gid && x.id == v)), ¬ (x.gid = m.gid ∧ x.id = m.id) :=
        fun x hx => hfresh x (List.mem_filter.mp hx).1
      rw [groupMsgs_append _ _ m (upsertMsg_fresh m _ hf2)]
      congr 1
      simp only [groupMsgs, List.filter_filter]
      apply List.filter_congr
      intro x _
      cases h1 : (x.gid == m.gid) <;> cases h2 : (x.id == v) <;> simp [h2, bne]
  · rw [if_neg cq] at heq
    refine ⟨_, heq, gframe_saveMessage s m _ heq, ?_⟩
    have ch' : capVictim s m = none := by simp [capVictim, capHit, cq]
    rw [withById_eq, afterSave, ch', putMsgGroups_eq]
    -- the fresh map is put: whatever that pushes out is another group's map
    show groupMsgs { s.u with msgs := match (Lru.qTouch s.cap m.gid s.qMsgGroups).2 with
      | none => upsertMsg m s.u.msgs
      | some e => (upsertMsg m s.u.msgs).filter (·.gid != e) } m.gid = _
    cases hq : (Lru.qTouch s.cap m.gid s.qMsgGroups).2 with
    | none => exact groupMsgs_append _ s.u.msgs m (upsertMsg_fresh m _ hfresh)
    | some e =>
      obtain ⟨_, _, hlast, _⟩ := Lru.qTouch_evicted s.cap m.gid s.qMsgGroups e hq
      have hne : e ≠ m.gid := fun c => cq (c ▸ List.mem_of_getLast? hlast)
      simp only [groupMsgs, upsertMsg_fresh m _ hfresh, List.filter_filter]
      rw [show (s.u.msgs ++ [m]).filter (fun a => (a.gid == m.gid) && (a.gid != e)) = (s.u.msgs ++ [m]).filter (fun a => a.gid == m.gid) from by
        apply List.filter_congr
        intro x _
        by_cases c1 : x.gid = m.gid
        · simp [c1, Ne.symm hne]
        · simp [c1]]
      simp [List.filter_append]

/-- the record passes the memory backend's validation (true of every record it stores) -/
def GroupWithin (g : Group) : Prop :=
  g.nameLen ≤ nameLimit .mem ∧ g.descLen ≤ descLimit .mem ∧ g.admins ≤ Generated.memMaxAdminsPerGroup

theorem storeSaveGroup_ok (u : Store) (g : Group) (hb : u.backend = .mem) (hl : GroupWithin g)
    (hnc : ∀ o, alookup g.nid u.byNid = some o → o.gid = g.gid) : ∃ u', Store.saveGroup u g = some u' := by
  apply Option.isSome_iff_exists.mp
  rw [saveGroup_isSome, hb]
  exact ⟨hl.1, hl.2.1, hl.2.2, hnc⟩

theorem updLast_fields (g : Group) (k : Nat × Nat × Nat) :
    (updLast g k).gid = g.gid ∧ (updLast g k).nid = g.nid ∧ (GroupWithin g → GroupWithin (updLast g k)) := by
  unfold updLast
  split
  · exact ⟨rfl, rfl, fun h => h⟩
  · exact ⟨rfl, rfl, fun h => h⟩

/-- the pointer update of a held group always goes through, evicts nothing and touches no message -/
theorem updLast_tracked (s : MemStore) (h : PInv s) (gid : Nat) (g : Group) (hg : findGroup s.u gid = some g)
    (hl : GroupWithin g) (k : Nat × Nat × Nat) :
    ∃ s', MemLru.saveGroup s (updLast g k) = some s' ∧ findGroup s'.u gid = some (updLast g k) ∧
      s'.u.msgs = s.u.msgs ∧ PInv s' ∧ s'.msgCap = s.msgCap := by
  obtain ⟨f1, f2, f3⟩ := updLast_fields g k
  have hgg : g.gid = gid := findGroup_gid hg
  have hmem : g ∈ s.u.groups := ((find_gid_iff h.paired.ginv gid g).mp hg).1
  have hnc : ∀ o, alookup (updLast g k).nid s.u.byNid = some o → o.gid = (updLast g k).gid := by
    intro o ho
    have hi : alookup g.nid s.u.byNid = s.u.groups.find? (·.nid == g.nid) := h.paired.idx g.nid
    have : s.u.groups.find? (·.nid == g.nid) = some g := (find_nid_iff h.paired.ginv g.nid g).mpr ⟨hmem, rfl⟩
    rw [f2, hi, this] at ho
    cases ho; exact f1.symm
  obtain ⟨u', hu'⟩ := storeSaveGroup_ok s.u (updLast g k) h.hb (f3 hl) hnc
  have hs := saveGroup_eq s (updLast g k) u' hu'
  obtain ⟨e1, e2, e3, e4, e5, e6, e7⟩ := of_saveGroup s (updLast g k) _ h.hb hs
  have hu := saveGroup_some_mem h.hb hu'
  -- both queues hold the keys already: nothing is pushed out
  have hq1 : gid ∈ s.qGroups := (h.paired.qmem gid).mpr ⟨g, hmem, hgg⟩
  have hstale : staleQ s (updLast g k) = s.qByNid := by
    unfold staleQ
    rw [f1, hgg, hg]
    simp [f2]
  have hq2 : g.nid ∈ s.qByNid := by
    have hp : s.qByNid = s.qGroups.map (nidOf s.u.groups) := h.paired.pair
    rw [hp]
    refine List.mem_map.mpr ⟨gid, hq1, ?_⟩
    rw [← hgg]; exact nidOf_of_mem h.paired.ginv hmem
  have t1 := Lru.qTouch_none s.cap (updLast g k).gid s.qGroups (Or.inl (by rw [f1, hgg]; exact hq1))
  have t2 := Lru.qTouch_none s.cap (updLast g k).nid (staleQ s (updLast g k)) (Or.inl (by rw [hstale, f2]; exact hq2))
  refine ⟨_, hs, ?_, e7, pinv_saveGroup s h _ _ hs, e6⟩
  simp only [putGroups_eq, putByNid_eq, t1, t2]
  show findGroup u' gid = _
  rw [hu, ← hgg, ← f1]
  exact find_replaceGroup_self _ _

theorem id_inj_of_nodup (L : List Msg) (h : (L.map (·.id)).Nodup) (a b : Msg) (ha : a ∈ L) (hb : b ∈ L) (e : a.id = b.id) : a = b := by
  have h' : L.Pairwise (fun a b => a.id ≠ b.id) := List.pairwise_map.mp h
  exact eq_of_pairwise_ne (f := (·.id)) h' ha hb e

/-- removing the LAST message of the default order from at least two messages keeps the largest key -/
theorem maxOf_evict (L : List Msg) (o : Option (Nat × Nat × Nat)) (hmax : MaxOf o L) (hnd : (L.map (·.id)).Nodup)
    (v : Msg) (hv : argMin capLt L = some v) (h2 : 2 ≤ L.length) :
    MaxOf o (L.filter (fun x => x.id != v.id)) := by
  obtain ⟨hvm, hvmin⟩ := argMin_spec L v hv
  cases o with
  | none =>
    have : L = [] := hmax
    rw [this] at h2; simp at h2
  | some q =>
    obtain ⟨⟨mq, hmq, hkq⟩, hall⟩ := hmax
    have hne : mq.id ≠ v.id := by
      intro e
      have hmv : mq = v := id_inj_of_nodup L hnd mq v hmq hvm e
      subst hmv
      -- every message has the key of `mq`, hence is `mq`: at most one message
      have hallEq : ∀ x ∈ L, x = mq := by
        intro x hx
        have k1 := hall x hx
        have k2 := hvmin x hx
        rw [hkq] at k2
        have : key x = q := keyGt_total _ _ k1 k2
        have hid : x.id = mq.id := by
          have := congrArg (fun t => t.2.2) (this.trans hkq.symm)
          simpa [key] using this
        exact id_inj_of_nodup L hnd x mq hx hmq hid
      cases L with
      | nil => cases hmq
      | cons a t =>
        cases t with
        | nil => simp at h2
        | cons b t' =>
          have ha := hallEq a (by simp)
          have hb := hallEq b (by simp)
          simp only [List.map_cons, List.nodup_cons, List.mem_cons] at hnd
          exact hnd.1 (Or.inl (by rw [ha, hb]))
    refine ⟨⟨mq, List.mem_filter.mpr ⟨hmq, by simpa using hne⟩, hkq⟩, fun x hx => hall x (List.mem_filter.mp hx).1⟩

/-- the invariant of tracked saves on one group of the capped memory backend -/
structure PtrInv (s : MemStore) (gid : Nat) : Prop where
  pinv : PInv s
  grp : ∃ g, findGroup s.u gid = some g ∧ PtrWF g ∧ GroupWithin g ∧ MaxOf (ptr g) (groupMsgs s.u gid)
  nd : ((groupMsgs s.u gid).map (·.id)).Nodup

theorem trackedSave_inv (s : MemStore) (gid : Nat) (h : PtrInv s gid) (hcap : 2 ≤ s.msgCap) (m : Msg) (hm : m.gid = gid)
    (hfresh : ∀ x ∈ groupMsgs s.u gid, x.id ≠ m.id) :
    PtrInv (trackedSave s m) gid ∧ (trackedSave s m).msgCap = s.msgCap ∧
      ∀ x ∈ groupMsgs (trackedSave s m).u gid, x = m ∨ x ∈ groupMsgs s.u gid := by
  subst hm
  obtain ⟨g, hg, hwf, hl, hmax⟩ := h.grp
  have hfresh' : ∀ x ∈ s.u.msgs, ¬ (x.gid = m.gid ∧ x.id = m.id) := by
    rintro x hx ⟨e1, e2⟩
    exact hfresh x (List.mem_filter.mpr ⟨hx, by simpa using e1⟩) e2
  obtain ⟨s1, hs1, hf, hms⟩ := saveMessage_new s m g hg hfresh'
  have hg1 : findGroup s1.u m.gid = some g := by
    have : s1.u.groups = s.u.groups := congrArg GI.groups hf.gi
    simp only [findGroup, this]; exact hg
  have hp1 : PInv s1 := pinv_frame s s1 h.pinv hf
  obtain ⟨s2, hs2, hg2, hmsgs, hp2, hmc⟩ := updLast_tracked s1 hp1 m.gid g hg1 hl (key m)
  have ets : trackedSave s m = s2 := by
    simp only [trackedSave, hs1, MemLru.okErr, MemLru.updLastOp, hg1, hs2]
  have hgm2 : groupMsgs s2.u m.gid = afterSave s m := by
    simp only [groupMsgs, hmsgs]; exact hms
  -- the messages that stay: all of them, or all but the victim — in either case the largest key stays
  obtain ⟨L, hL, hmaxL, hndL, hsubL⟩ : ∃ L, afterSave s m = L ++ [m] ∧ MaxOf (ptr g) L ∧ (L.map (·.id)).Nodup ∧
      ∀ x ∈ L, x ∈ groupMsgs s.u m.gid := by
    unfold afterSave
    cases hv : capVictim s m with
    | none => exact ⟨_, rfl, hmax, h.nd, fun _ hx => hx⟩
    | some vid =>
      have hch : capHit s m = true := by
        by_cases c : capHit s m = true
        · exact c
        · rw [capVictim, if_neg c] at hv; cases hv
      rw [capVictim, if_pos hch] at hv
      obtain ⟨v, hva, rfl⟩ : ∃ v, argMin capLt (groupMsgs s.u m.gid) = some v ∧ v.id = vid := by
        unfold victim at hv
        cases ha : argMin capLt (groupMsgs s.u m.gid) with
        | none => rw [ha] at hv; cases hv
        | some v => rw [ha] at hv; exact ⟨v, rfl, by simpa using hv⟩
      have hlen : 2 ≤ (groupMsgs s.u m.gid).length := by
        simp only [capHit, Bool.and_eq_true, decide_eq_true_eq] at hch
        omega
      exact ⟨_, rfl, maxOf_evict _ _ hmax h.nd v hva hlen, h.nd.sublist (List.Sublist.map _ List.filter_sublist),
        fun x hx => (List.mem_filter.mp hx).1⟩
  -- … and the new message joins them
  have hafter : MaxOf (omax (ptr g) (key m)) (afterSave s m) ∧ ((afterSave s m).map (·.id)).Nodup ∧
      ∀ x ∈ afterSave s m, x = m ∨ x ∈ groupMsgs s.u m.gid := by
    rw [hL]
    refine ⟨maxOf_add _ _ hmaxL m, ?_, fun x hx => ?_⟩
    · rw [List.map_append, List.nodup_append]
      refine ⟨hndL, by simp, fun a ha b hb => ?_⟩
      rw [List.mem_singleton.mp hb]
      obtain ⟨x, hx, rfl⟩ := List.mem_map.mp ha
      exact hfresh x (hsubL x hx)
    · rcases List.mem_append.mp hx with hx | hx
      · exact Or.inr (hsubL x hx)
      · exact Or.inl (List.mem_singleton.mp hx)
  rw [ets]
  refine ⟨⟨hp2, ⟨updLast g (key m), hg2, updLast_wf g _ hwf, (updLast_fields g _).2.2 hl, ?_⟩, by rw [hgm2]; exact hafter.2.1⟩,
    hmc.trans hf.mcap, by rw [hgm2]; exact hafter.2.2⟩
  rw [hgm2]
  rw [updLast_max g (key m) hwf]; exact hafter.1

theorem ptrInv_head (s : MemStore) (gid : Nat) (h : PtrInv s gid) :
    ∃ g, findGroup s.u gid = some g ∧ ptr g = (listing s.u gid 0).head?.map key := by
  obtain ⟨g, hg, _, _, hmax⟩ := h.grp
  refine ⟨g, hg, ?_⟩
  have hl : listing s.u gid 0 = sortBy createdFirstBefore (groupMsgs s.u gid) := by simp [listing, orderOf]
  rw [hl]
  cases hp : ptr g with
  | none =>
    rw [hp] at hmax
    have : groupMsgs s.u gid = [] := hmax
    rw [this]; rfl
  | some q =>
    rw [hp] at hmax
    exact (head_of_maxOf _ q hmax).symm

theorem trackedRun_inv (ms : List Msg) : ∀ (s0 : MemStore) (gid : Nat), PtrInv s0 gid → 2 ≤ s0.msgCap →
    (∀ m ∈ ms, m.gid = gid) → (ms.map (·.id)).Nodup → (∀ x ∈ groupMsgs s0.u gid, x.id ∉ ms.map (·.id)) →
    PtrInv (ms.foldl trackedSave s0) gid := by
  induction ms with
  | nil => intro s0 gid h _ _ _ _; exact h
  | cons m t ih =>
    intro s0 gid h hcap hg hnd hfresh
    simp only [List.map_cons, List.nodup_cons] at hnd
    have hf0 : ∀ x ∈ groupMsgs s0.u gid, x.id ≠ m.id := fun x hx e => hfresh x hx (by simp [e])
    obtain ⟨h1, h2, h3⟩ := trackedSave_inv s0 gid h hcap m (hg m (by simp)) hf0
    simp only [List.foldl_cons]
    refine ih _ gid h1 (by rw [h2]; exact hcap) (fun x hx => hg x (List.mem_cons_of_mem _ hx)) hnd.2 ?_
    intro x hx
    rcases h3 x hx with rfl | hx'
    · exact hnd.1
    · intro c; exact hfresh x hx' (by simp [c])

end MdkVerif.Props.C18
