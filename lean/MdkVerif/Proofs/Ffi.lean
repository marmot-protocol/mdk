import MdkVerif.Model.Ffi
import MdkVerif.Proofs.Codec
/-
  About Model/Ffi.lean, for Props/C06Ffi: one hex character (a checked table), the pair loop against `Codec.hexDec` and its
  error report, `hexDecode` / `decodeToSlice` by cases (parity, length, loop), lookups in the state tables.
-/
namespace MdkVerif.Ffi
open MdkVerif.Codec

/-! ### one hex character -/

theorem hexVal_some (c x : Nat) (h : hexVal c = some x) :
    (48 ≤ c ∧ c ≤ 57 ∧ x = c - 48) ∨ (97 ≤ c ∧ c ≤ 102 ∧ x = c - 87) ∨ (65 ≤ c ∧ c ≤ 70 ∧ x = c - 55) := by
  unfold hexVal at h
  by_cases c1 : 48 ≤ c ∧ c ≤ 57
  · rw [if_pos c1] at h
    exact Or.inl ⟨c1.1, c1.2, (Option.some.inj h).symm⟩
  rw [if_neg c1] at h
  by_cases c2 : 97 ≤ c ∧ c ≤ 102
  · rw [if_pos c2] at h
    exact Or.inr (Or.inl ⟨c2.1, c2.2, (Option.some.inj h).symm⟩)
  rw [if_neg c2] at h
  by_cases c3 : 65 ≤ c ∧ c ≤ 70
  · rw [if_pos c3] at h
    exact Or.inr (Or.inr ⟨c3.1, c3.2, (Option.some.inj h).symm⟩)
  · rw [if_neg c3] at h
    cases h

/-- the hex characters lie below 103 (`g`), so the facts about one of them are checked on all of them -/
theorem hexVal_facts (c x : Nat) (h : hexVal c = some x) :
    x < 16 ∧ hexDigit x = lowerC c ∧ hexVal (upperC c) = some x := by
  have hc : c < 103 := by
    rcases hexVal_some c x h with ⟨_, h2, _⟩ | ⟨_, h2, _⟩ | ⟨_, h2, _⟩ <;> exact Nat.lt_of_le_of_lt h2 (by decide)
  have table : ∀ c < 103, (hexVal c).all (fun x => decide (x < 16) && hexDigit x == lowerC c && hexVal (upperC c) == some x) = true := by
    decide +kernel
  have := table c hc
  rw [h] at this
  simpa only [Option.all_some, Bool.and_eq_true, decide_eq_true_eq, beq_iff_eq, and_assoc] using this

/-! ### the pair loop against `Codec.hexDec` (the C15 model of the same crate) -/

theorem hexPairs_ok_iff : ∀ (s : Bytes) (i : Nat) (b : Bytes), hexPairs i s = .ok b ↔ hexDec s = some b
  | [], i, b => ⟨fun h => by cases h; rfl, fun h => by cases h; rfl⟩
  | [_], i, b => ⟨nofun, nofun⟩
  | a :: c :: r, i, b => by
    unfold hexPairs hexDec
    cases hexVal a with
    | none => exact ⟨nofun, nofun⟩
    | some x =>
      cases hexVal c with
      | none => exact ⟨nofun, nofun⟩
      | some y =>
        have ih := hexPairs_ok_iff r (i + 2)
        cases h3 : hexPairs (i + 2) r with
        | error e =>
          cases h4 : hexDec r with
          | none => exact ⟨nofun, nofun⟩
          | some t => rw [(ih t).mpr h4] at h3; cases h3
        | ok t =>
          rw [(ih t).mp h3]
          exact ⟨fun h => by cases h; rfl, fun h => by cases h; rfl⟩

theorem hexDec_spec : ∀ (s b : Bytes), hexDec s = some b → isBytes b = true ∧ hexEnc b = s.map lowerC
  | [], b, h => by cases h; exact ⟨rfl, rfl⟩
  | [_], b, h => by cases h
  | a :: c :: r, b, h => by
    obtain ⟨x, y, t, h1, h2, h3, rfl⟩ := hexDec_cons_cons h
    obtain ⟨ib, ie⟩ := hexDec_spec r t h3
    obtain ⟨hx, dx, _⟩ := hexVal_facts a x h1
    obtain ⟨hy, dy, _⟩ := hexVal_facts c y h2
    refine ⟨(isBytes_cons _ _).mpr ⟨?_, ib⟩, ?_⟩
    · have : x * 16 + y < (x + 1) * 16 := by rw [Nat.succ_mul]; exact Nat.add_lt_add_left hy _
      exact Nat.lt_of_lt_of_le this (Nat.mul_le_mul_right 16 hx)
    · rw [hexEnc, mul_add_div x hy, Nat.mul_add_mod_of_lt hy, dx, dy, ie]; rfl

theorem hexDec_hexChars : ∀ (s b : Bytes), hexDec s = some b → ∀ c ∈ s, isHexChar c = true
  | [], _, _ => nofun
  | [_], b, h => by cases h
  | a :: c :: r, b, h => by
    obtain ⟨x, y, t, h1, h2, h3, _⟩ := hexDec_cons_cons h
    intro d hd
    rcases List.mem_cons.mp hd with rfl | hd
    · rw [isHexChar, h1]; rfl
    rcases List.mem_cons.mp hd with rfl | hd
    · rw [isHexChar, h2]; rfl
    · exact hexDec_hexChars r t h3 d hd

theorem hexPairs_ok_spec (s : Bytes) (i : Nat) (b : Bytes) (h : hexPairs i s = .ok b) :
    s.length = 2 * b.length ∧ isBytes b = true ∧ hexEnc b = s.map lowerC := by
  have hd := (hexPairs_ok_iff s i b).mp h
  exact ⟨hexDec_length s b hd, hexDec_spec s b hd⟩

/-- on an even-length string the loop never answers `OddLength` / `InvalidStringLength`, and an
    `InvalidHexCharacter` names the FIRST character that is not a hex digit, with its index -/
theorem hexPairs_error_spec : ∀ (s : Bytes) (i : Nat) (e : HexErr), s.length % 2 = 0 → hexPairs i s = .error e →
    ∃ c k, e = .invalidChar c (i + k) ∧ s[k]? = some c ∧ hexVal c = none ∧
      ∀ j, j < k → ∃ d, s[j]? = some d ∧ (hexVal d).isSome = true
  | [], i, e, _, h => by cases h
  | [_], i, e, hl, _ => by cases hl
  | a :: c :: r, i, e, hl, h => by
    unfold hexPairs at h
    cases h1 : hexVal a with
    | none =>
      rw [h1] at h; cases h
      exact ⟨a, 0, rfl, rfl, h1, nofun⟩
    | some x =>
      have ha : ∃ d, (a :: c :: r)[0]? = some d ∧ (hexVal d).isSome = true := ⟨a, rfl, by rw [h1]; rfl⟩
      cases h2 : hexVal c with
      | none =>
        rw [h1, h2] at h; cases h
        exact ⟨c, 1, rfl, rfl, h2, fun j hj => by cases Nat.lt_one_iff.mp hj; exact ha⟩
      | some y =>
        rw [h1, h2] at h
        cases h3 : hexPairs (i + 2) r with
        | ok t => rw [h3] at h; cases h
        | error e' =>
          rw [h3] at h; cases h
          have hl' : r.length % 2 = 0 := by
            rw [List.length_cons, List.length_cons, Nat.add_assoc, Nat.add_mod_right] at hl; exact hl
          obtain ⟨c', k, rfl, hk, hv, hbefore⟩ := hexPairs_error_spec r (i + 2) e hl' h3
          refine ⟨c', k + 2, by rw [Nat.add_assoc, Nat.add_comm 2 k], hk, hv, fun j hj => ?_⟩
          match j with
          | 0 => exact ha
          | 1 => exact ⟨c, rfl, by rw [h2]; rfl⟩
          | j + 2 => exact hbefore j (Nat.lt_of_add_lt_add_right hj)

/-- the loop succeeds exactly on even-length strings of hex characters -/
theorem hexPairs_isOk_iff (s : Bytes) (i : Nat) :
    (∃ b, hexPairs i s = .ok b) ↔ s.length % 2 = 0 ∧ ∀ c ∈ s, isHexChar c = true := by
  constructor
  · rintro ⟨b, hb⟩
    have hd := (hexPairs_ok_iff s i b).mp hb
    exact ⟨by rw [hexDec_length s b hd, Nat.mul_mod_right], hexDec_hexChars s b hd⟩
  · rintro ⟨hl, hc⟩
    cases h : hexPairs i s with
    | ok b => exact ⟨b, rfl⟩
    | error e =>
      obtain ⟨c, k, _, hk, hv, _⟩ := hexPairs_error_spec s i e hl h
      have := hc c (List.mem_of_getElem? hk)
      rw [isHexChar, hv] at this; cases this

theorem hexPairs_upper : ∀ (s : Bytes) (i : Nat) (b : Bytes), hexPairs i s = .ok b → hexPairs i (s.map upperC) = .ok b
  | [], i, b, h => h
  | [_], i, b, h => by cases h
  | a :: c :: r, i, b, h => by
    have hd := (hexPairs_ok_iff _ i b).mp h
    obtain ⟨x, y, t, h1, h2, h3, rfl⟩ := hexDec_cons_cons hd
    have ih := hexPairs_upper r (i + 2) t ((hexPairs_ok_iff r _ t).mpr h3)
    rw [List.map_cons, List.map_cons, hexPairs, (hexVal_facts a x h1).2.2, (hexVal_facts c y h2).2.2]
    dsimp only
    rw [ih]

/-! ### the two entry points: parity and length come before the pair loop -/

theorem hexDecode_cases (s : Bytes) :
    (s.length % 2 = 1 ∧ hexDecode s = .error .oddLength) ∨ (s.length % 2 = 0 ∧ hexDecode s = hexPairs 0 s) := by
  unfold hexDecode
  by_cases hodd : s.length % 2 = 1
  · exact Or.inl ⟨hodd, if_pos hodd⟩
  · exact Or.inr ⟨(Nat.mod_two_eq_zero_or_one _).resolve_right hodd, if_neg hodd⟩

theorem decodeToSlice_cases (n : Nat) (s : Bytes) :
    (s.length % 2 = 1 ∧ decodeToSlice n s = .error .oddLength) ∨
    (s.length % 2 = 0 ∧ s.length ≠ 2 * n ∧ decodeToSlice n s = .error .invalidStringLength) ∨
    (s.length = 2 * n ∧ decodeToSlice n s = hexPairs 0 s) := by
  unfold decodeToSlice
  by_cases hodd : s.length % 2 = 1
  · exact Or.inl ⟨hodd, if_pos hodd⟩
  have heven := (Nat.mod_two_eq_zero_or_one _).resolve_right hodd
  have hlen : 2 * (s.length / 2) = s.length := by have := Nat.div_add_mod s.length 2; rwa [heven, Nat.add_zero] at this
  rw [if_neg hodd]
  by_cases hn : s.length / 2 ≠ n
  · exact Or.inr (Or.inl ⟨heven, fun h => hn (by rw [h, Nat.mul_div_cancel_left n (by decide)]), if_pos hn⟩)
  · exact Or.inr (Or.inr ⟨by rw [← hlen, Classical.not_not.mp hn], if_neg hn⟩)

/-! ### table lookups -/

theorem find?_map_mem {α β : Type} [BEq α] [LawfulBEq α] (t : List (α × β)) (k : α) (v : β)
    (h : (t.find? (fun p => p.1 == k)).map (·.2) = some v) : (k, v) ∈ t := by
  cases hf : t.find? (fun p => p.1 == k) with
  | none => rw [hf] at h; cases h
  | some p =>
    rw [hf] at h
    have hk : p.1 = k := eq_of_beq (List.find?_some (p := fun q : α × β => q.1 == k) hf)
    have hv : p.2 = v := Option.some.inj h
    exact hk ▸ hv ▸ List.mem_of_find?_eq_some hf

theorem lookupV_mem (a : List (Nat × Bytes)) (v : Nat) (s : Bytes) (h : lookupV a v = some s) : (v, s) ∈ a :=
  find?_map_mem a v s h

theorem lookupK_mem (f : List (Bytes × Nat)) (s : Bytes) (v : Nat) (h : lookupK f s = some v) : (s, v) ∈ f :=
  find?_map_mem f s v h

/-- two tables that pass the executable check are inverse to each other on their domains -/
theorem tables_round_trip (a : List (Nat × Bytes)) (f : List (Bytes × Nat)) (h : inverseTables a f = true) :
    (∀ v s, lookupV a v = some s → lookupK f s = some v) ∧ (∀ s v, lookupK f s = some v → lookupV a v = some s) := by
  unfold inverseTables at h
  simp only [Bool.and_eq_true, List.all_eq_true] at h
  obtain ⟨ha, hf⟩ := h
  constructor
  · intro v s hv
    have := ha (v, s) (lookupV_mem a v s hv)
    simpa using this
  · intro s v hs
    have := hf (s, v) (lookupK_mem f s v hs)
    simpa using this

end MdkVerif.Ffi
