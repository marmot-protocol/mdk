import MdkVerif.Model.Client
import MdkVerif.Proofs.Client
import MdkVerif.Proofs.Store
/-
  MdkVerif.Proofs.Fork — the single-fork theorem (C01): the abstract fork machine `fstep` over MIP-03 keys (the minimum
  of the delivered keys wins, `single_fork_owns`), `process_message` on a sibling commit in each situation, and the
  simulation between the client model and the machine (`relG_step`, `fork_run`).
-/
namespace MdkVerif.Fork
open MdkVerif MdkVerif.Client
open MdkVerif.Store (alookup_ainsert_self alookup_ainsert_ne)

/-! ## the MIP-03 order on keys (wrapper timestamp, event id) -/

abbrev Key := Nat × Nat

def klt (a b : Key) : Bool := a.1 < b.1 || (a.1 == b.1 && a.2 < b.2)

theorem klt_iff {a b : Key} : klt a b = true ↔ a.1 < b.1 ∨ (a.1 = b.1 ∧ a.2 < b.2) := by simp [klt]

theorem klt_irrefl (a : Key) : klt a a = false := by simp [klt]
theorem klt_trans {a b c : Key} (h1 : klt a b = true) (h2 : klt b c = true) : klt a c = true := by
  rw [klt_iff] at *; omega
theorem klt_total {a b : Key} (h : a ≠ b) : klt a b = true ∨ klt b a = true := by
  have : a.1 ≠ b.1 ∨ a.2 ≠ b.2 := by
    refine Decidable.or_iff_not_imp_left.mpr (fun h1 => fun h2 => h (Prod.ext (Decidable.not_not.mp h1) h2))
  rw [klt_iff, klt_iff]; omega
theorem klt_asymm {a b : Key} (h : klt a b = true) : klt b a = false := by
  rw [← Bool.not_eq_true, klt_iff]; rw [klt_iff] at h; omega

/-! ## the abstract fork machine -/

/-- the part of the client that matters at one fork epoch -/
structure FState where
  applied : Option Key     -- sibling currently applied on top of the parent state (snapshot retained)
  blocked : List Key       -- siblings whose record is Failed / EpochInvalidated (the dedup step blocks them)

def fdeliver (c : FState) (s : Key) : FState :=
  if s ∈ c.blocked then c else
  match c.applied with
  | none => { c with applied := some s }
  | some a =>
    if a = s then c
    else if klt s a then { applied := some s, blocked := a :: c.blocked }
    else { c with blocked := s :: c.blocked }

def frun (c : FState) (l : List Key) : FState := l.foldl fdeliver c

/-- The machine of a client whose own staged commits have the keys `owns`.  An own commit is never recorded as
    Failed: offered while a better sibling is applied it is answered from its ProcessedCommit record
    (`return_own_commit`) and nothing changes.  `fdeliver` is the machine of a client with no commit of its own. -/
def fstep (owns : List Key) (c : FState) (s : Key) : FState :=
  if s ∈ c.blocked then c else
  match c.applied with
  | none => { c with applied := some s }
  | some a =>
    if a = s then c
    else if klt s a then { applied := some s, blocked := a :: c.blocked }
    else if s ∈ owns then c
    else { c with blocked := s :: c.blocked }

theorem fdeliver_eq_fstep : fdeliver = fstep [] := rfl

/-- how a step of the machine ends -/
inductive FStep (owns : List Key) (c : FState) (s : Key) : FState → Prop
  | blocked : s ∈ c.blocked → FStep owns c s c
  | first : s ∉ c.blocked → c.applied = none → FStep owns c s { c with applied := some s }
  | same : s ∉ c.blocked → c.applied = some s → FStep owns c s c
  | better {a : Key} : s ∉ c.blocked → c.applied = some a → a ≠ s → klt s a = true →
      FStep owns c s { applied := some s, blocked := a :: c.blocked }
  | ownWorse {a : Key} : s ∉ c.blocked → c.applied = some a → a ≠ s → klt a s = true → s ∈ owns → FStep owns c s c
  | worse {a : Key} : s ∉ c.blocked → c.applied = some a → a ≠ s → klt a s = true → s ∉ owns →
      FStep owns c s { applied := some a, blocked := s :: c.blocked }

theorem fstep_spec (owns : List Key) (c : FState) (s : Key) : FStep owns c s (fstep owns c s) := by
  unfold fstep
  refine ite_elim (fun hb => .blocked hb) (fun hb => ?_)
  cases ha : c.applied with
  | none => exact .first hb ha
  | some a =>
    dsimp only
    refine ite_elim (fun e => .same hb (e ▸ ha)) (fun e => ite_elim (fun hl => .better hb ha e hl) (fun hl => ?_))
    have hl' : klt a s = true := (klt_total e).resolve_right hl
    exact ite_elim (fun ho => .ownWorse hb ha e hl' ho) (fun ho => .worse hb ha e hl' ho)

/-- the applied commit is not blocked and beats everything blocked -/
def FInv (c : FState) : Prop :=
  match c.applied with
  | none => c.blocked = []
  | some a => ¬ a ∈ c.blocked ∧ ∀ b ∈ c.blocked, klt a b = true

theorem finv_cons {x y : Key} {bl : List Key} (hne : x ≠ y) (hx : x ∉ bl) (hl : klt x y = true)
    (hb : ∀ b ∈ bl, klt x b = true) : FInv ⟨some x, y :: bl⟩ := by
  refine ⟨fun hm => ?_, fun b hbm => ?_⟩
  · exact (List.mem_cons.mp hm).elim hne hx
  · rcases List.mem_cons.mp hbm with rfl | hbm
    · exact hl
    · exact hb b hbm

theorem finv_fstep (owns : List Key) (c : FState) (s : Key) (h : FInv c) : FInv (fstep owns c s) := by
  have hs := fstep_spec owns c s
  generalize fstep owns c s = c' at hs
  cases hs with
  | blocked | same | ownWorse => exact h
  | first _ ha =>
    simp only [FInv, ha] at h
    simp [FInv, h]
  | better hb ha e hl =>
    simp only [FInv, ha] at h
    exact finv_cons (Ne.symm e) hb hl (fun b hbm => klt_trans hl (h.2 b hbm))
  | worse hb ha e hl =>
    simp only [FInv, ha] at h
    exact finv_cons e h.1 hl h.2

def Covered (owns : List Key) (c : FState) (s : Key) : Prop :=
  c.applied = some s ∨ s ∈ c.blocked ∨ (s ∈ owns ∧ ∃ a, c.applied = some a ∧ klt a s = true)

theorem covered_now (owns : List Key) (c : FState) (s : Key) : Covered owns (fstep owns c s) s := by
  have hs := fstep_spec owns c s
  generalize fstep owns c s = c' at hs
  cases hs with
  | blocked hb => exact .inr (.inl hb)
  | first | better => exact .inl rfl
  | same _ ha => exact .inl ha
  | ownWorse _ ha _ hl ho => exact .inr (.inr ⟨ho, _, ha, hl⟩)
  | worse => exact .inr (.inl List.mem_cons_self)

theorem covered_step (owns : List Key) (c : FState) (s y : Key) (h : Covered owns c s) : Covered owns (fstep owns c y) s := by
  have hs := fstep_spec owns c y
  generalize fstep owns c y = c' at hs
  cases hs with
  | blocked | same | ownWorse => exact h
  | first _ ha =>
    rcases h with h | h | ⟨_, a, h, _⟩
    · rw [ha] at h; cases h
    · exact .inr (.inl h)
    · rw [ha] at h; cases h
  | better _ ha _ hl =>
    rcases h with h | h | ⟨ho, a', h, hlt⟩
    · rw [ha] at h; cases h; exact .inr (.inl List.mem_cons_self)
    · exact .inr (.inl (List.mem_cons_of_mem _ h))
    · rw [ha] at h; cases h
      exact .inr (.inr ⟨ho, y, rfl, klt_trans hl hlt⟩)
  | worse _ ha =>
    rcases h with h | h | ⟨ho, a', h, hlt⟩
    · exact .inl (ha ▸ h)
    · exact .inr (.inl (List.mem_cons_of_mem _ h))
    · exact .inr (.inr ⟨ho, a', ha ▸ h, hlt⟩)

theorem finv_run (owns : List Key) (l : List Key) (c : FState) (h : FInv c) : FInv (l.foldl (fstep owns) c) :=
  foldl_invariant (finv_fstep owns) l c h

theorem run_covers (owns : List Key) (l : List Key) (c : FState) : ∀ s ∈ l, Covered owns (l.foldl (fstep owns) c) s := by
  induction l generalizing c with
  | nil => intro s hs; cases hs
  | cons x l ih =>
    intro s hs
    rcases List.mem_cons.mp hs with rfl | hs'
    · have pers : ∀ (l : List Key) (c : FState), Covered owns c s → Covered owns (l.foldl (fstep owns) c) s := by
        intro l
        induction l with
        | nil => intro c h; exact h
        | cons y l ih2 => intro c h; exact ih2 _ (covered_step owns c s y h)
      exact pers l _ (covered_now owns c s)
    · exact ih _ s hs'

theorem run_applied_mem (owns : List Key) (l : List Key) (c : FState) (a : Key) (h : (l.foldl (fstep owns) c).applied = some a) :
    c.applied = some a ∨ a ∈ l := by
  induction l generalizing c with
  | nil => exact .inl h
  | cons x l ih =>
    rcases ih (fstep owns c x) h with h1 | h1
    · have hs := fstep_spec owns c x
      generalize fstep owns c x = c' at hs h1
      cases hs with
      | blocked | same | ownWorse => exact .inl h1
      | worse _ ha => exact .inl (ha.trans h1)
      | first | better => cases h1; exact .inr List.mem_cons_self
    · exact .inr (List.mem_cons_of_mem _ h1)

theorem single_fork_owns (owns : List Key) (l : List Key) (hne : l ≠ []) :
    ∃ a, a ∈ l ∧ (l.foldl (fstep owns) ⟨none, []⟩).applied = some a ∧ (∀ s ∈ l, a = s ∨ klt a s = true) ∧
      ∀ s ∈ l, s ≠ a → s ∉ owns → s ∈ (l.foldl (fstep owns) ⟨none, []⟩).blocked := by
  have hinv := finv_run owns l ⟨none, []⟩ rfl
  obtain ⟨x, hx⟩ := List.exists_mem_of_ne_nil l hne
  have hcov := run_covers owns l ⟨none, []⟩
  cases ha : (l.foldl (fstep owns) ⟨none, []⟩).applied with
  | none =>
    simp only [FInv, ha] at hinv
    rcases hcov x hx with h | h | ⟨_, a, h, _⟩
    · rw [ha] at h; cases h
    · rw [hinv] at h; cases h
    · rw [ha] at h; cases h
  | some a =>
    simp only [FInv, ha] at hinv
    have hmem : a ∈ l := (run_applied_mem owns l _ a ha).resolve_left nofun
    refine ⟨a, hmem, rfl, fun s hs => ?_, fun s hs hne' hno => ?_⟩
    · rcases hcov s hs with h | h | ⟨_, a', h, hlt⟩
      · rw [ha] at h; exact .inl (Option.some.inj h)
      · exact .inr (hinv.2 s h)
      · rw [ha] at h; cases h; exact .inr hlt
    · rcases hcov s hs with h | h | ⟨ho, _⟩
      · rw [ha] at h; exact absurd (Option.some.inj h).symm hne'
      · exact h
      · exact absurd ho hno

/-- MIP-03 at one fork: whatever the order and repetition of the deliveries, some delivered key is
    applied, it beats or equals every delivered key, and every other delivered key is blocked -/
theorem single_fork (l : List Key) (hne : l ≠ []) :
    ∃ a, a ∈ l ∧ (frun ⟨none, []⟩ l).applied = some a ∧
      (∀ s ∈ l, a = s ∨ klt a s = true) ∧ (∀ s ∈ l, s ≠ a → s ∈ (frun ⟨none, []⟩ l).blocked) := by
  obtain ⟨a, h1, h2, h3, h4⟩ := single_fork_owns [] l hne
  rw [frun, fdeliver_eq_fstep]
  exact ⟨a, h1, h2, h3, fun s hs hn => h4 s hs hn List.not_mem_nil⟩

/-! ## the parent state, the commits created in it, the child state -/

theorem ensureSecret_of_some (g : GState) (q : Path) (h : alookup (epochOf g.path) g.secrets = some q) :
    ensureSecret g = g := by simp [ensureSecret, h]

theorem ensureSecret_of_none (g : GState) (h : alookup (epochOf g.path) g.secrets = none) :
    ensureSecret g = { g with secrets := ainsert (epochOf g.path) g.path g.secrets } := by simp [ensureSecret, h]

theorem ensureSecret_idem (g : GState) : ensureSecret (ensureSecret g) = ensureSecret g := by
  cases h : alookup (epochOf g.path) g.secrets with
  | some q => rw [ensureSecret_of_some g q h, ensureSecret_of_some g q h]
  | none =>
    rw [ensureSecret_of_none g h]
    exact ensureSecret_of_some _ g.path (by simp [alookup_ainsert_self])

theorem snoc_beq (p : Path) (n : Nat) : ((p ++ [n]) == p) = false := by
  have : p ++ [n] ≠ p := by
    intro h
    have := congrArg List.length h
    simp at this
  simpa using this

/-- hypotheses on the client at the fork's parent state -/
structure Base (c0 : Cl) : Prop where
  hasGroup : c0.hasGroup = true
  act : c0.g.active = true
  ret : 1 ≤ c0.retention
  sec0 : alookup (epochOf c0.g.path) c0.g.secrets = none ∨ alookup (epochOf c0.g.path) c0.g.secrets = some c0.g.path
  sec1 : alookup (epochOf c0.g.path + 1) c0.g.secrets = none
  mgr : ∀ s ∈ c0.mgr, s.epoch ≠ epochOf c0.g.path

/-- the parent state with the current epoch's exporter secret stored (what a snapshot saves) -/
def gP (c0 : Cl) : GState := ensureSecret c0.g

theorem gP_path (c0 : Cl) : (gP c0).path = c0.g.path := ensureSecret_path _

theorem gP_sec0 (c0 : Cl) (hb : Base c0) : alookup (epochOf c0.g.path) (gP c0).secrets = some c0.g.path := by
  rcases hb.sec0 with h | h
  · rw [gP, ensureSecret_of_none _ h]; simp [alookup_ainsert_self]
  · rw [gP, ensureSecret_of_some _ _ h]; exact h

theorem gP_sec1 (c0 : Cl) (hb : Base c0) : alookup (epochOf c0.g.path + 1) (gP c0).secrets = none := by
  rcases hb.sec0 with h | h
  · rw [gP, ensureSecret_of_none _ h]
    simp only
    rw [alookup_ainsert_ne _ _ _ _ (by omega)]; exact hb.sec1
  · rw [gP, ensureSecret_of_some _ _ h]; exact hb.sec1

/-- a sibling commit at the fork -/
structure Sib (c0 : Cl) (e : Ev) : Prop where
  path : e.path = c0.g.path
  kind : ∃ b sw, e.kind = .commit b sw ∧ (isAdmin c0.g e.sender || isPureSelfUpdate b sw) = true
  foreign : (e.sender == c0.id) = false
  ts : e.ts ≠ 0
  cipher : e.cipher ∉ c0.g.consumed
  tag : e.tag = c0.g.recNid           -- published under the id in force at the parent state
  nid : ∀ b sw, e.kind = .commit b sw → (applyBody (ensureSecret c0.g) b).nid = c0.g.recNid   -- and it does not rotate it
  me : ∀ b sw, e.kind = .commit b sw → removesMe c0.id b sw = false                          -- nor removes the receiver

/-- a commit created in the parent state (foreign sibling or the client's own) -/
structure Com (c0 : Cl) (e : Ev) : Prop where
  path : e.path = c0.g.path
  kind : ∃ b sw, e.kind = .commit b sw
  ts : e.ts ≠ 0
  tag : e.tag = c0.g.recNid
  nid : ∀ b sw, e.kind = .commit b sw → (applyBody (ensureSecret c0.g) b).nid = c0.g.recNid
  me : ∀ b sw, e.kind = .commit b sw → removesMe c0.id b sw = false

theorem Sib.com {c0 : Cl} {e : Ev} (h : Sib c0 e) : Com c0 e :=
  ⟨h.path, by obtain ⟨b, sw, hk, _⟩ := h.kind; exact ⟨b, sw, hk⟩, h.ts, h.tag, h.nid, h.me⟩

def rec0 (c0 : Cl) : Rec := { state := 2, epoch := some (epochOf c0.g.path), hasGroup := true, mid := none }

/-- the client's own staged commit (what `stageCommit` leaves behind) -/
structure OwnSib (c0 : Cl) (o : Ev) : Prop where
  path : o.path = c0.g.path
  kind : ∃ b sw, o.kind = .commit b sw
  own : (o.sender == c0.id) = true
  ts : o.ts ≠ 0
  pending : c0.g.pending = some o
  record : getRec c0 o.n = some (rec0 c0)
  tag : o.tag = c0.g.recNid
  nid : ∀ b sw, o.kind = .commit b sw → (applyBody (ensureSecret c0.g) b).nid = c0.g.recNid
  me : ∀ b sw, o.kind = .commit b sw → removesMe c0.id b sw = false

theorem OwnSib.com {c0 : Cl} {o : Ev} (h : OwnSib c0 o) : Com c0 o := ⟨h.path, h.kind, h.ts, h.tag, h.nid, h.me⟩

/-- the state after applying sibling `a` on the parent state -/
def childG (c0 : Cl) (a : Ev) : GState := syncRec (ensureSecret (mergeCommit c0.maxPast (gP c0) a))

theorem childG_facts (c0 : Cl) (hb : Base c0) (a : Ev) (hs : Com c0 a) :
    (childG c0 a).path = c0.g.path ++ [a.cipher] ∧
    alookup (epochOf c0.g.path + 1) (childG c0 a).secrets = some (c0.g.path ++ [a.cipher]) ∧
    alookup (epochOf c0.g.path) (childG c0 a).secrets = some c0.g.path ∧
    (childG c0 a).recEpoch = epochOf c0.g.path + 1 := by
  obtain ⟨b, sw, hk⟩ := hs.kind
  obtain ⟨hp, hsec⟩ := mergeCommit_path c0.maxPast (gP c0) a b sw hk
  rw [gP_path] at hp
  have hnone : alookup (epochOf (mergeCommit c0.maxPast (gP c0) a).path) (mergeCommit c0.maxPast (gP c0) a).secrets = none := by
    rw [hp, hsec, epochOf_snoc]; exact gP_sec1 c0 hb
  unfold childG
  rw [ensureSecret_of_none _ hnone]
  simp only [syncRec, hp, hsec, epochOf_snoc]
  refine ⟨trivial, by simp [alookup_ainsert_self], ?_, trivial⟩
  rw [alookup_ainsert_ne _ _ _ _ (by omega)]; exact gP_sec0 c0 hb

/-- a commit that does not rotate the nostr group id leaves the id in force where it was -/
theorem childG_recNid (c0 : Cl) (a : Ev) (hs : Com c0 a) : (childG c0 a).recNid = c0.g.recNid := by
  obtain ⟨b, sw, hk⟩ := hs.kind
  have h := hs.nid b sw hk
  simp only [childG, syncRec, ensureSecret_nid]
  simp only [mergeCommit, hk, gP]
  exact h

theorem childG_stable (c0 : Cl) (hb : Base c0) (a : Ev) (hs : Com c0 a) :
    ensureSecret (childG c0 a) = childG c0 a ∧ syncRec (childG c0 a) = childG c0 a := by
  obtain ⟨h1, h2, _, _⟩ := childG_facts c0 hb a hs
  constructor
  · exact ensureSecret_of_some _ _ (by rw [h1, epochOf_snoc]; exact h2)
  · simp [childG, syncRec]

theorem outerOpens_parent (c0 : Cl) (hb : Base c0) (e : Ev) (hp : e.path = c0.g.path) : outerOpens (gP c0) e = true := by
  simp [outerOpens, gP_path, gP_sec0 c0 hb, hp]

theorem outerOpens_child (c0 : Cl) (hb : Base c0) (a e : Ev) (hs : Com c0 a) (hp : e.path = c0.g.path) :
    outerOpens (childG c0 a) e = true := by
  obtain ⟨h1, h2, h3, _⟩ := childG_facts c0 hb a hs
  simp only [outerOpens, h1, epochOf_snoc, h2, Bool.or_eq_true, List.any_eq_true]
  right
  refine ⟨0, by simp, ?_⟩
  have h3' : alookup (baseEpoch + c0.g.path.length) (childG c0 a).secrets = some c0.g.path := h3
  simp [hp, epochOf, h3']

/-! ## the consumed-ciphertext list rides along

  Since the model follows OpenMLS in consuming a foreign commit's ratchet generation BEFORE the
  snapshot, the parent state saved in a snapshot differs from the original one in `consumed`.  None of
  the functions of the model looks at that field (`wc` and how it commutes with them: Proofs/Client.lean). -/

theorem consume_wc (c : Cl) (g : GState) (X : List Nat) (x : Nat) :
    consume { c with g := wc g X } x = { c with g := wc g (x :: X) } := rfl

theorem outerOpens_wc (g : GState) (X : List Nat) (e : Ev) : outerOpens (wc g X) e = outerOpens g e := rfl


/-! ## `process_message` on a commit: which handler runs -/

theorem step1_commit_same (retry : Cl → Option (Cl × Res)) (nx : Nat) (c : Cl) (e : Ev) (b : Body) (sw : List Nat)
    (hg : routes c e = true) (hact : c.g.active = true) (ho : outerOpens (withSecret c).g e = true) (hk : e.kind = .commit b sw)
    (hep : epochOf e.path = epochOf c.g.path) (hf : (e.sender == c.id) = false)
    (hc : e.cipher ∉ c.g.consumed) :
    step1 retry nx c e = processCommit (consume (withSecret c) e.cipher) e b sw := by
  unfold step1
  simp only [consume]
  simp [hg, hact, ho, hk, hep, hf, hc]

theorem step1_commit_wrong (retry : Cl → Option (Cl × Res)) (nx : Nat) (c : Cl) (e : Ev) (b : Body) (sw : List Nat)
    (hg : routes c e = true) (hact : c.g.active = true) (ho : outerOpens (withSecret c).g e = true) (hk : e.kind = .commit b sw)
    (hep : epochOf e.path ≠ epochOf c.g.path) :
    step1 retry nx c e = wrongEpochCommit retry (withSecret c) e (epochOf e.path) := by
  unfold step1
  simp [hg, hact, ho, hk, hep]

theorem step1_commit_own (retry : Cl → Option (Cl × Res)) (nx : Nat) (c : Cl) (e p : Ev) (b : Body) (sw : List Nat)
    (hg : routes c e = true) (hact : c.g.active = true) (ho : outerOpens (withSecret c).g e = true) (hk : e.kind = .commit b sw)
    (hep : epochOf e.path = epochOf c.g.path) (hf : (e.sender == c.id) = true) (hp : c.g.pending = some p) :
    step1 retry nx c e = mergeOwn (withSecret c) e p := by
  unfold step1
  simp [hg, hact, ho, hk, hep, hf, hp, mergeOwn]

theorem processCommit_mergeOwn (c : Cl) (e : Ev) (b : Body) (sw : List Nat)
    (ha : (isAdmin c.g e.sender || isPureSelfUpdate b sw) = true) (hme : removesMe c.id b sw = false) :
    processCommit c e b sw = mergeOwn c e e := by
  unfold processCommit
  simp [ha, hme, mergeOwn]

theorem deliverOnce_norec (retry : Cl → Option (Cl × Res)) (nx : Nat) (c : Cl) (e : Ev) (h : getRec c e.n = none) :
    deliverOnce retry nx c e = step1 retry nx c e := by simp [deliverOnce, h]

theorem deliverOnce_blocked (retry : Cl → Option (Cl × Res)) (nx : Nat) (c : Cl) (e : Ev) (r : Rec)
    (h : getRec c e.n = some r) (hs : r.state = 3 ∨ r.state = 4) : (deliverOnce retry nx c e).1 = c := by
  rcases hs with hs | hs <;> simp [deliverOnce, h, hs]

theorem deliverOnce_rec2 (retry : Cl → Option (Cl × Res)) (nx : Nat) (c : Cl) (e : Ev) (r : Rec)
    (h : getRec c e.n = some r) (hs : r.state = 2) : deliverOnce retry nx c e = step1 retry nx c e := by
  simp [deliverOnce, h, hs]

theorem deliverN_once (f nx : Nat) (c : Cl) (e : Ev) : ∃ retry, deliverN f nx c e = deliverOnce retry nx c e := by
  cases f with
  | zero => exact ⟨_, rfl⟩
  | succ f => exact ⟨_, rfl⟩


/-! ## the two shapes of the client at the fork -/

/-- the snapshot of the parent state taken when sibling `a` was applied, with consumed list `X` -/
def snapOf (c0 : Cl) (a : Ev) (X : List Nat) : Snap :=
  { epoch := epochOf c0.g.path, commit := a.idnum, ts := a.ts, saved := wc (gP c0) X }

/-- at the parent state (possibly after rollbacks): the parent state up to the consumed list; the snapshot
    manager holds a suffix of the original queue -/
structure PForm (c0 c : Cl) : Prop where
  id : c.id = c0.id
  ret : c.retention = c0.retention
  mp : c.maxPast = c0.maxPast
  hg : c.hasGroup = true
  g : ensureSecret c.g = wc (gP c0) c.g.consumed
  mgr : ∃ k, c.mgr = c0.mgr.drop k

/-- sibling `a` applied: its state (up to the consumed list), and the snapshot of the parent state — with
    the same consumed list — last in the queue -/
structure CForm (c0 : Cl) (a : Ev) (c : Cl) : Prop where
  id : c.id = c0.id
  ret : c.retention = c0.retention
  mp : c.maxPast = c0.maxPast
  hg : c.hasGroup = true
  g : c.g = wc (childG c0 a) c.g.consumed
  mgr : ∃ k, c.mgr = c0.mgr.drop k ++ [snapOf c0 a c.g.consumed]

theorem pform_init (c0 : Cl) (hb : Base c0) : PForm c0 c0 := by
  refine ⟨rfl, rfl, rfl, hb.hasGroup, ?_, ⟨0, by simp⟩⟩
  have : (ensureSecret c0.g).consumed = c0.g.consumed := ensureSecret_consumed c0.g
  rw [← this]; exact (wc_self _).symm

theorem pform_g {c0 c : Cl} (hf : PForm c0 c) :
    c.g.path = c0.g.path ∧ c.g.pending = c0.g.pending ∧ c.g.recNid = c0.g.recNid ∧ c.g.active = c0.g.active :=
  ⟨(ensureSecret_path _).symm.trans ((congrArg GState.path hf.g).trans (ensureSecret_path c0.g)),
   (ensureSecret_pending _).symm.trans ((congrArg GState.pending hf.g).trans (ensureSecret_pending c0.g)),
   (ensureSecret_recNid _).symm.trans ((congrArg GState.recNid hf.g).trans (ensureSecret_recNid c0.g)),
   (ensureSecret_active _).symm.trans ((congrArg GState.active hf.g).trans (ensureSecret_active c0.g))⟩

theorem pform_active (c0 c : Cl) (hb : Base c0) (hf : PForm c0 c) : c.g.active = true := (pform_g hf).2.2.2.trans hb.act

theorem cform_active (c0 : Cl) (hb : Base c0) (a : Ev) (c : Cl) (hf : CForm c0 a c) : c.g.active = true := by
  rw [hf.g]
  simp only [wc, childG, syncRec, ensureSecret_active, mergeCommit_active, gP]
  exact hb.act

theorem pform_routes (c0 c : Cl) (e : Ev) (hf : PForm c0 c) (ht : e.tag = c0.g.recNid) : routes c e = true := by
  simp [routes, hf.hg, ht, (pform_g hf).2.2.1]

theorem cform_routes (c0 : Cl) (a : Ev) (c : Cl) (e : Ev) (hf : CForm c0 a c) (ha : Com c0 a) (ht : e.tag = c0.g.recNid) :
    routes c e = true := by
  have h1 : c.g.recNid = c0.g.recNid := by
    rw [hf.g]
    exact childG_recNid c0 a ha
  simp [routes, hf.hg, ht, h1]

def rec2 (c0 : Cl) : Rec := { state := 2, epoch := some (epochOf c0.g.path + 1), hasGroup := true, mid := none }
def rec3 (c0 : Cl) : Rec := { state := 3, epoch := some (epochOf c0.g.path + 1), hasGroup := true, mid := none }

theorem withSecret_eq (c : Cl) (h : ensureSecret c.g = c.g) : withSecret c = c := by
  cases c; simp only [withSecret] at *; simp [h]

theorem drop_snoc_suffix {α : Type} (q : List α) (k ret : Nat) (s : α) (hr : 1 ≤ ret) :
    ∃ k', (q.drop k ++ [s]).drop ((q.drop k ++ [s]).length - ret) = q.drop k' ++ [s] := by
  have hlen : (q.drop k ++ [s]).length - ret ≤ (q.drop k).length := by
    simp only [List.length_append, List.length_singleton]
    omega
  exact ⟨k + ((q.drop k ++ [s]).length - ret), by rw [List.drop_append_of_le_length hlen, List.drop_drop]⟩

/-- Snapshot and merge of commit `e` at the parent state with consumed list `X`.  Applying a foreign sibling
    (`process_commit`, after its ratchet generation was consumed) and merging the own pending commit on its echo both
    come to this. -/
theorem mergeOwn_parent (c0 : Cl) (hb : Base c0) (c : Cl) (e : Ev) (hf : PForm c0 c) (hc : Com c0 e) (X : List Nat) :
    mergeOwn { c with g := wc (gP c0) X } e e =
      ({ c with g := wc (childG c0 e) X,
                mgr := (c.mgr ++ [snapOf c0 e X]).drop ((c.mgr ++ [snapOf c0 e X]).length - c.retention),
                recs := ainsert e.n (rec2 c0) c.recs }, .commit) := by
  have hG : syncRec (ensureSecret (mergeCommit c.maxPast (wc (gP c0) X) e)) = wc (childG c0 e) X := by
    rw [hf.mp, mergeCommit_wc, ensureSecret_wc, syncRec_wc]; rfl
  have hep : epochOf (wc (childG c0 e) X).path = epochOf c0.g.path + 1 := by
    show epochOf (childG c0 e).path = _
    rw [(childG_facts c0 hb e hc).1, epochOf_snoc]
  have hp : (wc (gP c0) X).path = c0.g.path := gP_path c0
  simp only [mergeOwn, mgrCreate, setRec, hG, hep, hp]
  rfl

theorem isAdmin_parent (c0 : Cl) (X : List Nat) (who : Nat) : isAdmin (wc (gP c0) X) who = isAdmin c0.g who := by
  simp [isAdmin, gP, wc]

/-- What the dedup table holds for a sibling that is neither applied nor blocked, and (`X`) what applying it adds to the
    consumed list: nothing is recorded for a foreign sibling, and its ciphertext is unconsumed; the own commit has the
    ProcessedCommit record `stageCommit` left, and merging it decrypts nothing. -/
inductive Ready (c0 c : Cl) (e : Ev) : List Nat → Prop
  | foreign : Sib c0 e → getRec c e.n = none → e.cipher ∉ c.g.consumed → Ready c0 c e [e.cipher]
  | own : OwnSib c0 e → getRec c e.n = some (rec0 c0) → Ready c0 c e []

theorem Ready.com {c0 c : Cl} {e : Ev} {X : List Nat} (h : Ready c0 c e X) : Com c0 e := by
  cases h with
  | foreign hs => exact hs.com
  | own hs => exact hs.com

theorem Ready.pass {c0 c : Cl} {e : Ev} {X : List Nat} (h : Ready c0 c e X) (retry : Cl → Option (Cl × Res)) (nx : Nat) :
    deliverOnce retry nx c e = step1 retry nx c e := by
  cases h with
  | foreign _ hr => exact deliverOnce_norec _ _ _ _ hr
  | own _ hr => exact deliverOnce_rec2 _ _ _ _ _ hr rfl

theorem apply_ready (c0 : Cl) (hb : Base c0) (retry : Cl → Option (Cl × Res)) (nx : Nat) (c : Cl) (e : Ev) (X : List Nat)
    (hf : PForm c0 c) (hr : Ready c0 c e X) :
    CForm c0 e (deliverOnce retry nx c e).1 ∧ (deliverOnce retry nx c e).1.recs = ainsert e.n (rec2 c0) c.recs ∧
    (deliverOnce retry nx c e).1.g.consumed = X ++ c.g.consumed ∧
    (deliverOnce retry nx c e).1.mgr = (c.mgr ++ [snapOf c0 e (X ++ c.g.consumed)]).drop
      ((c.mgr ++ [snapOf c0 e (X ++ c.g.consumed)]).length - c.retention) := by
  have hw : withSecret c = { c with g := wc (gP c0) c.g.consumed } := by
    show ({ c with g := ensureSecret c.g } : Cl) = _
    rw [hf.g]
  have hopen : outerOpens (withSecret c).g e = true := by
    rw [hw]; exact outerOpens_parent c0 hb e hr.com.path
  have hep : epochOf e.path = epochOf c.g.path := by rw [hr.com.path, (pform_g hf).1]
  have hstep : deliverOnce retry nx c e = mergeOwn { c with g := wc (gP c0) (X ++ c.g.consumed) } e e := by
    rw [hr.pass]
    cases hr with
    | foreign hs _ hc =>
      obtain ⟨b, sw, hk, hadm⟩ := hs.kind
      rw [step1_commit_same retry nx c e b sw (pform_routes c0 c e hf hs.tag) (pform_active c0 c hb hf) hopen hk hep
          (by rw [hf.id]; exact hs.foreign) hc, hw, consume_wc]
      exact processCommit_mergeOwn _ e b sw
        ((congrArg (· || isPureSelfUpdate b sw) (isAdmin_parent c0 _ e.sender)).trans hadm)
        ((congrArg (removesMe · b sw) hf.id).trans (hs.me b sw hk))
    | own hs =>
      obtain ⟨b, sw, hk⟩ := hs.kind
      rw [step1_commit_own retry nx c e e b sw (pform_routes c0 c e hf hs.tag) (pform_active c0 c hb hf) hopen hk hep
          (by rw [hf.id]; exact hs.own) ((pform_g hf).2.1.trans hs.pending), hw]
      rfl
  obtain ⟨k, hk⟩ := hf.mgr
  obtain ⟨k', hk'⟩ := drop_snoc_suffix c0.mgr k c.retention (snapOf c0 e (X ++ c.g.consumed)) (hf.ret ▸ hb.ret)
  rw [hstep, mergeOwn_parent c0 hb c e hf hr.com]
  exact ⟨⟨hf.id, hf.ret, hf.mp, hf.hg, rfl, ⟨k', hk ▸ hk'⟩⟩, rfl, rfl, rfl⟩

theorem apply_parent (c0 : Cl) (hb : Base c0) (retry : Cl → Option (Cl × Res)) (nx : Nat) (c : Cl) (e : Ev)
    (hf : PForm c0 c) (hs : Sib c0 e) (hr : getRec c e.n = none) (hc : e.cipher ∉ c.g.consumed) :
    CForm c0 e (deliverOnce retry nx c e).1 ∧ (deliverOnce retry nx c e).1.recs = ainsert e.n (rec2 c0) c.recs ∧
    (deliverOnce retry nx c e).1.g.consumed = e.cipher :: c.g.consumed ∧
    (deliverOnce retry nx c e).1.mgr = (c.mgr ++ [snapOf c0 e (e.cipher :: c.g.consumed)]).drop
      ((c.mgr ++ [snapOf c0 e (e.cipher :: c.g.consumed)]).length - c.retention) :=
  apply_ready c0 hb retry nx c e _ hf (.foreign hs hr hc)

def key (e : Ev) : Key := (e.ts, e.idnum)

theorem find_mid (X Y : List Snap) (s : Snap) (ep : Nat) (hX : ∀ x ∈ X, x.epoch ≠ ep) (hs : s.epoch = ep) :
    (X ++ s :: Y).find? (·.epoch == ep) = some s := by
  rw [List.find?_append]
  have : X.find? (·.epoch == ep) = none := by
    apply List.find?_eq_none.mpr; intro x hx; simpa using hX x hx
  simp [this, hs]

theorem findIdx_mid (X Y : List Snap) (s : Snap) (ep : Nat) (hX : ∀ x ∈ X, x.epoch ≠ ep) (hs : s.epoch = ep) :
    findIdx (X ++ s :: Y) ep = some X.length := by
  induction X with
  | nil => simp [findIdx, hs]
  | cons x t ih =>
    have hx : (x.epoch == ep) = false := by simpa using hX x List.mem_cons_self
    simp only [List.cons_append, findIdx, hx, Bool.false_eq_true, if_false,
      ih (fun y hy => hX y (List.mem_cons_of_mem _ hy)), Option.map_some, List.length_cons]

theorem drop_no_epoch (c0 : Cl) (hb : Base c0) (k : Nat) : ∀ x ∈ c0.mgr.drop k, x.epoch ≠ epochOf c0.g.path :=
  fun x hx => hb.mgr x (List.mem_of_mem_drop hx)

theorem isBetter_eq_klt (c : Cl) (ee : Nat) (e : Ev) (s : Snap) (hf : c.mgr.find? (·.epoch == ee) = some s) (hts : s.ts ≠ 0) :
    isBetter c ee e = klt (e.ts, e.idnum) (s.ts, s.commit) := by
  have : (s.ts == 0) = false := by simpa using hts
  simp only [isBetter, hf, this, Bool.false_eq_true, if_false, klt]
  by_cases h1 : e.ts < s.ts
  · simp [h1]
  · by_cases h2 : e.ts > s.ts
    · simp [h1, h2, Nat.ne_of_gt h2]
    · simp [Nat.le_antisymm (Nat.not_lt.mp h2) (Nat.not_lt.mp h1)]

theorem isBetter_mid (c : Cl) (X Y : List Snap) (s : Snap) (ep : Nat) (e : Ev) (hm : c.mgr = X ++ s :: Y)
    (hX : ∀ x ∈ X, x.epoch ≠ ep) (hs : s.epoch = ep) (hts : s.ts ≠ 0) :
    isBetter c ep e = klt (key e) (s.ts, s.commit) :=
  isBetter_eq_klt c ep e s (by rw [hm]; exact find_mid X Y s ep hX hs) hts

theorem isBetter_child (c0 : Cl) (hb : Base c0) (a e : Ev) (c : Cl) (hf : CForm c0 a c) (hts : a.ts ≠ 0) :
    isBetter c (epochOf c0.g.path) e = klt (key e) (key a) := by
  obtain ⟨k, hk⟩ := hf.mgr
  exact isBetter_mid c _ [] (snapOf c0 a c.g.consumed) _ e hk (drop_no_epoch c0 hb k) rfl hts

theorem rbRec_rec0 (c0 : Cl) : rbRec (epochOf c0.g.path) (rec0 c0) = rec0 c0 := by
  simp [rbRec, rbRec1, rbRec2, rec0]

theorem rollback_mid (c : Cl) (X Y : List Snap) (s : Snap) (ep : Nat) (hm : c.mgr = X ++ s :: Y)
    (hX : ∀ x ∈ X, x.epoch ≠ ep) (hs : s.epoch = ep) :
    ∃ c1, rollbackTo c ep = some c1 ∧ c1.g = s.saved ∧ c1.mgr = X ∧ c1.id = c.id ∧ c1.retention = c.retention ∧
      c1.maxPast = c.maxPast ∧ c1.hasGroup = c.hasGroup ∧ ∀ n, getRec c1 n = (getRec c n).map (rbRec ep) := by
  have hidx := findIdx_mid X Y s ep hX hs
  obtain ⟨c1, hrb⟩ : ∃ c1, rollbackTo c ep = some c1 := by
    unfold rollbackTo
    rw [hm, hidx]
    simp only [List.drop_left]
    exact ⟨_, rfl⟩
  obtain ⟨i, s', rest, hi, hd, _, rfl⟩ := rollbackTo_spec hrb
  rw [hm, hidx] at hi
  cases hi
  rw [hm, List.drop_left] at hd
  cases hd
  exact ⟨_, hrb, rfl, by rw [hm, List.take_left], rfl, rfl, rfl, rfl, rollbackTo_getRec hrb⟩

/-- at child `a`, rolling back to the fork epoch restores the parent shape; records are rewritten -/
theorem rollback_child (c0 : Cl) (hb : Base c0) (a : Ev) (c : Cl) (hf : CForm c0 a c) :
    ∃ c1, rollbackTo c (epochOf c0.g.path) = some c1 ∧ PForm c0 c1 ∧ c1.g.consumed = c.g.consumed ∧
      ∀ n, getRec c1 n = (getRec c n).map (rbRec (epochOf c0.g.path)) := by
  obtain ⟨k, hk⟩ := hf.mgr
  obtain ⟨c1, hrb, hg, hmgr, hid, hret, hmp, hhg, hrec⟩ :=
    rollback_mid c _ [] (snapOf c0 a c.g.consumed) _ hk (drop_no_epoch c0 hb k) rfl
  refine ⟨c1, hrb, ⟨hid.trans hf.id, hret.trans hf.ret, hmp.trans hf.mp, hhg.trans hf.hg, ?_, ⟨k, hmgr⟩⟩, by rw [hg]; rfl, hrec⟩
  rw [hg]
  show ensureSecret (wc (ensureSecret c0.g) c.g.consumed) = wc (gP c0) c.g.consumed
  rw [ensureSecret_wc, ensureSecret_idem]; rfl

/-- at child `a` the wrong-epoch handler runs on the unchanged client -/
theorem child_wrong (c0 : Cl) (hb : Base c0) (retry : Cl → Option (Cl × Res)) (nx : Nat) (a e : Ev) (c : Cl)
    (hf : CForm c0 a c) (ha : Com c0 a) (hs : Com c0 e) :
    step1 retry nx c e = wrongEpochCommit retry c e (epochOf c0.g.path) := by
  obtain ⟨b, sw, hk⟩ := hs.kind
  have hst := (childG_stable c0 hb a ha).1
  have hw : withSecret c = c := withSecret_eq c (by rw [hf.g, ensureSecret_wc, hst])
  have hpath : c.g.path = c0.g.path ++ [a.cipher] := by rw [hf.g]; exact (childG_facts c0 hb a ha).1
  rw [step1_commit_wrong retry nx c e b sw (cform_routes c0 a c e hf ha hs.tag) (cform_active c0 hb a c hf) (by rw [hw, hf.g, outerOpens_wc]; exact outerOpens_child c0 hb a e ha hs.path) hk
    (by rw [hs.path, hpath, epochOf_snoc]; omega), hw, hs.path]

/-- at child `a`, a worse foreign sibling gets a Failed record; nothing else changes -/
theorem child_worse (c0 : Cl) (hb : Base c0) (retry : Cl → Option (Cl × Res)) (nx : Nat) (a e : Ev) (c : Cl)
    (hf : CForm c0 a c) (ha : Com c0 a) (hs : Com c0 e) (hr : getRec c e.n = none)
    (hw : klt (key e) (key a) = false) :
    deliverOnce retry nx c e = ({ c with recs := ainsert e.n (rec3 c0) c.recs }, .unprocessable) := by
  have hb' : isBetter c (epochOf c0.g.path) e = false := by rw [isBetter_child c0 hb a e c hf ha.ts]; exact hw
  have hre : c.g.recEpoch = epochOf c0.g.path + 1 := by rw [hf.g]; exact (childG_facts c0 hb a ha).2.2.2
  rw [deliverOnce_norec _ _ _ _ hr, child_wrong c0 hb retry nx a e c hf ha hs]
  simp only [wrongEpochCommit, hb', Bool.false_eq_true, if_false, notBetterResult, hr, failUnprocessable, recordFailure, hre]
  simp [setRec, rec3]

/-- at child `a`, a commit whose record says ProcessedCommit and that is not better than `a` — `a` itself
    again, or the own commit — is answered from the record: nothing changes -/
theorem child_echo (c0 : Cl) (hb : Base c0) (retry : Cl → Option (Cl × Res)) (nx : Nat) (a e : Ev) (c : Cl)
    (hf : CForm c0 a c) (ha : Com c0 a) (hs : Com c0 e) (r : Rec) (hr : getRec c e.n = some r) (hst : r.state = 2)
    (hw : klt (key e) (key a) = false) : (deliverOnce retry nx c e).1 = c := by
  have hb' : isBetter c (epochOf c0.g.path) e = false := by rw [isBetter_child c0 hb a e c hf ha.ts]; exact hw
  rw [deliverOnce_rec2 _ _ _ _ r hr hst, child_wrong c0 hb retry nx a e c hf ha hs]
  simp only [wrongEpochCommit, hb', Bool.false_eq_true, if_false, notBetterResult, hr, hst, returnOwnCommit]
  have hsy : syncRec c.g = c.g := by rw [hf.g, syncRec_wc, (childG_stable c0 hb a ha).2]
  cases c
  simp only at hsy ⊢
  simp [hsy]

/-- at child `a`, a better ready sibling: rollback (a's record → EpochInvalidated), then it is applied (the
    snapshot holds the own pending commit, so that is back too) -/
theorem better_ready (c0 : Cl) (hb : Base c0) (f nx : Nat) (a e : Ev) (c : Cl) (X : List Nat)
    (hf : CForm c0 a c) (ha : Com c0 a) (hr : Ready c0 c e X) (hw : klt (key e) (key a) = true) :
    CForm c0 e (deliverN (f + 1) nx c e).1 ∧
    (∀ n, getRec (deliverN (f + 1) nx c e).1 n =
      if n = e.n then some (rec2 c0) else (getRec c n).map (rbRec (epochOf c0.g.path))) ∧
    (deliverN (f + 1) nx c e).1.g.consumed = X ++ c.g.consumed := by
  have hb' : isBetter c (epochOf c0.g.path) e = true := by rw [isBetter_child c0 hb a e c hf ha.ts]; exact hw
  obtain ⟨c1, hrb, hp1, hcons1, hrec1⟩ := rollback_child c0 hb a c hf
  have hr1 : Ready c0 c1 e X := by
    cases hr with
    | foreign hs hn hc => exact .foreign hs (by rw [hrec1, hn]; rfl) (by rw [hcons1]; exact hc)
    | own hs hn => exact .own hs (by rw [hrec1, hn]; exact congrArg some (rbRec_rec0 c0))
  obtain ⟨retry', hret⟩ := deliverN_once f nx c1 e
  have happ := apply_ready c0 hb retry' nx c1 e X hp1 hr1
  have heq : deliverN (f + 1) nx c e = deliverOnce retry' nx c1 e := by
    show deliverOnce (fun c1 => some (deliverN f nx c1 e)) nx c e = _
    rw [hr.pass, child_wrong c0 hb _ nx a e c hf ha hr.com]
    simp only [wrongEpochCommit, hb', if_true, hrb, hret]
  rw [heq]
  refine ⟨happ.1, ?_, by rw [happ.2.2.1, hcons1]⟩
  intro n
  simp only [getRec] at hrec1 ⊢
  rw [happ.2.1]
  by_cases hn : n = e.n
  · subst hn; simp [alookup_ainsert_self]
  · rw [alookup_ainsert_ne _ _ _ _ hn, hrec1]; simp [hn]

/-! ## the simulation -/

/-- the set of sibling commits of the fork -/
structure Sibs (c0 : Cl) (S : List Ev) : Prop where
  sib : ∀ e ∈ S, Sib c0 e
  inj : ∀ e1 ∈ S, ∀ e2 ∈ S, (e1.n = e2.n ∨ key e1 = key e2) → e1 = e2
  cinj : ∀ e1 ∈ S, ∀ e2 ∈ S, e1.cipher = e2.cipher → e1 = e2
  norec : ∀ e ∈ S, getRec c0 e.n = none

/-- the siblings of the committer: its own staged commit `o` and foreign ones -/
structure Sibs2 (c0 : Cl) (o : Ev) (S : List Ev) : Prop where
  own : OwnSib c0 o
  sib : ∀ e ∈ S, Sib c0 e
  inj : ∀ e1 ∈ o :: S, ∀ e2 ∈ o :: S, (e1.n = e2.n ∨ key e1 = key e2) → e1 = e2
  cinj : ∀ e1 ∈ S, ∀ e2 ∈ S, e1.cipher = e2.cipher → e1 = e2
  norec : ∀ e ∈ S, getRec c0 e.n = none

/-- the general case: own staged commits `O` (none for a bystander, one for a committer) and foreign siblings `S` -/
structure SibsG (c0 : Cl) (O S : List Ev) : Prop where
  own : ∀ o ∈ O, OwnSib c0 o
  sib : ∀ e ∈ S, Sib c0 e
  inj : ∀ e1 ∈ O ++ S, ∀ e2 ∈ O ++ S, (e1.n = e2.n ∨ key e1 = key e2) → e1 = e2
  cinj : ∀ e1 ∈ S, ∀ e2 ∈ S, e1.cipher = e2.cipher → e1 = e2
  norec : ∀ e ∈ S, getRec c0 e.n = none

theorem Sibs.toG {c0 : Cl} {S : List Ev} (h : Sibs c0 S) : SibsG c0 [] S := ⟨nofun, h.sib, h.inj, h.cinj, h.norec⟩

theorem Sibs2.toG {c0 : Cl} {o : Ev} {S : List Ev} (h : Sibs2 c0 o S) : SibsG c0 [o] S :=
  ⟨fun _ ho => List.mem_singleton.mp ho ▸ h.own, h.sib, h.inj, h.cinj, h.norec⟩

theorem SibsG.com {c0 : Cl} {O S : List Ev} (h : SibsG c0 O S) (e : Ev) (he : e ∈ O ++ S) : Com c0 e := by
  rcases List.mem_append.mp he with ho | hs
  · exact (h.own e ho).com
  · exact (h.sib e hs).com

/-- every consumed ciphertext was consumed before the fork or belongs to a sibling that has a record -/
def ConsOK (c0 : Cl) (S : List Ev) (c : Cl) : Prop :=
  ∀ x ∈ c.g.consumed, x ∈ c0.g.consumed ∨ ∃ e' ∈ S, e'.cipher = x ∧ getRec c e'.n ≠ none

theorem consOK_fresh (c0 : Cl) (S : List Ev) (c : Cl) (hsib : ∀ e ∈ S, Sib c0 e)
    (hcinj : ∀ e1 ∈ S, ∀ e2 ∈ S, e1.cipher = e2.cipher → e1 = e2) (h : ConsOK c0 S c)
    (e : Ev) (he : e ∈ S) (hr : getRec c e.n = none) : e.cipher ∉ c.g.consumed := by
  intro hm
  rcases h _ hm with x | ⟨e', he', hc, hn⟩
  · exact (hsib e he).cipher x
  · have := hcinj e' he' e he hc
    subst this
    exact hn hr

theorem consOK_step (c0 : Cl) (S : List Ev) (c c' : Cl) (h : ConsOK c0 S c)
    (hrec : ∀ e' ∈ S, getRec c e'.n ≠ none → getRec c' e'.n ≠ none)
    (hcons : c'.g.consumed = c.g.consumed ∨ ∃ e ∈ S, c'.g.consumed = e.cipher :: c.g.consumed ∧ getRec c' e.n ≠ none) :
    ConsOK c0 S c' := by
  intro x hx
  have old : x ∈ c.g.consumed → x ∈ c0.g.consumed ∨ ∃ e' ∈ S, e'.cipher = x ∧ getRec c' e'.n ≠ none := by
    intro hm
    rcases h x hm with y | ⟨e', he', hc, hn⟩
    · exact Or.inl y
    · exact Or.inr ⟨e', he', hc, hrec e' he' hn⟩
  rcases hcons with y | ⟨e, he, y, hn⟩
  · rw [y] at hx; exact old hx
  · rw [y] at hx
    rcases List.mem_cons.mp hx with z | z
    · exact Or.inr ⟨e, he, z.symm, hn⟩
    · exact old z

/-- a record that makes the dedup step refuse the event, and stays so across rollbacks to the fork epoch -/
def BlockedRec (c0 : Cl) (r : Rec) : Prop :=
  (r.state = 3 ∨ r.state = 4) ∧ r.hasGroup = true ∧ r.epoch = some (epochOf c0.g.path + 1)

theorem rbRec_blocked (c0 : Cl) (r : Rec) (h : r.hasGroup = true ∧ r.epoch = some (epochOf c0.g.path + 1)) :
    BlockedRec c0 (rbRec (epochOf c0.g.path) r) := by
  obtain ⟨h1, h2⟩ := h
  have : rbRec1 (epochOf c0.g.path) r = { r with state := 4 } := by simp [rbRec1, h1, h2]
  simp only [rbRec, this, rbRec2, h2]
  simp [BlockedRec, h1]

structure Rel (c0 : Cl) (S : List Ev) (c : Cl) (st : FState) : Prop where
  cons : ConsOK c0 S c
  par : st.applied = none → PForm c0 c
  chi : ∀ k, st.applied = some k → ∃ a ∈ S, key a = k ∧ CForm c0 a c ∧ getRec c a.n = some (rec2 c0)
  blk : ∀ e ∈ S, key e ∈ st.blocked → ∃ r, getRec c e.n = some r ∧ BlockedRec c0 r
  fresh : ∀ e ∈ S, key e ∉ st.blocked → st.applied ≠ some (key e) → getRec c e.n = none

structure Rel2 (c0 : Cl) (o : Ev) (S : List Ev) (c : Cl) (st : FState) : Prop where
  cons : ConsOK c0 S c
  par : st.applied = none → PForm c0 c
  chi : ∀ k, st.applied = some k → ∃ a ∈ o :: S, key a = k ∧ CForm c0 a c ∧ getRec c a.n = some (rec2 c0)
  blk : ∀ e ∈ o :: S, key e ∈ st.blocked → ∃ r, getRec c e.n = some r ∧ BlockedRec c0 r
  fresh : ∀ e ∈ S, key e ∉ st.blocked → st.applied ≠ some (key e) → getRec c e.n = none
  ownf : key o ∉ st.blocked → st.applied ≠ some (key o) → getRec c o.n = some (rec0 c0)

/-- The client and the fork machine in step: at the parent shape when nothing is applied, at the child shape of the
    applied sibling otherwise; a blocked sibling has a record that makes the dedup step refuse it, an untouched one is
    `Ready`.  `Rel` is the case of no own commit, `Rel2` that of one. -/
structure RelG (c0 : Cl) (O S : List Ev) (c : Cl) (st : FState) : Prop where
  cons : ConsOK c0 S c
  par : st.applied = none → PForm c0 c
  chi : ∀ k, st.applied = some k → ∃ a ∈ O ++ S, key a = k ∧ CForm c0 a c ∧ getRec c a.n = some (rec2 c0)
  blk : ∀ e ∈ O ++ S, key e ∈ st.blocked → ∃ r, getRec c e.n = some r ∧ BlockedRec c0 r
  fresh : ∀ e ∈ S, key e ∉ st.blocked → st.applied ≠ some (key e) → getRec c e.n = none
  ownf : ∀ o ∈ O, key o ∉ st.blocked → st.applied ≠ some (key o) → getRec c o.n = some (rec0 c0)

theorem Rel.toG {c0 : Cl} {S : List Ev} {c : Cl} {st : FState} (h : Rel c0 S c st) : RelG c0 [] S c st :=
  ⟨h.cons, h.par, h.chi, h.blk, h.fresh, nofun⟩
theorem RelG.toRel {c0 : Cl} {S : List Ev} {c : Cl} {st : FState} (h : RelG c0 [] S c st) : Rel c0 S c st :=
  ⟨h.cons, h.par, h.chi, h.blk, h.fresh⟩
theorem Rel2.toG {c0 : Cl} {o : Ev} {S : List Ev} {c : Cl} {st : FState} (h : Rel2 c0 o S c st) : RelG c0 [o] S c st :=
  ⟨h.cons, h.par, h.chi, h.blk, h.fresh, fun _ ho => List.mem_singleton.mp ho ▸ h.ownf⟩
theorem RelG.toRel2 {c0 : Cl} {o : Ev} {S : List Ev} {c : Cl} {st : FState} (h : RelG c0 [o] S c st) : Rel2 c0 o S c st :=
  ⟨h.cons, h.par, h.chi, h.blk, h.fresh, h.ownf o List.mem_cons_self⟩

theorem relG_init (c0 : Cl) (hb : Base c0) (O S : List Ev) (hS : SibsG c0 O S) : RelG c0 O S c0 ⟨none, []⟩ where
  cons := fun x hx => Or.inl hx
  par := fun _ => pform_init c0 hb
  chi := fun k h => by cases h
  blk := fun e _ h => by cases h
  fresh := fun e he _ _ => hS.norec e he
  ownf := fun o ho _ _ => (hS.own o ho).record

/-- `e` has just been applied — at the parent state, or after a rollback to it, which rewrites the records by `F`: what was
    applied before is blocked now, every other sibling is where it was -/
theorem relG_applied {c0 : Cl} {O S : List Ev} {c : Cl} {st : FState} (hS : SibsG c0 O S) (h : RelG c0 O S c st)
    {e : Ev} (he : e ∈ O ++ S) (hbl : key e ∉ st.blocked) (hna : st.applied ≠ some (key e))
    {F : Rec → Rec} (hF0 : F (rec0 c0) = rec0 c0) (hFb : ∀ r, BlockedRec c0 r → BlockedRec c0 (F r))
    (hF2 : st.applied ≠ none → BlockedRec c0 (F (rec2 c0)))
    {c' : Cl} {bl' : List Key} (hbl' : ∀ k, k ∈ bl' ↔ k ∈ st.blocked ∨ st.applied = some k)
    (hcf : CForm c0 e c') (hrec : ∀ n, getRec c' n = if n = e.n then some (rec2 c0) else (getRec c n).map F)
    (hcons : c'.g.consumed = c.g.consumed ∨ (e ∈ S ∧ c'.g.consumed = e.cipher :: c.g.consumed)) :
    RelG c0 O S c' ⟨some (key e), bl'⟩ := by
  have hother : ∀ e' ∈ O ++ S, key e' ≠ key e → getRec c' e'.n = (getRec c e'.n).map F := fun e' he' hk => by
    rw [hrec, if_neg (fun x => hk (congrArg key (hS.inj e' he' e he (.inl x))))]
  have hself : getRec c' e.n = some (rec2 c0) := by rw [hrec, if_pos rfl]
  have hold : ∀ k, k ∉ bl' → k ∉ st.blocked ∧ st.applied ≠ some k :=
    fun k hk => ⟨fun x => hk ((hbl' k).mpr (.inl x)), fun x => hk ((hbl' k).mpr (.inr x))⟩
  refine ⟨?_, nofun, ?_, ?_, ?_, ?_⟩
  · refine consOK_step c0 S c c' h.cons (fun e' _ hn => ?_) ?_
    · rw [hrec]
      by_cases z : e'.n = e.n
      · simp [z]
      · rw [if_neg z]
        cases hg : getRec c e'.n with
        | none => exact absurd hg hn
        | some r => simp
    · rcases hcons with x | ⟨heS, x⟩
      · exact .inl x
      · exact .inr ⟨e, heS, x, by rw [hself]; simp⟩
  · intro k hk
    cases hk
    exact ⟨e, he, rfl, hcf, hself⟩
  · intro e' he' hb'
    rcases (hbl' _).mp hb' with y | y
    · obtain ⟨r, hr, hbr⟩ := h.blk e' he' y
      rw [hother e' he' (fun x => hbl (x ▸ y)), hr]
      exact ⟨_, rfl, hFb r hbr⟩
    · obtain ⟨a, haT, hka, _, hra⟩ := h.chi _ y
      have : a = e' := hS.inj a haT e' he' (.inr hka)
      subst this
      rw [hother a he' (fun x => hna (x ▸ y)), hra]
      exact ⟨_, rfl, hF2 (by rw [y]; nofun)⟩
  · intro e' he' hb' hna'
    rw [hother e' (List.mem_append_right _ he') (fun x => hna' (by rw [x])),
      h.fresh e' he' (hold _ hb').1 (hold _ hb').2]
    rfl
  · intro o ho hb' hna'
    rw [hother o (List.mem_append_left _ ho) (fun x => hna' (by rw [x])), h.ownf o ho (hold _ hb').1 (hold _ hb').2]
    exact congrArg some hF0

theorem relG_step (c0 : Cl) (hb : Base c0) (O S : List Ev) (hS : SibsG c0 O S) (c : Cl) (st : FState) (nx : Nat)
    (h : RelG c0 O S c st) (e : Ev) (he : e ∈ O ++ S) :
    RelG c0 O S (deliver c e nx).1 (fstep (O.map key) st (key e)) := by
  have hready : key e ∉ st.blocked → st.applied ≠ some (key e) →
      ∃ X, Ready c0 c e X ∧ (X = [] ∨ (e ∈ S ∧ X = [e.cipher])) := by
    intro h1 h2
    rcases List.mem_append.mp he with ho | hs
    · exact ⟨[], .own (hS.own e ho) (h.ownf e ho h1 h2), .inl rfl⟩
    · have hfr := h.fresh e hs h1 h2
      exact ⟨_, .foreign (hS.sib e hs) hfr (consOK_fresh c0 S c hS.sib hS.cinj h.cons e hs hfr), .inr ⟨hs, rfl⟩⟩
  have hconsX : ∀ {c' : Cl} {X : List Nat}, (X = [] ∨ (e ∈ S ∧ X = [e.cipher])) → c'.g.consumed = X ++ c.g.consumed →
      c'.g.consumed = c.g.consumed ∨ (e ∈ S ∧ c'.g.consumed = e.cipher :: c.g.consumed) := by
    rintro c' X (rfl | ⟨hs, rfl⟩) hx
    · exact .inl hx
    · exact .inr ⟨hs, hx⟩
  obtain ⟨retry, hd⟩ := deliverN_once 3 nx c e
  have hs := fstep_spec (O.map key) st (key e)
  generalize fstep (O.map key) st (key e) = st' at hs
  cases hs with
  | blocked hbl =>
    obtain ⟨r, hr, hbr⟩ := h.blk e he hbl
    rw [deliver, hd, deliverOnce_blocked retry nx c e r hr hbr.1]
    exact h
  | first hbl hap =>
    obtain ⟨X, hrdy, hX⟩ := hready hbl (by rw [hap]; nofun)
    obtain ⟨hcf, hrecs, hcons, _⟩ := apply_ready c0 hb retry nx c e X (h.par hap) hrdy
    rw [deliver, hd]
    refine relG_applied hS h he hbl (by rw [hap]; nofun) (F := id) rfl (fun _ hr => hr) (fun x => absurd hap x)
      (fun k => by simp [hap]) hcf (fun n => ?_) (hconsX hX hcons)
    simp only [getRec, hrecs, Option.map_id_fun, id]
    by_cases hn : n = e.n
    · rw [hn, alookup_ainsert_self, if_pos rfl]
    · rw [alookup_ainsert_ne _ _ _ _ hn, if_neg hn]
  | same hbl hap =>
    obtain ⟨a, haT, hka, hcf, hra⟩ := h.chi _ hap
    have : a = e := hS.inj a haT e he (.inr hka)
    subst this
    rw [deliver, hd, child_echo c0 hb retry nx a a c hcf (hS.com a haT) (hS.com a haT) _ hra rfl (klt_irrefl _)]
    exact h
  | @better ka hbl hap hne hlt =>
    obtain ⟨a, haT, hka, hcf, hra⟩ := h.chi _ hap
    have hna : st.applied ≠ some (key e) := by rw [hap]; exact fun x => hne (Option.some.inj x)
    obtain ⟨X, hrdy, hX⟩ := hready hbl hna
    obtain ⟨hcf', hrec', hcons⟩ := better_ready c0 hb 2 nx a e c X hcf (hS.com a haT) hrdy (by rw [hka]; exact hlt)
    exact relG_applied hS h he hbl hna (rbRec_rec0 c0) (fun r hr => rbRec_blocked c0 r ⟨hr.2.1, hr.2.2⟩)
      (fun _ => rbRec_blocked c0 _ ⟨rfl, rfl⟩)
      (fun k => by rw [hap, List.mem_cons, Option.some.injEq, or_comm, eq_comm]) hcf' hrec' (hconsX hX hcons)
  | @ownWorse ka hbl hap hne hlt ho =>
    obtain ⟨a, haT, hka, hcf, hra⟩ := h.chi _ hap
    obtain ⟨o, hoO, hko⟩ := List.mem_map.mp ho
    have : o = e := hS.inj o (List.mem_append_left _ hoO) e he (.inr hko)
    subst this
    have hrec := h.ownf o hoO hbl (by rw [hap]; exact fun x => hne (Option.some.inj x))
    rw [deliver, hd, child_echo c0 hb retry nx a o c hcf (hS.com a haT) (hS.com o he) _ hrec rfl
      (by rw [hka]; exact klt_asymm hlt)]
    exact h
  | @worse ka hbl hap hne hlt ho =>
    obtain ⟨a, haT, hka, hcf, hra⟩ := h.chi _ hap
    have heS : e ∈ S := (List.mem_append.mp he).resolve_left (fun x => ho (List.mem_map.mpr ⟨e, x, rfl⟩))
    have hna : st.applied ≠ some (key e) := by rw [hap]; exact fun x => hne (Option.some.inj x)
    rw [deliver, hd, child_worse c0 hb retry nx a e c hcf (hS.com a haT) (hS.com e he) (h.fresh e heS hbl hna)
      (by rw [hka]; exact klt_asymm hlt)]
    -- a Failed record for `e`; nothing else changes
    show RelG c0 O S { c with recs := ainsert e.n (rec3 c0) c.recs } _
    have hother : ∀ e' ∈ O ++ S, key e' ≠ key e →
        getRec { c with recs := ainsert e.n (rec3 c0) c.recs } e'.n = getRec c e'.n := fun e' he' hk =>
      alookup_ainsert_ne _ _ _ _ (fun x => hk (congrArg key (hS.inj e' he' e he (.inl x))))
    refine ⟨?_, nofun, ?_, ?_, ?_, ?_⟩
    · refine consOK_step c0 S c _ h.cons (fun e' _ hn => ?_) (.inl rfl)
      by_cases z : e'.n = e.n
      · simp [getRec, z, alookup_ainsert_self]
      · exact fun x => hn ((alookup_ainsert_ne _ _ _ _ z).symm.trans x)
    · intro k hk
      cases hk
      exact ⟨a, haT, hka, ⟨hcf.id, hcf.ret, hcf.mp, hcf.hg, hcf.g, hcf.mgr⟩,
        (hother a haT (by rw [hka]; exact hne)).trans hra⟩
    · intro e' he' hb'
      by_cases hk : key e' = key e
      · have : e' = e := hS.inj e' he' e he (.inr hk)
        subst this
        exact ⟨rec3 c0, alookup_ainsert_self _ _ _, by simp [BlockedRec, rec3]⟩
      · rw [hother e' he' hk]
        exact h.blk e' he' ((List.mem_cons.mp hb').resolve_left hk)
    · intro e' he' hb' hna'
      rw [hother e' (List.mem_append_right _ he') (fun x => hb' (by rw [x]; exact List.mem_cons_self))]
      exact h.fresh e' he' (fun x => hb' (List.mem_cons_of_mem _ x)) (hap ▸ hna')
    · intro o hoO hb' hna'
      rw [hother o (List.mem_append_left _ hoO) (fun x => hb' (by rw [x]; exact List.mem_cons_self))]
      exact h.ownf o hoO (fun x => hb' (List.mem_cons_of_mem _ x)) (hap ▸ hna')

theorem relG_run (c0 : Cl) (hb : Base c0) (O S : List Ev) (hS : SibsG c0 O S) (nx : Nat) (l : List Ev) :
    ∀ (c : Cl) (st : FState), RelG c0 O S c st → (∀ e ∈ l, e ∈ O ++ S) →
      RelG c0 O S (l.foldl (fun c e => (deliver c e nx).1) c) ((l.map key).foldl (fstep (O.map key)) st) := by
  induction l with
  | nil => intro c st h _; exact h
  | cons e t ih =>
    intro c st h hl
    exact ih _ _ (relG_step c0 hb O S hS c st nx h e (hl e List.mem_cons_self)) (fun x hx => hl x (List.mem_cons_of_mem _ hx))

theorem relG_winner {c0 : Cl} {O S : List Ev} (hS : SibsG c0 O S) {c : Cl} (K : List Key) (hK : K ≠ [])
    (hrel : RelG c0 O S c (K.foldl (fstep (O.map key)) ⟨none, []⟩)) :
    ∃ w ∈ O ++ S, key w ∈ K ∧ (∀ k ∈ K, key w = k ∨ klt (key w) k = true) ∧ CForm c0 w c ∧
      getRec c w.n = some (rec2 c0) ∧
      ∀ e ∈ O ++ S, key e ∈ K → e ≠ w → e ∉ O → ∃ r, getRec c e.n = some r ∧ BlockedRec c0 r := by
  obtain ⟨ka, hka, hap, hmin, hblk⟩ := single_fork_owns (O.map key) K hK
  obtain ⟨w, hwT, hwk, hcf, hrw⟩ := hrel.chi ka hap
  refine ⟨w, hwT, hwk ▸ hka, fun k hk => hwk ▸ hmin k hk, hcf, hrw, fun e heT hek hne' hno => ?_⟩
  refine hrel.blk e heT (hblk (key e) hek ?_ ?_)
  · exact fun x => hne' (hS.inj e heT w hwT (.inr (x.trans hwk.symm)))
  · intro hm
    obtain ⟨o, hoO, hko⟩ := List.mem_map.mp hm
    exact hno (hS.inj o (List.mem_append_left _ hoO) e heT (.inr hko) ▸ hoO)

/-- **single fork, the client side**: own staged commits `O` and foreign siblings `S` created at the parent state `c0`;
    after ANY non-empty delivery list over them the client is at the child of a delivered sibling `w` that precedes every
    other delivered one in the MIP-03 order, `w`'s record is ProcessedCommit, and every other delivered foreign sibling
    is blocked by its record. -/
theorem fork_run (c0 : Cl) (hb : Base c0) (O S : List Ev) (hS : SibsG c0 O S) (nx : Nat) (l : List Ev)
    (hl : ∀ e ∈ l, e ∈ O ++ S) (hne : l ≠ []) :
    ∃ w ∈ l, Com c0 w ∧ (∀ e ∈ l, e = w ∨ klt (key w) (key e) = true) ∧
      CForm c0 w (l.foldl (fun c e => (deliver c e nx).1) c0) ∧
      getRec (l.foldl (fun c e => (deliver c e nx).1) c0) w.n = some (rec2 c0) ∧
      ∀ e ∈ l, e ≠ w → e ∉ O → ∃ r, getRec (l.foldl (fun c e => (deliver c e nx).1) c0) e.n = some r ∧ BlockedRec c0 r := by
  have hrel := relG_run c0 hb O S hS nx l c0 ⟨none, []⟩ (relG_init c0 hb O S hS) hl
  obtain ⟨w, hwT, hwK, hmin, hcf, hrw, hblk⟩ := relG_winner hS (l.map key) (by simpa using hne) hrel
  obtain ⟨e0, he0, hk0⟩ := List.mem_map.mp hwK
  have hw : w ∈ l := hS.inj e0 (hl e0 he0) w hwT (.inr hk0) ▸ he0
  exact ⟨w, hw, hS.com w hwT,
    fun e he => (hmin _ (List.mem_map.mpr ⟨e, he, rfl⟩)).imp_left (fun x => hS.inj e (hl e he) w hwT (.inr x.symm)),
    hcf, hrw, fun e he hne' hno => hblk e (hl e he) (List.mem_map.mpr ⟨e, he, rfl⟩) hne' hno⟩

end MdkVerif.Fork
