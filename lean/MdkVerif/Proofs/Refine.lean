import MdkVerif.Model.Store
import MdkVerif.Proofs.Store
import MdkVerif.Proofs.Sort
/-
  MdkVerif.Proofs.Refine — the memory-backend store and the SQLite-backend store simulate each other
  (C10): definitions of the simulation relation `Agree`, of the "within both backends' limits"
  predicate `WL`, the per-operation lemmas behind `Props.C10.step_agree`, and (at the end) histories: `WLrun`, `observe`,
  `observe_agree`.
-/
namespace MdkVerif.Store
open MdkVerif List

/-- group ids and nostr group ids are pairwise distinct -/
def GInv (l : List Group) : Prop := l.Pairwise (fun a b => a.gid ≠ b.gid ∧ a.nid ≠ b.nid)

/-- a stored snapshot holds the record of the group it was taken for -/
def SnapOK (p : Snap) : Prop := ∃ g, p.group = some g ∧ g.gid = p.gid

/-- the simulation relation between a memory store `m` and a SQLite store `q`: all tables equal
    (relay sets as lookups: memory drops an empty set, SQLite keeps no rows — both read as `[]`),
    memory's by-nostr-id index consistent with the record list, ids unique, snapshots well formed -/
structure Agree (m q : Store) : Prop where
  bm : m.backend = .mem
  bq : q.backend = .sql
  groups : m.groups = q.groups
  secrets : m.secrets = q.secrets
  msgs : m.msgs = q.msgs
  pms : m.pms = q.pms
  welcomes : m.welcomes = q.welcomes
  pws : m.pws = q.pws
  mls : m.mls = q.mls
  snaps : m.snaps = q.snaps
  relays : ∀ g, (alookup g m.relays).getD [] = (alookup g q.relays).getD []
  idx : ∀ nid, alookup nid m.byNid = m.groups.find? (·.nid == nid)
  ginv : GInv m.groups
  sinv : ∀ p ∈ m.snaps, SnapOK p

/-- a group record within both backends' limits -/
def groupWL (g : Group) : Bool :=
  decide (g.nameLen ≤ nameLimit .mem) && decide (g.nameLen ≤ nameLimit .sql) &&
  decide (g.descLen ≤ descLimit .mem) && decide (g.descLen ≤ descLimit .sql) &&
  decide (g.admins ≤ Generated.memMaxAdminsPerGroup)

/-- within both backends' documented limits and outside the two known differences
    (`snapshot-of-missing-group`, `restore-nostr-id-collision`) -/
def WL (s : Store) : Op → Bool
  | .saveGroup g => groupWL g
  | .saveMessage m => decide (m.contentLen ≤ Generated.sqlMaxMessageContentSize)
  | .messages _ _ _ _ => decide (s.msgs.length < two63)
  | .pendingWelcomes _ _ => decide (s.welcomes.length < two63)
  | .updLast gid _ _ _ =>
    match findGroup s gid with
    | none => true
    | some g => groupWL g
  | .replaceRelays _ rs =>
    decide ((sortBy natLt rs.eraseDups).length ≤ Generated.memMaxRelaysPerGroup) &&
    !(sortBy natLt rs.eraseDups).any (fun r => decide (relayLen r > Generated.memMaxRelayUrlLength))
  | .saveWelcome w =>
    decide (w.relays ≤ Generated.memMaxRelaysPerWelcome) &&
    !(decide (w.relays > 0) && decide (w.relayLen > Generated.memMaxRelayUrlLength)) &&
    decide (w.admins ≤ Generated.memMaxAdminsPerWelcome) &&
    decide (w.nameLen ≤ Generated.sqlMaxGroupNameLength) && decide (w.descLen ≤ Generated.sqlMaxGroupDescriptionLength)
  | .snapCreate gid _ _ => (findGroup s gid).isSome
  | .snapRollback gid name =>
    match findSnap s gid name with
    | none => true
    | some p =>
      match p.group with
      | none => true
      | some g => !s.groups.any (fun h => h.nid == g.nid && h.gid != gid)
  | _ => true

/-! ## list lemmas: unique ids, `replaceGroup`, the by-nostr-id index -/

theorem ginv_eq_of_gid {l : List Group} (h : GInv l) {x y : Group} (hx : x ∈ l) (hy : y ∈ l) (e : x.gid = y.gid) : x = y :=
  eq_of_pairwise_ne (f := (·.gid)) (h.imp And.left) hx hy e

theorem ginv_eq_of_nid {l : List Group} (h : GInv l) {x y : Group} (hx : x ∈ l) (hy : y ∈ l) (e : x.nid = y.nid) : x = y :=
  eq_of_pairwise_ne (f := (·.nid)) (h.imp And.right) hx hy e

theorem find_nid_iff {l : List Group} (h : GInv l) (nid : Nat) (x : Group) :
    l.find? (·.nid == nid) = some x ↔ x ∈ l ∧ x.nid = nid :=
  find?_beq_iff (f := (·.nid)) (h.imp And.right) nid x

theorem find_gid_iff {l : List Group} (h : GInv l) (k : Nat) (x : Group) :
    l.find? (·.gid == k) = some x ↔ x ∈ l ∧ x.gid = k :=
  find?_beq_iff (f := (·.gid)) (h.imp And.left) k x

theorem mem_replaceGroup {l : List Group} (h : GInv l) (g x : Group) :
    x ∈ replaceGroup g l ↔ x = g ∨ (x ∈ l ∧ x.gid ≠ g.gid) := by
  induction l with
  | nil => simp [replaceGroup]
  | cons a t ih =>
    have ha := (List.pairwise_cons.mp h).1
    have ht := (List.pairwise_cons.mp h).2
    by_cases c : a.gid = g.gid
    · simp only [replaceGroup, c, beq_self_eq_true, if_true, List.mem_cons]
      constructor
      · rintro (rfl | hx)
        · exact Or.inl rfl
        · exact Or.inr ⟨Or.inr hx, fun e => (ha x hx).1 (c.trans e.symm)⟩
      · rintro (rfl | ⟨hx | hx, hne⟩)
        · exact Or.inl rfl
        · subst hx; exact absurd c hne
        · exact Or.inr hx
    · have c' : (a.gid == g.gid) = false := by simpa using c
      simp only [replaceGroup, c', Bool.false_eq_true, if_false, List.mem_cons, ih ht]
      constructor
      · rintro (rfl | rfl | ⟨hx, hne⟩)
        · exact Or.inr ⟨Or.inl rfl, c⟩
        · exact Or.inl rfl
        · exact Or.inr ⟨Or.inr hx, hne⟩
      · rintro (rfl | ⟨rfl | hx, hne⟩)
        · exact Or.inr (Or.inl rfl)
        · exact Or.inl rfl
        · exact Or.inr (Or.inr ⟨hx, hne⟩)

theorem ginv_replaceGroup {l : List Group} (h : GInv l) (g : Group)
    (hfree : ∀ x ∈ l, x.nid = g.nid → x.gid = g.gid) : GInv (replaceGroup g l) := by
  induction l with
  | nil => simp [replaceGroup, GInv]
  | cons a t ih =>
    have ha := (List.pairwise_cons.mp h).1
    have ht := (List.pairwise_cons.mp h).2
    by_cases c : a.gid = g.gid
    · simp only [replaceGroup, c, beq_self_eq_true, if_true]
      refine List.pairwise_cons.mpr ⟨?_, ht⟩
      intro x hx
      refine ⟨fun e => (ha x hx).1 (c.trans e), fun e => ?_⟩
      exact (ha x hx).1 (c.trans (hfree x (List.mem_cons_of_mem _ hx) e.symm).symm)
    · have c' : (a.gid == g.gid) = false := by simpa using c
      simp only [replaceGroup, c', Bool.false_eq_true, if_false]
      refine List.pairwise_cons.mpr ⟨?_, ih ht (fun x hx => hfree x (List.mem_cons_of_mem _ hx))⟩
      intro x hx
      rcases (mem_replaceGroup ht g x).mp hx with rfl | ⟨hx', _⟩
      · exact ⟨c, fun e => c (hfree a (List.mem_cons_self) e)⟩
      · exact ha x hx'

theorem ginv_filter (l : List Group) (h : GInv l) (p : Group → Bool) : GInv (l.filter p) :=
  List.Pairwise.sublist List.filter_sublist h

theorem idx_remove {l G' : List Group} {byNid B' : List (Nat × Group)} (k : Nat) (hinv : GInv l)
    (hidx : ∀ n, alookup n byNid = l.find? (·.nid == n)) (hG : GInv G') (hGm : ∀ y, y ∈ G' ↔ y ∈ l ∧ y.gid ≠ k)
    (hB : ∀ n, alookup n B' = match l.find? (·.gid == k) with
      | some o => if o.nid = n then none else alookup n byNid
      | none => alookup n byNid) :
    ∀ n, alookup n B' = G'.find? (·.nid == n) := by
  intro n
  rw [hB n]
  apply Option.ext; intro y
  rw [find_nid_iff hG, hGm]
  cases hf : l.find? (·.gid == k) with
  | none =>
    simp only [hidx, find_nid_iff hinv]
    refine ⟨fun ⟨a, b⟩ => ⟨⟨a, fun e => ?_⟩, b⟩, fun ⟨⟨a, _⟩, b⟩ => ⟨a, b⟩⟩
    have := (find_gid_iff hinv k y).mpr ⟨a, e⟩
    rw [hf] at this; cases this
  | some o =>
    -- `o` is the one record with the group id `k`, and the one record with its nostr id
    obtain ⟨ho, hok⟩ := (find_gid_iff hinv k o).mp hf
    by_cases e : o.nid = n
    · simp only [e, if_true]
      refine ⟨fun c => (by cases c), fun ⟨⟨a, b⟩, c⟩ => ?_⟩
      have : y = o := ginv_eq_of_nid hinv a ho (c.trans e.symm)
      subst this; exact absurd hok b
    · simp only [e, if_false, hidx, find_nid_iff hinv]
      refine ⟨fun ⟨a, b⟩ => ⟨⟨a, fun c => ?_⟩, b⟩, fun ⟨⟨a, _⟩, b⟩ => ⟨a, b⟩⟩
      have : y = o := ginv_eq_of_gid hinv a ho (c.trans hok.symm)
      subst this; exact e b

theorem idx_insert {l G' : List Group} {byNid B' : List (Nat × Group)} (g : Group) (hinv : GInv l)
    (hidx : ∀ n, alookup n byNid = l.find? (·.nid == n)) (hG : GInv G') (hGm : ∀ y, y ∈ G' ↔ y = g ∨ y ∈ l)
    (hB : ∀ n, alookup n B' = if n = g.nid then some g else alookup n byNid) :
    ∀ n, alookup n B' = G'.find? (·.nid == n) := by
  intro n
  rw [hB n]
  by_cases c : n = g.nid
  · rw [if_pos c, c]; exact ((find_nid_iff hG _ g).mpr ⟨(hGm g).mpr (Or.inl rfl), rfl⟩).symm
  · rw [if_neg c]
    apply Option.ext; intro y
    rw [find_nid_iff hG, hGm, hidx, find_nid_iff hinv]
    refine ⟨fun ⟨a, b⟩ => ⟨Or.inr a, b⟩, fun ⟨a, b⟩ => ?_⟩
    rcases a with rfl | a
    · exact absurd b.symm c
    · exact ⟨a, b⟩

/-- updating the index as the memory backend does keeps it consistent with the record list -/
theorem idx_update {l : List Group} {byNid X : List (Nat × Group)} (g : Group) (hinv : GInv l)
    (hidx : ∀ nid, alookup nid byNid = l.find? (·.nid == nid))
    (hfree : ∀ x ∈ l, x.nid = g.nid → x.gid = g.gid)
    (hX : ∀ nid, nid ≠ g.nid → alookup nid X =
        match l.find? (·.gid == g.gid) with
        | some o => if o.nid = nid then none else alookup nid byNid
        | none => alookup nid byNid) :
    ∀ nid, alookup nid (ainsert g.nid g X) = (replaceGroup g l).find? (·.nid == nid) := by
  have h1 := idx_remove (B' := match l.find? (·.gid == g.gid) with | some o => aerase o.nid byNid | none => byNid)
    g.gid hinv hidx (ginv_filter l hinv (·.gid != g.gid)) (fun y => by simp [List.mem_filter])
    (fun n => by cases l.find? (·.gid == g.gid) with
      | none => rfl
      | some o => exact alookup_aerase _ _ _)
  refine idx_insert g (ginv_filter l hinv _) h1 (ginv_replaceGroup hinv g hfree)
    (fun y => by rw [mem_replaceGroup hinv]; simp [List.mem_filter]) (fun n => ?_)
  rw [alookup_ainsert]
  by_cases c : n = g.nid
  · rw [if_pos c, if_pos c]
  · rw [if_neg c, if_neg c, hX n c]
    cases l.find? (·.gid == g.gid) with
    | none => rfl
    | some o => exact (alookup_aerase _ _ _).symm

/-! ## the simulation, operation by operation -/

theorem okErr_agree (m q : Store) (om oq : Option Store) (h : Agree m q)
    (hn : om.isSome = oq.isSome) (hs : ∀ a b, om = some a → oq = some b → Agree a b) :
    (okErr om m).2 = (okErr oq q).2 ∧ Agree (okErr om m).1 (okErr oq q).1 := by
  cases om with
  | none =>
    cases oq with
    | none => exact ⟨rfl, h⟩
    | some b => simp at hn
  | some a =>
    cases oq with
    | none => simp at hn
    | some b => exact ⟨rfl, hs a b rfl rfl⟩

/-- an operation that only reads: `(m, x)` and `(q, y)` are what `step m op` and `step q op` unfold to -/
theorem agree_same (m q : Store) (h : Agree m q) (x y : String) (e : x = y) :
    ((m, x) : Store × String).2 = ((q, y) : Store × String).2 ∧ Agree ((m, x) : Store × String).1 ((q, y) : Store × String).1 := ⟨e, h⟩

theorem findGroup_eq (m q : Store) (h : Agree m q) (g : Nat) : findGroup m g = findGroup q g := by
  simp only [findGroup, h.groups]

theorem findGroupNostr_agree (m q : Store) (h : Agree m q) (nid : Nat) : findGroupNostr m nid = findGroupNostr q nid := by
  simp only [findGroupNostr, h.bm, h.bq, h.idx, h.groups]

/-- no OTHER record of the list carries the nostr id `n`: the refusal test of both backends -/
theorem any_nid_eq_false {l : List Group} {n k : Nat} :
    l.any (fun h => h.nid == n && h.gid != k) = false ↔ ∀ x ∈ l, x.nid = n → x.gid = k := by
  simp only [List.any_eq_false, Bool.and_eq_true, beq_iff_eq, bne_iff_ne, ne_eq, not_and, Decidable.not_not]

theorem lookup_nid_iff {l : List Group} {byNid : List (Nat × Group)} (h : GInv l)
    (hidx : ∀ nid, alookup nid byNid = l.find? (·.nid == nid)) (n k : Nat) :
    (∀ o, alookup n byNid = some o → o.gid = k) ↔ ∀ x ∈ l, x.nid = n → x.gid = k := by
  simp only [hidx, find_nid_iff h]
  exact ⟨fun a x hx hn => a x ⟨hx, hn⟩, fun a o ho => a o ho.1 ho.2⟩

theorem saveGroup_agree (m q : Store) (h : Agree m q) (g : Group) (hw : groupWL g = true) :
    (saveGroup m g).isSome = (saveGroup q g).isSome ∧
    ∀ a b, saveGroup m g = some a → saveGroup q g = some b → Agree a b := by
  simp only [groupWL, Bool.and_eq_true, decide_eq_true_eq] at hw
  obtain ⟨⟨⟨⟨h1, h2⟩, h3⟩, h4⟩, h5⟩ := hw
  have hm := saveGroup_isSome m g
  have hq := saveGroup_isSome q g
  simp only [h.bm] at hm
  simp only [h.bq] at hq
  have hcoll : (∀ o, alookup g.nid m.byNid = some o → o.gid = g.gid) ↔
      q.groups.any (fun x => x.nid == g.nid && x.gid != g.gid) = false := by
    rw [any_nid_eq_false, ← h.groups]; exact lookup_nid_iff h.ginv h.idx _ _
  refine ⟨Bool.eq_iff_iff.mpr ?_, fun a b ha hb => ?_⟩
  · rw [hm, hq]
    exact ⟨fun x => ⟨h2, h4, hcoll.mp x.2.2.2⟩, fun x => ⟨h1, h3, h5, hcoll.mpr x.2.2⟩⟩
  · have hfree : ∀ x ∈ m.groups, x.nid = g.nid → x.gid = g.gid := by
      rw [h.groups]; exact any_nid_eq_false.mp (hq.mp (by rw [hb]; rfl)).2.2
    obtain rfl := saveGroup_some_mem h.bm ha
    obtain rfl := saveGroup_some_sql h.bq hb
    exact { h with
      groups := congrArg (replaceGroup g) h.groups
      idx := by
        apply idx_update g h.ginv h.idx hfree
        intro nid hn
        simp only [findGroup]
        cases hold : m.groups.find? (·.gid == g.gid) with
        | none => rfl
        | some o =>
          -- the stale entry is erased unless the record keeps its nostr id (and then it is not the one asked for)
          by_cases e : o.nid = g.nid
          · simp only [e, bne_self_eq_false, Bool.false_eq_true, if_false, if_neg (fun x : g.nid = nid => hn x.symm)]
          · simp only [bne_iff_ne, ne_eq, e, not_false_eq_true, if_true, alookup_aerase]
      ginv := ginv_replaceGroup h.ginv g hfree }

/-- SQLite binds the offset as an `i64` and clamps it at `i64::MAX` (`Generated.sqlOffsetClamped`): no listing
    shorter than 2^63 can tell the difference -/
theorem page_clamped {α : Type} (l : List α) (offset limit : Nat) (hl : l.length < two63) :
    page l (if offset ≥ two63 then (if Generated.sqlOffsetClamped then two63 - 1 else 0) else offset) limit =
      page l offset limit := by
  have hcl : Generated.sqlOffsetClamped = true := by decide
  by_cases ho : offset ≥ two63
  · rw [if_pos ho, if_pos hcl]
    simp only [page, List.drop_eq_nil_of_le (show l.length ≤ two63 - 1 by omega),
      List.drop_eq_nil_of_le (show l.length ≤ offset by omega)]
  · rw [if_neg ho]

/-- inside the range the contract allows, `messages` does not depend on the backend: memory saturates
    `offset + limit` (`Generated.memPageSaturates`), SQLite clamps the offset -/
theorem messages_mem_sql (m q : Store) (gid : Nat) (limit offset sort : Option Nat)
    (hm : m.backend = .mem) (hq : q.backend = .sql) (hg : m.groups = q.groups) (hmsg : m.msgs = q.msgs)
    (hphys : (listing q gid (sort.getD 0)).length < two63) :
    messages m gid limit offset sort = messages q gid limit offset sort := by
  have hsat : Generated.memPageSaturates = true := by decide
  have hgm : groupMsgs m gid = groupMsgs q gid := by simp only [groupMsgs, hmsg]
  unfold messages
  simp only [hm, hq, findGroup, listing, hg, hgm, hsat, Bool.not_true, Bool.false_and, Bool.false_eq_true, if_false]
  rw [show sortBy (orderOf (sort.getD 0)) (groupMsgs q gid) = listing q gid (sort.getD 0) from rfl,
    page_clamped _ _ _ hphys]
  cases he : (groupMsgs q gid).isEmpty with
  | true =>
    -- memory returns early for a group without messages: the page of the empty listing
    have hn : listing q gid (sort.getD 0) = [] := by
      rw [listing, List.isEmpty_iff.mp he]; rfl
    simp only [if_true, hn, page, List.drop_nil, List.take_nil]
  | false => simp only [Bool.false_eq_true, if_false]

theorem messages_agree (m q : Store) (h : Agree m q) (gid : Nat) (limit offset sort : Option Nat)
    (hphys : q.msgs.length < two63) :
    messages m gid limit offset sort = messages q gid limit offset sort := by
  refine messages_mem_sql m q gid limit offset sort h.bm h.bq h.groups h.msgs ?_
  rw [listing, (sortBy_perm _ _).length_eq]
  exact Nat.lt_of_le_of_lt (List.length_filter_le _ _) hphys

theorem pendingWelcomes_agree (m q : Store) (h : Agree m q) (limit offset : Option Nat)
    (hphys : q.welcomes.length < two63) :
    pendingWelcomes m limit offset = pendingWelcomes q limit offset := by
  have hlen : (sortBy welcomeBefore (q.welcomes.filter (·.state == 0))).length < two63 := by
    rw [(sortBy_perm _ _).length_eq]
    exact Nat.lt_of_le_of_lt (List.length_filter_le _ _) hphys
  unfold pendingWelcomes
  simp only [h.bm, h.bq, h.welcomes, show (Backend.mem == Backend.sql) = false from rfl, beq_self_eq_true, Bool.false_and,
    Bool.true_and, Bool.false_eq_true, if_false, decide_eq_true_eq, page_clamped _ _ _ hlen]

theorem takeSnap_agree (m q : Store) (h : Agree m q) (gid name ts : Nat) : takeSnap m gid name ts = takeSnap q gid name ts := by
  simp only [takeSnap, findGroup_eq m q h, h.relays gid, groupSecrets, groupMls, h.secrets, h.mls]

theorem snapOK_takeSnap (s : Store) (gid name ts : Nat) (hg : (findGroup s gid).isSome) : SnapOK (takeSnap s gid name ts) := by
  cases hf : findGroup s gid with
  | none => simp [hf] at hg
  | some g => exact ⟨g, by simp [takeSnap, hf], findGroup_gid hf⟩

theorem snapCreate_agree (m q : Store) (h : Agree m q) (gid name ts : Nat) (hg : (findGroup m gid).isSome) :
    (snapCreate m gid name ts).isSome = (snapCreate q gid name ts).isSome ∧
    ∀ a b, snapCreate m gid name ts = some a → snapCreate q gid name ts = some b → Agree a b := by
  rw [snapCreate_of_group name ts hg, snapCreate_of_group name ts (findGroup_eq m q h gid ▸ hg)]
  refine ⟨Option.isSome_some.trans Option.isSome_some.symm, fun a b ha hb => ?_⟩
  cases ha; cases hb
  exact { h with
    snaps := by simp only [h.snaps, takeSnap_agree m q h]
    sinv := fun p hp' => by
      rcases List.mem_append.mp hp' with hp' | hp'
      · exact h.sinv p (List.mem_filter.mp hp').1
      · rw [List.mem_singleton.mp hp']; exact snapOK_takeSnap m gid name ts hg }

/-- relay lookups after the two backends' restore -/
theorem restore_relays (rm rq : List (Nat × List Nat)) (hr : ∀ g, (alookup g rm).getD [] = (alookup g rq).getD [])
    (gid : Nat) (rs : List Nat) (k : Nat) :
    (alookup k (if rs.isEmpty then aerase gid rm else ainsert gid rs (aerase gid rm))).getD [] =
    (alookup k (ainsert gid rs (aerase gid rq))).getD [] := by
  by_cases c : k = gid
  · subst c
    by_cases e : rs.isEmpty = true
    · have : rs = [] := by simpa using e
      simp [e, alookup_aerase_self, alookup_ainsert_self, this]
    · simp [e, alookup_ainsert_self]
  · by_cases e : rs.isEmpty = true
    · simp [e, alookup_aerase_ne _ _ _ c, alookup_ainsert_ne _ _ _ _ c, hr k]
    · simp [e, alookup_aerase_ne _ _ _ c, alookup_ainsert_ne _ _ _ _ c, hr k]

theorem restore_agree (m q : Store) (h : Agree m q) (p : Snap) (hp : p ∈ m.snaps)
    (hw : ∀ g, p.group = some g → m.groups.any (fun x => x.nid == g.nid && x.gid != p.gid) = false) :
    (restoreFrom m p).isSome = (restoreFrom q p).isSome ∧
    ∀ a b, restoreFrom m p = some a → restoreFrom q p = some b → Agree a b := by
  have hcas : Generated.sqlRestoreCascadesMessages = false := by decide
  obtain ⟨g, hpg, hgg⟩ := h.sinv p hp
  have hno := hw g hpg
  have hfree : ∀ x ∈ m.groups, x.nid = g.nid → x.gid = g.gid := by
    rw [hgg]; exact any_nid_eq_false.mp hno
  have hnoq : q.groups.any (fun x => x.nid == g.nid && x.gid != p.gid) = false := h.groups ▸ hno
  rw [restoreFrom_mem p h.bm, restoreFrom_sql p h.bq, hpg]
  simp only [hnoq, hcas, Bool.false_eq_true, if_false]
  refine ⟨Option.isSome_some.trans Option.isSome_some.symm, fun a b ha hb => ?_⟩
  cases ha; cases hb
  exact { h with
    groups := congrArg (replaceGroup g) h.groups
    secrets := by simp only [h.secrets]
    mls := by simp only [h.mls]
    snaps := by simp only [h.snaps]
    relays := fun k => restore_relays m.relays q.relays h.relays p.gid p.relays k
    idx := by
      apply idx_update g h.ginv h.idx hfree
      intro nid hn
      simp only [findGroup, ← hgg]
      cases hold : m.groups.find? (·.gid == g.gid) with
      | none => rfl
      | some o => exact alookup_aerase _ _ _
    ginv := ginv_replaceGroup h.ginv g hfree
    sinv := fun x hx => h.sinv x (List.mem_filter.mp hx).1 }

theorem dumpStr_agree (m q : Store) (h : Agree m q) : dumpStr m = dumpStr q := by
  have hfn : findGroupNostr m = findGroupNostr q := funext (findGroupNostr_agree m q h)
  have hrel : (fun g => (alookup g m.relays).getD []) = (fun g => (alookup g q.relays).getD []) := funext h.relays
  simp only [dumpStr, groupSecrets, listing, groupMsgs, snapList, hfn, h.groups, h.secrets, h.msgs, h.snaps, h.pms,
    h.welcomes, h.pws, h.mls, congrFun hrel]

theorem Agree.sql_eq {m q : Store} (h : Agree m q) : q = { m with backend := .sql, byNid := q.byNid, relays := q.relays } := by
  obtain ⟨_, hq, e1, e2, e3, e4, e5, e6, e7, e8, _, _, _, _⟩ := h
  obtain ⟨b, G, bn, r, S, M, P, W, Q, X, N⟩ := q
  dsimp only at hq e1 e2 e3 e4 e5 e6 e7 e8 ⊢
  rw [hq, e1, e2, e3, e4, e5, e6, e7, e8]

theorem agree_step (m q : Store) (h : Agree m q) (op : Op) (hw : WL m op = true) :
    (step m op).2 = (step q op).2 ∧ Agree (step m op).1 (step q op).1 := by
  cases op
  case saveGroup g =>
    obtain ⟨h1, h2⟩ := saveGroup_agree m q h g hw
    exact okErr_agree m q _ _ h h1 h2
  case findGroupNostr nid => exact agree_same m q h _ _ (by rw [findGroupNostr_agree m q h])
  case saveMessage x =>
    refine okErr_agree m q _ _ h ?_ (fun a b ha hb => ?_)
    · have n1 : ¬ x.contentLen > Generated.sqlMaxMessageContentSize := Nat.not_lt.mpr (of_decide_eq_true hw)
      simp only [saveMessage, h.bm, h.bq, n1, findGroup_eq m q h, decide_false, Bool.and_false, Bool.false_eq_true, if_false]
      cases (findGroup q x.gid).isNone <;> rfl
    · obtain rfl := (saveMessage_some ha).2
      obtain rfl := (saveMessage_some hb).2
      exact { h with msgs := congrArg (upsertMsg x) h.msgs }
  case messages g l o so =>
    have hp : q.msgs.length < two63 := h.msgs ▸ of_decide_eq_true hw
    exact agree_same m q h _ _ (by rw [messages_agree m q h g l o so hp])
  case savePm p => exact ⟨rfl, { h with pms := congrArg (upsertPm p) h.pms }⟩
  case invalMsgs gid e =>
    exact ⟨by simp only [step, invalMsgs, h.msgs], { h with msgs := by simp only [step, invalMsgs, h.msgs] }⟩
  case invalPms gid e =>
    exact ⟨by simp only [step, invalPms, h.pms], { h with pms := by simp only [step, invalPms, h.pms] }⟩
  case markRetryable w =>
    have hf : findPm m w = findPm q w := by rw [findPm, findPm, h.pms]
    refine okErr_agree m q _ _ h ?_ (fun a b ha hb => ?_)
    · simp only [markRetryable, hf]
      cases findPm q w with
      | none => rfl
      | some p => dsimp only; cases (p.state == 3) <;> rfl
    · obtain ⟨x, hx, rfl⟩ := markRetryable_some ha
      obtain ⟨y, hy, rfl⟩ := markRetryable_some hb
      obtain rfl : x = y := Option.some.inj (hx.symm.trans (hf.trans hy))
      exact { h with pms := congrArg (upsertPm _) h.pms }
  case updLast g c p i =>
    simp only [step, updLastOp, findGroup_eq m q h g]
    cases hf : findGroup q g with
    | none => exact ⟨rfl, h⟩
    | some gr =>
      dsimp only
      have hwl : groupWL (updLast gr (c, p, i)) = true := by
        simp only [WL, findGroup_eq m q h g, hf] at hw
        rw [updLast]; split <;> exact hw
      obtain ⟨h1, h2⟩ := saveGroup_agree m q h (updLast gr (c, p, i)) hwl
      cases hm : saveGroup m (updLast gr (c, p, i)) with
      | none =>
        cases hq : saveGroup q (updLast gr (c, p, i)) with
        | none => exact ⟨rfl, h⟩
        | some b => rw [hm, hq] at h1; cases h1
      | some a =>
        cases hq : saveGroup q (updLast gr (c, p, i)) with
        | none => rw [hm, hq] at h1; cases h1
        | some b => exact ⟨rfl, h2 a b hm hq⟩
  case findEpochByTag g t mo =>
    have hfl : Generated.sqlTagSearchCaseInsensitive = false := by decide
    exact agree_same m q h _ _ (by simp only [findEpochByTag, h.msgs, h.bm, h.bq, hfl, Bool.and_false])
  case relays g => exact agree_same m q h _ _ (by simp only [relaysOf, findGroup_eq m q h g, h.relays g])
  case replaceRelays g rs =>
    refine okErr_agree m q _ _ h ?_ (fun a b ha hb => ?_)
    · simp only [WL, Bool.and_eq_true, decide_eq_true_eq, Bool.not_eq_true'] at hw
      have n1 : ¬ (sortBy natLt rs.eraseDups).length > Generated.memMaxRelaysPerGroup := Nat.not_lt.mpr hw.1
      simp only [replaceRelays, h.bm, h.bq, n1, hw.2, findGroup_eq m q h, decide_false, Bool.and_false, Bool.false_eq_true,
        if_false, show (Backend.sql == Backend.mem) = false from rfl, Bool.false_and]
      cases (findGroup q g).isNone <;> rfl
    · obtain rfl := replaceRelays_some ha
      obtain rfl := replaceRelays_some hb
      exact { h with
        relays := fun k => by
          by_cases e : k = g
          · subst e; simp only [alookup_ainsert_self]
          · simp only [alookup_ainsert_ne _ _ _ _ e, h.relays k] }
  case saveSecret g e v =>
    refine okErr_agree m q _ _ h ?_ (fun a b ha hb => ?_)
    · simp only [saveSecret, findGroup_eq m q h]; cases (findGroup q g).isNone <;> rfl
    · obtain rfl := saveSecret_some ha
      obtain rfl := saveSecret_some hb
      exact { h with secrets := congrArg (upsertSecret g e v) h.secrets }
  case saveWelcome w =>
    refine okErr_agree m q _ _ h ?_ (fun a b ha hb => ?_)
    · simp only [WL, Bool.and_eq_true, decide_eq_true_eq, Bool.not_eq_true'] at hw
      obtain ⟨⟨⟨⟨h1, h2⟩, h3⟩, h4⟩, h5⟩ := hw
      simp only [saveWelcome, h.bm, h.bq, Nat.not_lt.mpr h1, h2, Nat.not_lt.mpr h3, Nat.not_lt.mpr h4, Nat.not_lt.mpr h5,
        if_false, Bool.false_eq_true]
      rfl
    · obtain rfl := saveWelcome_some ha
      obtain rfl := saveWelcome_some hb
      exact { h with welcomes := congrArg (upsertWelcome w) h.welcomes }
  case pendingWelcomes l o =>
    have hp : q.welcomes.length < two63 := h.welcomes ▸ of_decide_eq_true hw
    exact agree_same m q h _ _ (by rw [pendingWelcomes_agree m q h l o hp])
  case savePw p => exact ⟨rfl, { h with pws := congrArg (upsertPw p) h.pws }⟩
  case mlsWrite gid k v => exact ⟨rfl, { h with mls := congrArg (upsertMls gid k v) h.mls }⟩
  case mlsDelete gid k => exact ⟨rfl, { h with mls := congrArg (List.filter _) h.mls }⟩
  case snapCreate g n t =>
    obtain ⟨h1, h2⟩ := snapCreate_agree m q h g n t hw
    exact okErr_agree m q _ _ h h1 h2
  case snapRollback g n =>
    simp only [step, snapRollback]
    have hfs : findSnap m g n = findSnap q g n := by simp only [findSnap, h.snaps]
    rw [← hfs]
    cases hf : findSnap m g n with
    | none => exact ⟨rfl, h⟩
    | some p =>
      obtain ⟨hmem, hpg, _⟩ := findSnap_spec hf
      have hcond : ∀ gr, p.group = some gr → m.groups.any (fun x => x.nid == gr.nid && x.gid != p.gid) = false := by
        intro gr hgr
        simp only [WL, hf, hgr] at hw
        rw [hpg]; simpa using hw
      obtain ⟨h1, h2⟩ := restore_agree m q h p hmem hcond
      exact okErr_agree m q _ _ h h1 h2
  case snapRelease gid name =>
    exact ⟨rfl, { h with snaps := congrArg (dropSnap gid name) h.snaps
                         sinv := fun p hp => h.sinv p (List.mem_filter.mp hp).1 }⟩
  case snapPrune t =>
    have hfl : Generated.sqlPruneCountsRows = false := by decide
    exact ⟨by simp only [step, snapPrune, h.bm, h.bq, hfl, h.snaps, Bool.false_eq_true, if_false],
      { h with snaps := congrArg (List.filter _) h.snaps, sinv := fun p hp => h.sinv p (List.mem_filter.mp hp).1 }⟩
  case dump => exact agree_same m q h _ _ (dumpStr_agree m q h)
  -- the other reads consult only tables that are the same on both sides
  all_goals exact ⟨by rw [h.sql_eq]; rfl, h⟩

theorem agree_empty : Agree (Store.empty .mem) (Store.empty .sql) :=
  { bm := rfl, bq := rfl, groups := rfl, secrets := rfl, msgs := rfl, pms := rfl, welcomes := rfl, pws := rfl, mls := rfl,
    snaps := rfl, relays := fun _ => rfl, idx := fun _ => rfl, ginv := List.Pairwise.nil,
    sinv := fun _ hp => by cases hp }

/-- every operation of a history is within `WL` at the (memory) state it is issued in -/
def WLrun (s : Store) : List Op → Bool
  | [] => true
  | o :: os => WL s o && WLrun (step s o).1 os

/-- run a history, collecting the observations -/
def observe (acc : Store × List String) (ops : List Op) : Store × List String :=
  ops.foldl (fun (acc : Store × List String) o => let r := step acc.1 o; (r.1, acc.2 ++ [r.2])) acc

theorem observe_agree (ops : List Op) : ∀ (m q : Store) (acc : List String), Agree m q → WLrun m ops = true →
    (observe (m, acc) ops).2 = (observe (q, acc) ops).2 ∧ Agree (observe (m, acc) ops).1 (observe (q, acc) ops).1 := by
  induction ops with
  | nil => intro m q acc h _; exact ⟨rfl, h⟩
  | cons o os ih =>
    intro m q acc h hw
    simp only [WLrun, Bool.and_eq_true] at hw
    obtain ⟨e, h'⟩ := agree_step m q h o hw.1
    simp only [observe, List.foldl_cons]
    rw [← e]
    exact ih _ _ _ h' hw.2

end MdkVerif.Store
