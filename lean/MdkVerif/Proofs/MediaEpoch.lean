import MdkVerif.Model.MediaEpoch
import MdkVerif.Proofs.Media
import MdkVerif.Proofs.Store
/- for Props/C17, epoch-hint part: `decrypt_from_download` on a sealed blob, what any success returns, and the invariant of
   the history (`touch`, `step`, `run`) -/
namespace MdkVerif.MediaEpoch
open MdkVerif MdkVerif.Codec MdkVerif.Media List

theorem schemeLabel_default : schemeLabel Generated.defaultSchemeVersion = some Generated.mediaSchemeLabel := by
  simp [schemeLabel]

theorem deriveKey_default (s : Nat) (r : Reference) (hv : r.version = Generated.defaultSchemeVersion) :
    deriveKey s r = some { secret := s, info := buildContext Generated.mediaSchemeLabel r.hash r.mime r.filename Generated.mediaKeySuffix } := by
  simp [deriveKey, hv, schemeLabel_default]

/-- opening an untampered blob with the key of secret `s'` -/
theorem dav_sealed (s s' : Nat) (r : Reference) (p : Nat) (hv : r.version = Generated.defaultSchemeVersion) :
    decryptAndVerify (sealBlob s r p)
      { secret := s', info := buildContext Generated.mediaSchemeLabel r.hash r.mime r.filename Generated.mediaKeySuffix } r
      = if s = s' then .ok p else .err .decryptionFailed := by
  by_cases h : s = s'
  · subst h; simp [decryptAndVerify, sealBlob, hv, schemeLabel_default]
  · simp [decryptAndVerify, sealBlob, hv, schemeLabel_default, h]

theorem tryCurrent_sealed (c : MClient) (s : Nat) (r : Reference) (p : Nat)
    (hv : r.version = Generated.defaultSchemeVersion) :
    tryCurrent c (sealBlob s r p) r = .ok p ↔ c.cur = some s := by
  unfold tryCurrent
  cases c.cur with
  | none => exact ⟨nofun, nofun⟩
  | some s' =>
    simp only [deriveKey_default s' r hv, dav_sealed s s' r p hv, Option.some.injEq]
    by_cases h : s = s'
    · rw [if_pos h]; exact ⟨fun _ => h.symm, fun _ => rfl⟩
    · rw [if_neg h]; exact ⟨nofun, fun h' => absurd h'.symm h⟩

theorem tryHint_sealed (c : MClient) (s : Nat) (r : Reference) (p : Nat)
    (hv : r.version = Generated.defaultSchemeVersion) :
    tryHint c (sealBlob s r p) r =
      match hintOf c r.hash with
      | none => .err .decryptionFailed
      | some e =>
        match alookup e c.secrets with
        | none => .err .noSecretForEpoch
        | some s' => if s = s' then .ok p else .err .decryptionFailed := by
  unfold tryHint
  cases h1 : hintOf c r.hash with
  | none => rfl
  | some e =>
    simp only
    cases h2 : alookup e c.secrets with
    | none => rfl
    | some s' => simp [deriveKey_default s' r hv, dav_sealed s s' r p hv]

/-- whatever is returned is the sealed plaintext of an intact blob whose nonce, AAD and hash match the reference -/
theorem dav_ok (b : Blob) (k : Key) (r : Reference) (q : Nat) (h : decryptAndVerify b k r = .ok q) :
    q = b.plain ∧ b.intact = true ∧ b.key = k ∧ b.nonce = r.nonce ∧ b.plainHash = r.hash ∧
    ∃ l, schemeLabel r.version = some l ∧ b.aad = buildAad l r.hash r.mime r.filename := by
  unfold decryptAndVerify at h
  cases hl : schemeLabel r.version with
  | none => simp [hl] at h
  | some l =>
    simp only [hl] at h
    split at h
    · next hc =>
      simp only [Bool.and_eq_true, decide_eq_true_eq] at hc
      split at h
      · next hh => cases h; exact ⟨rfl, hc.1.1.1, hc.1.1.2, hc.1.2, hh, l, rfl, hc.2⟩
      · cases h
    · cases h

theorem decrypt_ok (c : MClient) (b : Blob) (r : Reference) (q : Nat) (h : decryptFromDownload c b r = .ok q) :
    ∃ k, decryptAndVerify b k r = .ok q := by
  have cur_case : ∀ q, tryCurrent c b r = .ok q → ∃ k, decryptAndVerify b k r = .ok q := by
    intro q hq
    unfold tryCurrent at hq
    cases hc : c.cur with
    | none => simp [hc] at hq
    | some s =>
      simp only [hc] at hq
      cases hk : deriveKey s r with
      | none => simp [hk] at hq
      | some k => simp only [hk] at hq; exact ⟨k, hq⟩
  unfold decryptFromDownload at h
  cases ht : tryHint c b r with
  | ok p =>
    simp only [ht] at h
    unfold tryHint at ht
    cases h1 : hintOf c r.hash with
    | none => simp [h1] at ht
    | some e =>
      simp only [h1] at ht
      cases h2 : alookup e c.secrets with
      | none => simp [h2] at ht
      | some s =>
        simp only [h2] at ht
        cases hk : deriveKey s r with
        | none => simp [hk] at ht
        | some k => simp only [hk] at ht; cases h; exact ⟨k, ht⟩
  | err e =>
    simp only [ht] at h
    cases e <;> simp at h <;> exact cur_case q h

/-! ### the history -/

def Inv (c : MClient) : Prop :=
  (∀ n, c.epoch < n → alookup n c.secrets = none) ∧ (∀ s, alookup c.epoch c.secrets = some s → c.cur = some s)

theorem alookup_cons_ne {α : Type} (k k' : Nat) (v : α) (l : List (Nat × α)) (h : k' ≠ k) :
    alookup k ((k', v) :: l) = alookup k l := by
  simp [alookup, h]

theorem alookup_aerase_none {α : Type} (k e : Nat) (l : List (Nat × α)) (h : alookup k l = none) :
    alookup k (aerase e l) = none := by
  by_cases c : k = e
  · rw [c]; exact Store.alookup_aerase_self e l
  · rw [Store.alookup_aerase_ne e k l c]; exact h

theorem lookupB_append (h : Bytes) (l m : List (Bytes × Nat)) (v : Nat) (hl : lookupB h l = some v) :
    lookupB h (l ++ m) = some v := by
  induction l with
  | nil => simp [lookupB] at hl
  | cons x xs ih =>
    obtain ⟨k, w⟩ := x
    by_cases c : k = h
    · simpa [lookupB, c] using hl
    · simp only [List.cons_append, lookupB, c, if_false] at hl ⊢
      exact ih hl

theorem lookupB_append_none (h : Bytes) (l : List (Bytes × Nat)) (k : Bytes) (v : Nat) (hl : lookupB h l = none) :
    lookupB h (l ++ [(k, v)]) = if k = h then some v else none := by
  induction l with
  | nil => simp [lookupB]
  | cons x xs ih =>
    obtain ⟨k', w⟩ := x
    by_cases c : k' = h
    · simp [lookupB, c] at hl
    · simp only [lookupB, c, if_false] at hl
      simp only [List.cons_append, lookupB, c, if_false]
      exact ih hl

theorem touch_cases (c : MClient) :
    (touch c = c ∧ (c.cur = none ∨ (alookup c.epoch c.secrets).isSome = true)) ∨
    ∃ s, c.cur = some s ∧ alookup c.epoch c.secrets = none ∧ touch c = { c with secrets := (c.epoch, s) :: c.secrets } := by
  unfold touch
  cases hc : c.cur with
  | none => exact Or.inl ⟨rfl, Or.inl rfl⟩
  | some s =>
    cases hl : alookup c.epoch c.secrets with
    | some v => exact Or.inl ⟨rfl, Or.inr rfl⟩
    | none => exact Or.inr ⟨s, rfl, rfl, rfl⟩

theorem touch_inv (c : MClient) (h : Inv c) : Inv (touch c) := by
  rcases touch_cases c with ⟨e, _⟩ | ⟨s, hc, hl, e⟩
  · rw [e]; exact h
  · rw [e]
    constructor
    · intro n hn
      have hn' : c.epoch < n := hn
      have : c.epoch ≠ n := by omega
      show alookup n ((c.epoch, s) :: c.secrets) = none
      rw [alookup_cons_ne n c.epoch s c.secrets this]
      exact h.1 n hn'
    · intro s' hs'
      have : alookup c.epoch ((c.epoch, s) :: c.secrets) = some s := by simp [alookup]
      have hs'' : alookup c.epoch ((c.epoch, s) :: c.secrets) = some s' := hs'
      rw [this] at hs''; cases hs''
      exact hc

theorem touch_fields (c : MClient) : (touch c).epoch = c.epoch ∧ (touch c).cur = c.cur ∧ (touch c).tags = c.tags := by
  rcases touch_cases c with ⟨e, _⟩ | ⟨s, _, _, e⟩ <;> rw [e] <;> exact ⟨rfl, rfl, rfl⟩

theorem hintOf_touch (c : MClient) (h : Bytes) : hintOf (touch c) h = hintOf c h := by
  unfold hintOf; rw [(touch_fields c).2.2]

/-- after a `touch` in a consistent state the current secret is stored under the current epoch -/
theorem touch_stores (c : MClient) (s : Nat) (h : Inv c) (hc : c.cur = some s) :
    alookup c.epoch (touch c).secrets = some s := by
  rcases touch_cases c with ⟨e, hn | hsome⟩ | ⟨s', hc', hl, e⟩
  · rw [hc] at hn; cases hn
  · rw [e]
    obtain ⟨s', hl⟩ := Option.isSome_iff_exists.mp hsome
    have := h.2 s' hl
    rw [hc] at this; cases this; exact hl
  · rw [e]
    rw [hc] at hc'; cases hc'
    show alookup c.epoch ((c.epoch, s) :: c.secrets) = some s
    simp [alookup]

/-- a stored secret survives `touch` -/
theorem touch_keeps (c : MClient) (e s : Nat) (h : alookup e c.secrets = some s) :
    alookup e (touch c).secrets = some s := by
  rcases touch_cases c with ⟨eq, _⟩ | ⟨s', _, hl, eq⟩
  · rw [eq]; exact h
  · rw [eq]
    have : c.epoch ≠ e := by intro heq; rw [heq, h] at hl; cases hl
    show alookup e ((c.epoch, s') :: c.secrets) = some s
    rw [alookup_cons_ne e c.epoch s' c.secrets this]
    exact h

theorem step_inv (c : MClient) (op : MOp) (h : Inv c) : Inv (step c op) := by
  cases op with
  | touch => exact touch_inv c h
  | advance s =>
    constructor
    · intro n hn; simp [step] at hn ⊢; exact h.1 n (by omega)
    · intro s' hs'
      simp [step] at hs' ⊢
      have := h.1 (c.epoch + 1) (by omega)
      rw [this] at hs'; cases hs'
  | announce hh =>
    have ht := touch_inv c h
    simp only [step]
    split
    · exact ht
    · exact ⟨ht.1, ht.2⟩
  | forget e =>
    constructor
    · intro n hn; simp only [step] at hn ⊢; exact alookup_aerase_none n e c.secrets (h.1 n hn)
    · intro s hs
      simp only [step] at hs ⊢
      by_cases he : e = c.epoch
      · subst he
        have := Store.alookup_aerase_self c.epoch c.secrets
        rw [this] at hs; cases hs
      · rw [Store.alookup_aerase_ne e c.epoch c.secrets (Ne.symm he)] at hs
        exact h.2 s hs

theorem run_preserves {P : MClient → Prop} {ok : MOp → Prop} (hstep : ∀ c op, ok op → P c → P (step c op)) :
    ∀ (l : List MOp) (c : MClient), (∀ op ∈ l, ok op) → P c → P (run c l)
  | [], _, _, h => h
  | op :: ops, c, hl, h =>
    run_preserves hstep ops (step c op) (fun o ho => hl o (List.mem_cons_of_mem _ ho)) (hstep c op (hl op (List.mem_cons_self ..)) h)

end MdkVerif.MediaEpoch
