import MdkVerif.Model.Wrap
import MdkVerif.Proofs.Store
/-
  About Model/Wrap.lean, for Props/C06Wrap.lean: `findGroup`, `touch`, the NIP-44 layer (at most one secret does not
  simply fail), step 1 as decision logic, how `outer` ends, what `recordFailure` writes, and `process` outcome by outcome.
-/
namespace MdkVerif.Wrap
open MdkVerif
open MdkVerif.Store (alookup_ainsert_self alookup_ainsert_ne)

/-! ### groups -/

theorem findGroup_some {groups : List Group} {nid : Bytes} {g : Group} (h : findGroup groups nid = some g) :
    g ∈ groups ∧ g.nid = nid := by
  unfold findGroup at h
  have h1 := List.mem_of_find?_eq_some h
  have h2 := List.find?_some h
  exact ⟨h1, by simpa using h2⟩

/-- with pairwise distinct nostr group ids (both backends enforce it) the lookup finds THE group with that id -/
theorem findGroup_iff {groups : List Group} (hd : groups.Pairwise (fun a b => a.nid ≠ b.nid)) (nid : Bytes) (g : Group) :
    findGroup groups nid = some g ↔ g ∈ groups ∧ g.nid = nid := by
  constructor
  · exact findGroup_some
  · intro ⟨hm, hn⟩
    induction groups with
    | nil => cases hm
    | cons x r ih =>
      unfold findGroup
      rw [List.pairwise_cons] at hd
      rcases List.mem_cons.mp hm with rfl | hr
      · simp [List.find?, hn]
      · have hx : x.nid ≠ nid := by rw [← hn]; exact hd.1 g hr
        have : (x.nid == nid) = false := by simpa using hx
        simp only [List.find?, this]
        exact ih hd.2 hr

theorem frame_ensure (g : Group) : g.ensure.frame = g.frame := by
  unfold Group.ensure Group.frame
  split <;> rfl

theorem touch_frame (groups : List Group) (g : Group) : (touch groups g).map Group.frame = groups.map Group.frame := by
  unfold touch
  rw [List.map_map]
  apply List.map_congr_left
  intro x _
  simp only [Function.comp]
  split
  · rename_i h; rw [h, frame_ensure]
  · rfl

/-- nothing is written when the current epoch's secret is already stored -/
theorem ensure_of_stored (g : Group) (h : (alookup g.epoch g.secrets).isSome = true) : g.ensure = g := by
  unfold Group.ensure
  split
  · rfl
  · rename_i hn; rw [hn] at h; cases h

theorem touch_of_stored (groups : List Group) (g : Group) (h : (alookup g.epoch g.secrets).isSome = true) :
    touch groups g = groups := by
  unfold touch
  rw [ensure_of_stored g h]
  conv => rhs; rw [← List.map_id groups]
  apply List.map_congr_left
  intro x _
  split
  · rename_i hx; exact hx.symm
  · rfl

theorem touch_mem {groups : List Group} {g x : Group} (h : x ∈ touch groups g) :
    ∃ y ∈ groups, x = y ∨ x = y.ensure := by
  unfold touch at h
  obtain ⟨y, hy, rfl⟩ := List.mem_map.mp h
  refine ⟨y, hy, ?_⟩
  split
  · rename_i hx; right; rw [hx]
  · left; rfl

/-! ### the NIP-44 layer -/

theorem ite_ne {α : Type} {c : Prop} [Decidable c] {a b x : α} (ha : a ≠ x) (hb : b ≠ x) :
    (if c then a else b) ≠ x := by
  by_cases h : c
  · rw [if_pos h]; exact ha
  · rw [if_neg h]; exact hb

/-- a secret under which the payload does not simply fail is the one its MAC verifies under -/
theorem nip44Open_ne_err {c : Content} {k : Nat} (h : nip44Open c k ≠ .err) :
    ∃ p, c = .bytes p ∧ p.macKey = some k ∧ Generated.mdkMinPayloadLen ≤ p.len ∧ minPayload ≤ p.len ∧
      (nip44Open c k = .panic → p.len < minPayload + 2 ∧ Generated.nip44LenPrefixGuarded = false) := by
  cases c with
  | notBase64 => exact absurd rfl h
  | empty => exact absurd rfl h
  | bytes p =>
    rw [nip44Open] at h ⊢
    by_cases h1 : p.len < Generated.mdkMinPayloadLen
    · exact absurd (if_pos h1) h
    by_cases h2 : p.version ≠ Generated.nip44Version
    · rw [if_neg h1] at h; exact absurd (if_pos h2) h
    by_cases h3 : p.len < minPayload
    · rw [if_neg h1, if_neg h2] at h; exact absurd (if_pos h3) h
    by_cases h4 : p.macKey ≠ some k
    · rw [if_neg h1, if_neg h2, if_neg h3] at h; exact absurd (if_pos h4) h
    refine ⟨p, rfl, Classical.not_not.mp h4, Nat.le_of_not_lt h1, Nat.le_of_not_lt h3, ?_⟩
    rw [if_neg h1, if_neg h2, if_neg h3, if_neg h4]
    intro hp
    by_cases h5 : p.len - minPayload < 2
    · rw [if_pos h5] at hp
      refine ⟨by omega, ?_⟩
      cases hg : Generated.nip44LenPrefixGuarded
      · rfl
      · rw [hg] at hp; cases hp
    · -- past the length prefix every branch is a refusal or the plaintext
      rw [if_neg h5] at hp
      exact absurd hp (ite_ne nofun (ite_ne nofun (ite_ne nofun nofun)))

/-- … so at most ONE secret does not simply fail -/
theorem open_unique {c : Content} {k k' : Nat} (h : nip44Open c k ≠ .err) (h' : nip44Open c k' ≠ .err) : k = k' := by
  obtain ⟨p, hp, hk, _⟩ := nip44Open_ne_err h
  obtain ⟨p', hp', hk', _⟩ := nip44Open_ne_err h'
  rw [hp] at hp'
  cases hp'
  rw [hk] at hk'
  exact Option.some.inj hk'

theorem openWith_cons_err {c : Content} {k : Nat} (ks : List Nat) (h : nip44Open c k = .err) :
    openWith c (k :: ks) = openWith c ks := by
  rw [openWith, h]

theorem openWith_cons_ne_err {c : Content} {k : Nat} (ks : List Nat) (h : nip44Open c k ≠ .err) :
    openWith c (k :: ks) = nip44Open c k := by
  rw [openWith]
  cases hk : nip44Open c k with
  | err => exact absurd hk h
  | _ => rfl

/-- the outcome of the key loop is the outcome under the one key that matters -/
theorem openWith_eq (c : Content) (ks : List Nat) (r : Open) (hr : r ≠ .err) :
    openWith c ks = r ↔ ∃ k ∈ ks, nip44Open c k = r := by
  induction ks with
  | nil => exact ⟨fun h => absurd h.symm hr, fun ⟨_, h, _⟩ => nomatch h⟩
  | cons k t ih =>
    simp only [List.mem_cons, exists_eq_or_imp]
    by_cases hk : nip44Open c k = .err
    · rw [openWith_cons_err t hk, ih]
      exact ⟨Or.inr, fun h => h.resolve_left fun h => hr (h.symm.trans hk)⟩
    · rw [openWith_cons_ne_err t hk]
      refine ⟨Or.inl, fun h => h.elim id ?_⟩
      rintro ⟨k', _, h'⟩
      rw [open_unique hk (h' ▸ hr)]; exact h'

/-! ### step 1 as decision logic -/

theorem tagValue_ok (t : Tag) (nid : Bytes) :
    tagValue t = .ok nid ↔ ∃ v, t[1]? = some v ∧ v.length = Generated.hTagHexLen ∧ hexDecode v = some nid := by
  unfold tagValue
  split
  · rename_i h
    simp [h]
  · rename_i s h
    split
    · rename_i hl
      simp only [reduceCtorEq, false_iff, not_exists, not_and]
      intro v hv hl'
      rw [h] at hv; cases hv
      exact absurd hl' hl
    · rename_i hl
      have hl' : s.length = Generated.hTagHexLen := Classical.not_not.mp hl
      split
      · rename_i hd
        simp only [reduceCtorEq, false_iff, not_exists, not_and]
        intro v hv _ hd'
        rw [h] at hv; cases hv
        rw [hd] at hd'; cases hd'
      · rename_i b hd
        constructor
        · intro hb
          cases hb
          exact ⟨s, h, hl', hd⟩
        · rintro ⟨v, hv, _, hd'⟩
          rw [h] at hv; cases hv
          rw [hd] at hd'; cases hd'
          rfl

theorem extractNid_ok (e : Ev) (nid : Bytes) :
    extractNid e = .ok nid ↔ ∃ t v, hTags e = [t] ∧ t[1]? = some v ∧ v.length = Generated.hTagHexLen ∧ hexDecode v = some nid := by
  unfold extractNid
  split
  · rename_i h; simp [h]
  · rename_i t h
    rw [tagValue_ok]
    constructor
    · rintro ⟨v, hv⟩; exact ⟨t, v, h, hv⟩
    · rintro ⟨t', v, ht, hv⟩
      rw [h] at ht; cases ht
      exact ⟨v, hv⟩
  · rename_i a b r h; simp [h]

theorem validate_ok (cfg : Cfg) (now : Nat) (e : Ev) (nid : Bytes) :
    validate cfg now e = .ok nid ↔
      e.kind = Generated.kindMlsGroupMessage ∧ e.createdAt ≤ satAdd now cfg.skew ∧ now - cfg.maxAge ≤ e.createdAt ∧
      extractNid e = .ok nid := by
  have hk : kindOk e = true ↔ e.kind = Generated.kindMlsGroupMessage := beq_iff_eq
  have h1 : notTooNew cfg now e = true ↔ e.createdAt ≤ satAdd now cfg.skew := by
    rw [notTooNew, Bool.not_eq_true', decide_eq_false_iff_not, Nat.not_lt]
  have h2 : notTooOld cfg now e = true ↔ now - cfg.maxAge ≤ e.createdAt := by
    rw [notTooOld, Bool.not_eq_true', decide_eq_false_iff_not, Nat.not_lt]
  rw [← hk, ← h1, ← h2, validate]
  cases kindOk e
  · exact ⟨nofun, fun h => nomatch h.1⟩
  cases notTooNew cfg now e
  · exact ⟨nofun, fun h => nomatch h.2.1⟩
  cases notTooOld cfg now e
  · exact ⟨nofun, fun h => nomatch h.2.2.1⟩
  exact ⟨fun h => ⟨rfl, rfl, rfl, h⟩, fun h => h.2.2.2⟩

theorem outer_blockedAs_iff (cfg : Cfg) (now : Nat) (st : Store) (e : Ev) (r : Res) :
    outer cfg now st e = .blockedAs r ↔ isBlocked st e = true ∧ r = blockedResult st e := by
  unfold outer
  cases isBlocked st e with
  | true => exact ⟨fun h => ⟨rfl, (Outer.blockedAs.inj h).symm⟩, fun h => h.2 ▸ rfl⟩
  | false =>
    refine ⟨fun h => ?_, fun h => nomatch h.1⟩
    -- past step 0 no branch answers `blockedAs`
    simp only [Bool.false_eq_true, if_false] at h
    repeat' split at h
    all_goals cases h

/-- the three outcomes that come after the key loop has run over the secrets of the group `g` -/
def Outer.ofOpen (g : Group) : Open → Outer
  | .err => .undecryptable g
  | .panic => .panicked g
  | .ok i => .opened g i

theorem Outer.ofOpen_inj {g g' : Group} {r r' : Open} : Outer.ofOpen g r = Outer.ofOpen g' r' ↔ g = g' ∧ r = r' := by
  cases r <;> cases r' <;> simp [Outer.ofOpen]

theorem outer_ofOpen_iff (cfg : Cfg) (now : Nat) (st : Store) (e : Ev) (g : Group) (r : Open) :
    outer cfg now st e = Outer.ofOpen g r ↔
      isBlocked st e = false ∧ ∃ nid, validate cfg now e = .ok nid ∧ findGroup st.groups nid = some g ∧
        g.loadable = true ∧ openWith e.content g.keys = r := by
  unfold outer
  cases isBlocked st e with
  | true => exact ⟨fun h => (by cases r <;> cases h), fun h => nomatch h.1⟩
  | false =>
    simp only [Bool.false_eq_true, if_false, true_and]
    cases validate cfg now e with
    | error k => exact ⟨fun h => (by cases r <;> cases h), fun ⟨_, h, _⟩ => nomatch h⟩
    | ok nid =>
      simp only [Except.ok.injEq, exists_eq_left']
      cases findGroup st.groups nid with
      | none => exact ⟨fun h => (by cases r <;> cases h), fun ⟨h, _⟩ => nomatch h⟩
      | some g0 =>
        simp only [Option.some.injEq]
        cases hl : g0.loadable with
        | false =>
          exact ⟨fun h => (by cases r <;> cases h), fun ⟨h, h', _⟩ => by rw [← h, hl] at h'; cases h'⟩
        | true =>
          simp only [Bool.not_true, Bool.false_eq_true, if_false]
          change Outer.ofOpen g0 (openWith e.content g0.keys) = _ ↔ _
          rw [Outer.ofOpen_inj]
          exact ⟨fun ⟨hg, ho⟩ => ⟨hg, hg ▸ hl, hg ▸ ho⟩, fun ⟨hg, _, ho⟩ => ⟨hg, hg ▸ ho⟩⟩

theorem blockedResult_cases (st : Store) (e : Ev) :
    blockedResult st e = .previouslyFailed ∨
    ∃ nid g, extractNid e = .ok nid ∧ findGroup st.groups nid = some g ∧ blockedResult st e = .unprocessable g.gid := by
  unfold blockedResult
  split
  · rename_i nid hx
    split
    · rename_i g hf; exact Or.inr ⟨nid, g, hx, hf, rfl⟩
    · exact Or.inl rfl
  · exact Or.inl rfl

theorem blockedAs_cases {cfg : Cfg} {now : Nat} {st : Store} {e : Ev} {r : Res} (ho : outer cfg now st e = .blockedAs r) :
    r = .previouslyFailed ∨
    ∃ nid g, extractNid e = .ok nid ∧ findGroup st.groups nid = some g ∧ r = .unprocessable g.gid :=
  ((outer_blockedAs_iff cfg now st e r).mp ho).2 ▸ blockedResult_cases st e

theorem routed_current_id {cfg : Cfg} {now : Nat} {st : Store} {e : Ev} {g : Group} {r : Open}
    (h : outer cfg now st e = Outer.ofOpen g r) : g ∈ st.groups ∧ extractNid e = .ok g.nid := by
  obtain ⟨_, nid, hv, hf, _⟩ := (outer_ofOpen_iff cfg now st e g r).mp h
  obtain ⟨hm, hn⟩ := findGroup_some hf
  exact ⟨hm, hn ▸ ((validate_ok cfg now e nid).mp hv).2.2.2⟩

/-! ### records -/

theorem recordFailure_groups (st : Store) (id : Nat) (k : ErrKind) (g e : Option Nat) :
    (recordFailure st id k g e).groups = st.groups := rfl

theorem recordFailure_other (st : Store) (id n : Nat) (k : ErrKind) (g e : Option Nat) (h : n ≠ id) :
    alookup n (recordFailure st id k g e).recs = alookup n st.recs := by
  unfold recordFailure
  exact alookup_ainsert_ne id n _ _ h

theorem recordFailure_self (st : Store) (id : Nat) (k : ErrKind) (g e : Option Nat) :
    ∃ r, alookup id (recordFailure st id k g e).recs = some r ∧ r.state = 3 ∧ r.reason = some (reasonOf k) ∧
      r.mid = (alookup id st.recs).bind (·.mid) := by
  unfold recordFailure
  exact ⟨_, alookup_ainsert_self id _ _, rfl, rfl, rfl⟩

theorem blocked_failed (r : Rec) (h : r.state = 3) : blocked r = true := by
  unfold blocked
  rw [h]
  decide

/-- the groups after `process` are the old ones, one of them possibly with its exporter-secret cache filled -/
theorem process_groups (cfg : Cfg) (now : Nat) (st : Store) (e : Ev) :
    (process cfg now st e).1.groups = st.groups ∨
    ∃ g r, outer cfg now st e = Outer.ofOpen g r ∧ (process cfg now st e).1.groups = touch st.groups g := by
  unfold process
  generalize outer cfg now st e = o
  cases o with
  | undecryptable g => exact Or.inr ⟨g, .err, rfl, rfl⟩
  | panicked g => exact Or.inr ⟨g, .panic, rfl, rfl⟩
  | opened g i => refine Or.inr ⟨g, .ok i, rfl, ?_⟩; dsimp only; split <;> rfl
  | _ => exact Or.inl rfl

theorem process_recs_other (cfg : Cfg) (now : Nat) (st : Store) (e : Ev) (n : Nat) (h : n ≠ e.id) :
    alookup n (process cfg now st e).1.recs = alookup n st.recs := by
  unfold process
  generalize outer cfg now st e = o
  cases o with
  | blockedAs _ | panicked _ => rfl
  | opened g i =>
    dsimp only
    split
    · rfl
    · exact recordFailure_other _ _ _ _ _ _ h
  | _ => exact recordFailure_other _ _ _ _ _ _ h

theorem blocked_process (cfg : Cfg) (now : Nat) (st : Store) (e : Ev) (h : isBlocked st e = true) :
    process cfg now st e = (st, blockedResult st e) := by
  unfold process outer
  simp [h]

theorem blockedResult_refusal (st : Store) (e : Ev) : isRefusal (blockedResult st e) = true := by
  rcases blockedResult_cases st e with h | ⟨_, _, _, _, h⟩ <;> rw [h] <;> rfl

/-- after a refusal the event is blocked by its own Failed record -/
theorem refused_then_blocked (cfg : Cfg) (now : Nat) (st : Store) (e : Ev) (h : isRefusal (process cfg now st e).2 = true) :
    isBlocked (process cfg now st e).1 e = true := by
  have fail : ∀ (s : Store) (k : ErrKind) (g ep : Option Nat), isBlocked (recordFailure s e.id k g ep) e = true := by
    intro s k g ep
    obtain ⟨r, hr, hs, _⟩ := recordFailure_self s e.id k g ep
    unfold isBlocked
    rw [hr]
    exact blocked_failed r hs
  unfold process at h ⊢
  generalize ho : outer cfg now st e = o at h ⊢
  cases o with
  | blockedAs r => exact ((outer_blockedAs_iff cfg now st e r).mp ho).1
  | panicked g => cases h
  | opened g i =>
    dsimp only at h ⊢
    split
    · rename_i hi; rw [if_pos hi] at h; cases h
    · exact fail _ _ _ _
  | _ => exact fail _ _ _ _

theorem process_panic {cfg : Cfg} {now : Nat} {st : Store} {e : Ev} (h : (process cfg now st e).2 = .panic) :
    ∃ k, nip44Open e.content k = .panic := by
  unfold process at h
  generalize ho : outer cfg now st e = o at h
  cases o with
  | blockedAs r =>
    rcases blockedAs_cases ho with rfl | ⟨_, _, _, _, rfl⟩ <;> cases h
  | panicked g =>
    obtain ⟨_, _, _, _, _, hp⟩ := (outer_ofOpen_iff cfg now st e g .panic).mp ho
    obtain ⟨k, _, hk⟩ := (openWith_eq e.content g.keys .panic nofun).mp hp
    exact ⟨k, hk⟩
  | opened g i => dsimp only at h; split at h <;> cases h
  | _ => cases h

end MdkVerif.Wrap
