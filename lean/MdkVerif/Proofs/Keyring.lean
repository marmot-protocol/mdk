import MdkVerif.Model.Keyring
import MdkVerif.Model.OpenMatrix
/-
  Proofs.Keyring — inductive invariants of the two interleaving models of `Model.Keyring`, and what the
  constructor logic of `Model.OpenMatrix` guarantees.  Each step function is described once by a relation
  with one constructor per branch (`Step`, `NStep`, `OpenPath`); an invariant is checked through one lemma
  that says what the move of one caller has to satisfy (`Inv.move`, `NInv.move`).
-/
namespace MdkVerif.Keyring

/-! ## `get_or_create_db_key` -/

/-- does the caller hold (or need to hold) KEY_GENERATION_LOCK at this program counter? -/
def Pc.inCs : Pc → Bool
  | .locked => true
  | .gen => true
  | .store _ => true
  | _ => false

/-- is the caller past the re-read that found no entry? -/
def Pc.sawNone : Pc → Bool
  | .gen => true
  | .store _ => true
  | _ => false

theorem forall_update {α : Type} {P : Nat → α → Prop} (g : Nat → α) (t : Nat) (p : α) (ht : P t p)
    (hu : ∀ u, u ≠ t → P u (g u)) (u : Nat) : P u (if u = t then p else g u) := by
  by_cases e : u = t
  · subst e; rw [if_pos rfl]; exact ht
  · rw [if_neg e]; exact hu u e

theorem run_invariant {P : St → Prop} {fc : Bool} (hstep : ∀ s e, P s → P (step fc s e)) (s : St)
    (sched : List Ev) (h : P s) : P (run fc s sched) := by
  induction sched generalizing s with
  | nil => exact h
  | cons e es ih => exact ih _ (hstep s e h)

/-! ### what a protocol step does -/

/-- The outcomes of one protocol step of caller `t` standing at `q`: the branches of `stepThread`, each under
    its path condition.  `q`, `fc` and `ok` are indices, so that a case analysis with one of them known drops
    the branches of the other values. -/
inductive Step (s : St) (t fresh : Nat) : Pc → Bool → Bool → St → Prop
  | idle {q fc ok} : q.act = none ∨ (q = .wantLock ∧ s.lock.isSome = true) → Step s t fresh q fc ok s
  | found {fc k} : s.ring = some k → Step s t fresh .start fc true (setPc (log s t .read) t (.done k))
  | absent {fc} : s.ring = none → Step s t fresh .start fc true (setPc (log s t .read) t .wantLock)
  | readErr {fc} : Step s t fresh .start fc false (setPc (log s t .read) t .failed)
  | refused {ok} : s.lock = none → s.poisoned = true →
      Step s t fresh .wantLock true ok (setPc (log s t .lock) t .failed)
  | unguarded {ok} : s.lock = none → s.poisoned = true →
      Step s t fresh .wantLock false ok (setPc (log s t .lock) t .locked)
  | acquired {fc ok} : s.lock = none → s.poisoned = false →
      Step s t fresh .wantLock fc ok (setPc (log { s with lock := some t } t .lock) t .locked)
  | refound {fc k} : s.ring = some k →
      Step s t fresh .locked fc true (setPc (log { s with lock := none } t .read) t (.done k))
  | stillAbsent {fc} : s.ring = none → Step s t fresh .locked fc true (setPc (log s t .read) t .gen)
  | generated {fc} : Step s t fresh .gen fc true (setPc (log s t .generate) t (.store fresh))
  | stored {fc k} : Step s t fresh (.store k) fc true
      (setPc (log { s with ring := some k, stores := s.stores + 1, lock := none } t .store) t (.done k))
  /-- any failing call inside the locked section: the guard is dropped on the way out -/
  | failedInside {q fc a} : q.inCs = true → q.act = some a →
      Step s t fresh q fc false (setPc (log { s with lock := none } t a) t .failed)

theorem stepThread_cases (fc : Bool) (s : St) (t fresh : Nat) (ok : Bool) :
    Step s t fresh (s.pc t) fc ok (stepThread fc s t fresh ok) := by
  -- with the fields of `s` as variables a case split on one of them reaches every occurrence
  obtain ⟨ring, lock, pc, stores, deletes, trace, poisoned⟩ := s
  unfold stepThread
  dsimp only
  cases pc t with
  | start =>
    cases ok with
    | false => exact .readErr
    | true =>
      cases ring with
      | none => exact .absent rfl
      | some k => exact .found rfl
  | wantLock =>
    cases lock with
    | some u => exact .idle (.inr ⟨rfl, rfl⟩)
    | none =>
      cases poisoned with
      | false => exact .acquired rfl rfl
      | true =>
        cases fc with
        | false => exact .unguarded rfl rfl
        | true => exact .refused rfl rfl
  | locked =>
    cases ok with
    | false => exact .failedInside rfl rfl
    | true =>
      cases ring with
      | none => exact .stillAbsent rfl
      | some k => exact .refound rfl
  | gen =>
    cases ok with
    | false => exact .failedInside rfl rfl
    | true => exact .generated
  | store k =>
    cases ok with
    | false => exact .failedInside rfl rfl
    | true => exact .stored
  | done k => exact .idle (.inl rfl)
  | failed => exact .idle (.inl rfl)

/-- only a panic sets the poison flag, nothing clears it -/
theorem stepThread_frame (fc : Bool) (s : St) (t fresh : Nat) (ok : Bool) :
    (stepThread fc s t fresh ok).deletes = s.deletes ∧ (stepThread fc s t fresh ok).poisoned = s.poisoned ∧
    ∀ u, u ≠ t → (stepThread fc s t fresh ok).pc u = s.pc u := by
  have hs := stepThread_cases fc s t fresh ok
  generalize s.pc t = q, stepThread fc s t fresh ok = s' at hs ⊢
  cases hs with
  | idle => exact ⟨rfl, rfl, fun _ _ => rfl⟩
  | _ => exact ⟨rfl, rfl, fun _ h => if_neg h⟩

/-- the keyring changes only in a successful store step -/
theorem stepThread_ring (fc : Bool) (s : St) (t fresh : Nat) (ok : Bool) :
    ((stepThread fc s t fresh ok).ring = s.ring ∧ (stepThread fc s t fresh ok).stores = s.stores ∧
      ∀ k, (stepThread fc s t fresh ok).pc t = .done k → s.pc t = .done k ∨ s.ring = some k) ∨
    (∃ k, s.pc t = .store k ∧ (stepThread fc s t fresh ok).ring = some k ∧
      (stepThread fc s t fresh ok).pc t = .done k) := by
  have hs := stepThread_cases fc s t fresh ok
  generalize hq : s.pc t = q, stepThread fc s t fresh ok = s' at hs ⊢
  cases hs with
  | idle => exact .inl ⟨rfl, rfl, fun _ h => .inl (hq.symm.trans h)⟩
  | found hr | refound hr => exact .inl ⟨rfl, rfl, fun _ h => by cases (if_pos rfl).symm.trans h; exact .inr hr⟩
  | stored => exact .inr ⟨_, rfl, rfl, if_pos rfl⟩
  | _ => exact .inl ⟨rfl, rfl, fun _ h => by cases (if_pos rfl).symm.trans h⟩

/-- with a working keyring a protocol step returns `Err` only because the lock is poisoned -/
theorem stepThread_failed_why (s : St) (t fresh : Nat) (h : (stepThread true s t fresh true).pc t = .failed) :
    s.pc t = .failed ∨ s.poisoned = true := by
  have hs := stepThread_cases true s t fresh true
  generalize hq : s.pc t = q, stepThread true s t fresh true = s' at hs h ⊢
  cases hs with
  | idle => exact .inl (hq.symm.trans h)
  | refused _ hp => exact .inr hp
  | _ => cases (if_pos rfl).symm.trans h

/-! ### panics -/

theorem panicThread_eq (s : St) (t : Nat) :
    panicThread s t = s ∨
    (s.lock = some t ∧ panicThread s t = setPc { s with lock := none, poisoned := true } t .failed) ∨
    (s.lock ≠ some t ∧ panicThread s t = setPc s t .failed) := by
  unfold panicThread
  split
  · exact .inl rfl
  · exact .inl rfl
  · split
    · rename_i hl; exact .inr (.inl ⟨hl, rfl⟩)
    · rename_i hl; exact .inr (.inr ⟨hl, rfl⟩)

structure PanicKeeps (s s' : St) (t : Nat) : Prop where
  ring : s'.ring = s.ring
  stores : s'.stores = s.stores
  deletes : s'.deletes = s.deletes
  others : ∀ u, u ≠ t → s'.pc u = s.pc u
  done : ∀ u k, s'.pc u = .done k → s.pc u = .done k
  poisoned : s'.poisoned = s.poisoned ∨ (s'.poisoned = true ∧ s.lock = some t)

theorem panicThread_keeps (s : St) (t : Nat) : PanicKeeps s (panicThread s t) t := by
  have done : ∀ (g : Nat → Pc) u k, (if u = t then .failed else g u) = Pc.done k → g u = .done k :=
    fun g u k => forall_update (P := fun u q => q = Pc.done k → g u = .done k) g t .failed nofun (fun _ _ c => c) u
  rcases panicThread_eq s t with h1 | ⟨hl, h1⟩ | ⟨_, h1⟩ <;> rw [h1]
  · exact ⟨rfl, rfl, rfl, fun _ _ => rfl, fun _ _ c => c, .inl rfl⟩
  · exact ⟨rfl, rfl, rfl, fun _ h => if_neg h, done _, .inr ⟨rfl, hl⟩⟩
  · exact ⟨rfl, rfl, rfl, fun _ h => if_neg h, done _, .inl rfl⟩

theorem panicThread_poisoned_mono (s : St) (t : Nat) (h : s.poisoned = true) : (panicThread s t).poisoned = true :=
  (panicThread_keeps s t).poisoned.elim (fun e => e.trans h) (·.1)

theorem step_delete (fc : Bool) (s : St) :
    step fc s .delete = s ∨ step fc s .delete = { s with ring := none, deletes := s.deletes + 1 } := by
  simp only [step]
  split
  · exact .inr rfl
  · exact .inl rfl

/-! ### the invariant -/

/-- invariant that holds for EVERY schedule, including `delete_db_key` events -/
structure Inv (s : St) : Prop where
  lockOwner : ∀ t, (s.pc t).inCs = true → s.lock = some t
  sawNone : ∀ t, (s.pc t).sawNone = true → s.ring = none
  storesBound : s.stores ≤ s.deletes + (if s.ring.isSome then 1 else 0)
  poisonFree : s.poisoned = true → s.lock = none

theorem inv_init (r : Option Nat) (p : Bool) : Inv (init r p) :=
  ⟨nofun, nofun, Nat.zero_le _, fun _ => rfl⟩

/-- at most one caller is inside the locked section -/
theorem Inv.cs_unique {s : St} (h : Inv s) {t u : Nat}
    (ht : (s.pc t).inCs = true) (hu : (s.pc u).inCs = true) : t = u :=
  Option.some.inj ((h.lockOwner t ht).symm.trans (h.lockOwner u hu))

theorem Inv.stores_le {s : St} (h : Inv s) : s.stores ≤ s.deletes + 1 := by
  have := h.storesBound
  split at this <;> omega

private theorem sawNone_inCs {p : Pc} (h : p.sawNone = true) : p.inCs = true := by
  cases p <;> first | rfl | exact h

/-- the lock is held only by a caller inside the locked section (the guard is released on every way
    out, a panic included) -/
def LockHeld (s : St) : Prop := ∀ t, s.lock = some t → (s.pc t).inCs = true

/-- Caller `t` moves to `p`: what has to be checked, for `Inv` and (`hin`) for `LockHeld`.  `hlock`: the lock
    is kept, acquired or released by `t`; `hring`: the keyring is left alone, or the holder of the lock
    stores into an empty one. -/
theorem Inv.move {s : St} (h : Inv s) (t : Nat) {p : Pc} {l r : Option Nat} {n : Nat} {tr : List (Nat × Nat)}
    {q : Bool}
    (hown : p.inCs = true → l = some t)
    (hsaw : p.sawNone = true → r = none)
    (hlock : l = s.lock ∨ (s.lock = none ∧ l = some t) ∨ (s.lock = some t ∧ l = none))
    (hring : (r = s.ring ∧ n = s.stores) ∨
      (s.lock = some t ∧ s.ring = none ∧ r.isSome = true ∧ n = s.stores + 1))
    (hq : q = true → l = none)
    (hin : LockHeld s → l = some t → p.inCs = true) :
    Inv (setPc { s with lock := l, ring := r, stores := n, trace := tr, poisoned := q } t p) ∧
    (LockHeld s → LockHeld (setPc { s with lock := l, ring := r, stores := n, trace := tr, poisoned := q } t p)) := by
  -- a lock held by another caller, and the keyring it then sees, are not touched
  have others : ∀ u, u ≠ t → s.lock = some u → l = s.lock ∧ r = s.ring := by
    intro u e hl
    have ne : s.lock ≠ some t := fun c => e (Option.some.inj (hl.symm.trans c))
    refine ⟨?_, hring.elim (·.1) (fun c => absurd c.1 ne)⟩
    rcases hlock with h1 | h1 | h1
    · exact h1
    · cases h1.1.symm.trans hl
    · exact absurd h1.1 ne
  refine ⟨⟨?_, ?_, ?_, hq⟩, fun hL => ?_⟩
  · exact forall_update (P := fun u q => q.inCs = true → l = some u) _ t p hown
      (fun u e hu => (others u e (h.lockOwner u hu)).1.trans (h.lockOwner u hu))
  · exact forall_update (P := fun _ q => q.sawNone = true → r = none) _ t p hsaw
      (fun u e hu => (others u e (h.lockOwner u (sawNone_inCs hu))).2.trans (h.sawNone u hu))
  · show n ≤ s.deletes + if r.isSome = true then 1 else 0
    rcases hring with ⟨h1, h2⟩ | ⟨_, h1, h2, h3⟩
    · rw [h1, h2]; exact h.storesBound
    · have := h.storesBound
      rw [h1] at this
      rw [if_pos h2, h3]; exact Nat.succ_le_succ this
  · refine forall_update (P := fun u q => l = some u → q.inCs = true) _ t p (hin hL) (fun u e hu => ?_)
    rcases hlock with h1 | h1 | h1
    · exact hL u (h1.symm.trans hu)
    · exact absurd (Option.some.inj (hu.symm.trans h1.2)) e
    · cases h1.2.symm.trans hu

theorem inv_stepThread (s : St) (t fresh : Nat) (ok : Bool) (h : Inv s) :
    Inv (stepThread true s t fresh ok) ∧ (LockHeld s → LockHeld (stepThread true s t fresh ok)) := by
  have own : (s.pc t).inCs = true → s.lock = some t := h.lockOwner t
  have saw : (s.pc t).sawNone = true → s.ring = none := h.sawNone t
  have hin : LockHeld s → s.lock = some t → (s.pc t).inCs = true := fun hL => hL t
  have hs := stepThread_cases true s t fresh ok
  generalize s.pc t = q, stepThread true s t fresh ok = s' at hs own saw hin ⊢
  cases hs with
  | idle => exact ⟨h, id⟩
  -- from outside to outside: `inCs` is `false` before and after, which is why `hin` fits
  | found | absent | readErr | refused =>
    exact h.move t nofun nofun (.inl rfl) (.inl ⟨rfl, rfl⟩) h.poisonFree hin
  | acquired hl hp =>
    exact h.move t (fun _ => rfl) nofun (.inr (.inl ⟨hl, rfl⟩)) (.inl ⟨rfl, rfl⟩) (fun c => by cases hp.symm.trans c)
      (fun _ _ => rfl)
  | stillAbsent hr =>
    exact h.move t (fun _ => own rfl) (fun _ => hr) (.inl rfl) (.inl ⟨rfl, rfl⟩) h.poisonFree (fun _ _ => rfl)
  | generated =>
    exact h.move t (fun _ => own rfl) (fun _ => saw rfl) (.inl rfl) (.inl ⟨rfl, rfl⟩) h.poisonFree (fun _ _ => rfl)
  | refound =>
    exact h.move t nofun nofun (.inr (.inr ⟨own rfl, rfl⟩)) (.inl ⟨rfl, rfl⟩) (fun _ => rfl) (fun _ => nofun)
  | failedInside hq =>
    exact h.move t nofun nofun (.inr (.inr ⟨own hq, rfl⟩)) (.inl ⟨rfl, rfl⟩) (fun _ => rfl) (fun _ => nofun)
  | stored =>
    exact h.move t nofun nofun (.inr (.inr ⟨own rfl, rfl⟩)) (.inr ⟨own rfl, saw rfl, rfl, rfl⟩) (fun _ => rfl)
      (fun _ => nofun)

/-- a protocol step neither replaces an entry nor stores beside it -/
theorem stepThread_ring_some (fc : Bool) (s : St) (t fresh : Nat) (ok : Bool) (h : Inv s) (k : Nat)
    (hr : s.ring = some k) :
    (stepThread fc s t fresh ok).ring = some k ∧ (stepThread fc s t fresh ok).stores = s.stores := by
  rcases stepThread_ring fc s t fresh ok with ⟨h2, h3, _⟩ | ⟨k', h2, _, _⟩
  · exact ⟨h2.trans hr, h3⟩
  · cases (h.sawNone t (congrArg Pc.sawNone h2)).symm.trans hr

theorem inv_panicThread (s : St) (t : Nat) (h : Inv s) :
    Inv (panicThread s t) ∧ (LockHeld s → LockHeld (panicThread s t)) := by
  rcases panicThread_eq s t with h1 | ⟨hl, h1⟩ | ⟨hl, h1⟩ <;> rw [h1]
  · exact ⟨h, id⟩
  · exact h.move t nofun nofun (.inr (.inr ⟨hl, rfl⟩)) (.inl ⟨rfl, rfl⟩) (fun _ => rfl) (fun _ => nofun)
  · exact h.move t nofun nofun (.inl rfl) (.inl ⟨rfl, rfl⟩) h.poisonFree (fun _ c => absurd c hl)

theorem inv_step (s : St) (e : Ev) (h : Inv s) :
    Inv (step true s e) ∧ (LockHeld s → LockHeld (step true s e)) := by
  cases e with
  | step t fresh ok => exact inv_stepThread s t fresh ok h
  | delete =>
    rcases step_delete true s with e | e <;> rw [e]
    · exact ⟨h, id⟩
    · exact ⟨⟨h.lockOwner, fun _ _ => rfl, h.stores_le, h.poisonFree⟩, id⟩
  | panic t => exact inv_panicThread s t h

theorem inv_run (s : St) (sched : List Ev) (h : Inv s) : Inv (run true s sched) :=
  run_invariant (fun s e h => (inv_step s e h).1) s sched h

theorem lockHeld_run (s : St) (sched : List Ev) (hi : Inv s) (h : LockHeld s) : LockHeld (run true s sched) :=
  (run_invariant (P := fun s => Inv s ∧ LockHeld s) (fun s e h => ⟨(inv_step s e h.1).1, (inv_step s e h.1).2 h.2⟩)
    s sched ⟨hi, h⟩).2

theorem lockHeld_init (r : Option Nat) (p : Bool) : LockHeld (init r p) := nofun

theorem run_append (fc : Bool) (s : St) (a b : List Ev) : run fc s (a ++ b) = run fc (run fc s a) b := by
  induction a generalizing s with
  | nil => rfl
  | cons e es ih => simp [run, ih]

/-! ### the poison flag -/

theorem step_poisoned (fc : Bool) (s : St) (e : Ev) (h : e.isPanic = false) : (step fc s e).poisoned = s.poisoned := by
  cases e with
  | step t fresh ok => exact (stepThread_frame fc s t fresh ok).2.1
  | delete => rcases step_delete fc s with e | e <;> rw [e]
  | panic t => cases h

theorem step_poisoned_mono (fc : Bool) (s : St) (e : Ev) (h : s.poisoned = true) : (step fc s e).poisoned = true := by
  cases e with
  | panic t => exact panicThread_poisoned_mono s t h
  | _ => rw [step_poisoned fc s _ rfl]; exact h

theorem run_poisoned_mono (fc : Bool) (s : St) (sched : List Ev) (h : s.poisoned = true) :
    (run fc s sched).poisoned = true :=
  run_invariant (step_poisoned_mono fc) s sched h

/-- the flag is set only by a panic of the caller that holds the lock -/
theorem run_poisons (fc : Bool) (s : St) (sched : List Ev) (h0 : s.poisoned = false)
    (h : (run fc s sched).poisoned = true) :
    ∃ pre t post, sched = pre ++ .panic t :: post ∧ (run fc s pre).lock = some t := by
  induction sched generalizing s with
  | nil => cases h0.symm.trans h
  | cons e es ih =>
    cases hq : (step fc s e).poisoned with
    | false =>
      obtain ⟨pre, t, post, h1, h2⟩ := ih (step fc s e) hq h
      exact ⟨e :: pre, t, post, by simp [h1], h2⟩
    | true =>
      cases e with
      | panic t =>
        rcases (panicThread_keeps s t).poisoned with h1 | h1
        · cases (hq.symm.trans h1).trans h0
        · exact ⟨[], t, es, rfl, h1.2⟩
      | _ => cases (hq.symm.trans (step_poisoned fc s _ rfl)).trans h0

/-- without panics the flag never changes -/
theorem run_no_panic_poisoned (fc : Bool) (s : St) (sched : List Ev) (hnp : sched.all (fun e => !e.isPanic) = true) :
    (run fc s sched).poisoned = s.poisoned := by
  induction sched generalizing s with
  | nil => rfl
  | cons e es ih =>
    simp only [List.all_cons, Bool.and_eq_true, Bool.not_eq_true'] at hnp
    exact (ih _ hnp.2).trans (step_poisoned fc s e hnp.1)

/-! ### once the lock is poisoned (fail-closed rule) nothing is ever stored again -/

/-- what a poisoned state `s` may still become, relative to the state `s0` it was poisoned in -/
structure Frozen (s0 s : St) : Prop where
  inv : Inv s
  poisoned : s.poisoned = true
  stores : s.stores = s0.stores
  ring : s.ring = s0.ring ∨ s.ring = none
  ringKeep : s.deletes = s0.deletes → s.ring = s0.ring
  deletes : s0.deletes ≤ s.deletes
  done : ∀ t k, s.pc t = .done k → s0.pc t = .done k ∨ s0.ring = some k

theorem frozen_refl (s : St) (hi : Inv s) (hp : s.poisoned = true) : Frozen s s :=
  ⟨hi, hp, rfl, .inl rfl, fun _ => rfl, Nat.le_refl _, fun _ _ h => .inl h⟩

theorem Frozen.keep {s0 s s' : St} (h : Frozen s0 s) (hi : Inv s') (hp : s'.poisoned = true)
    (hs : s'.stores = s.stores) (hr : s'.ring = s.ring) (hd : s'.deletes = s.deletes)
    (hdone : ∀ u k, s'.pc u = .done k → s.pc u = .done k ∨ s.ring = some k) : Frozen s0 s' := by
  refine ⟨hi, hp, hs.trans h.stores, hr ▸ h.ring, hr ▸ hd ▸ h.ringKeep, hd ▸ h.deletes, ?_⟩
  intro u k hu
  rcases hdone u k hu with h1 | h1
  · exact h.done u k h1
  · rcases h.ring with h2 | h2
    · exact .inr (h2 ▸ h1)
    · cases h2.symm.trans h1

theorem frozen_step (s0 s : St) (e : Ev) (h : Frozen s0 s) : Frozen s0 (step true s e) := by
  have hi := (inv_step s e h.inv).1
  have hp := step_poisoned_mono true s e h.poisoned
  cases e with
  | step t fresh ok =>
    obtain ⟨fd, _, fpc⟩ := stepThread_frame true s t fresh ok
    -- nobody holds the poisoned lock, so nobody is about to store
    rcases stepThread_ring true s t fresh ok with ⟨hr, hn, hdone⟩ | ⟨k, hpc, _⟩
    · refine h.keep hi hp hn hr fd (fun u k hu => ?_)
      by_cases e : u = t
      · subst e; exact hdone k hu
      · exact .inl ((fpc u e).symm.trans hu)
    · cases (h.inv.poisonFree h.poisoned).symm.trans (h.inv.lockOwner t (congrArg Pc.inCs hpc))
  | delete =>
    rcases step_delete true s with e | e <;> rw [e] at hi hp ⊢
    · exact h
    · exact ⟨hi, hp, h.stores, .inr rfl, fun c => absurd (c ▸ h.deletes) (Nat.not_succ_le_self _),
        Nat.le_succ_of_le h.deletes, h.done⟩
  | panic t =>
    obtain ⟨f1, f2, f3, _, f5, _⟩ := panicThread_keeps s t
    exact h.keep hi hp f2 f1 f3 (fun u k hu => .inl (f5 u k hu))

/-! ### schedules without `delete_db_key` -/

/-- invariant of the delete-free schedules, relative to the initial keyring content `r0` -/
structure InvN (r0 : Option Nat) (s : St) : Prop where
  base : Inv s
  noDel : s.deletes = 0
  doneKey : ∀ t k, s.pc t = .done k → s.ring = some k
  keep : ∀ k0, r0 = some k0 → s.ring = some k0 ∧ s.stores = 0

theorem InvN.stores_le_one {r0 : Option Nat} {s : St} (h : InvN r0 s) : s.stores ≤ 1 := by
  have := h.base.stores_le
  rw [h.noDel] at this
  exact this

theorem invN_init (r : Option Nat) (p : Bool) : InvN r (init r p) :=
  ⟨inv_init r p, rfl, nofun, fun _ h => ⟨h, rfl⟩⟩

theorem noDelete_cons (e : Ev) (es : List Ev) :
    noDelete (e :: es) = true ↔ e.isDelete = false ∧ noDelete es = true := by
  simp [noDelete]

/-- deletes are counted: a delete-free schedule leaves the counter alone -/
theorem run_noDelete_deletes (fc : Bool) (s : St) (sched : List Ev) (hnd : noDelete sched = true) :
    (run fc s sched).deletes = s.deletes := by
  induction sched generalizing s with
  | nil => rfl
  | cons e es ih =>
    obtain ⟨he, hes⟩ := (noDelete_cons e es).mp hnd
    refine (ih _ hes).trans ?_
    cases e with
    | step t fresh ok => exact (stepThread_frame fc s t fresh ok).1
    | delete => cases he
    | panic t => exact (panicThread_keeps s t).deletes

theorem invN_stepThread (r0 : Option Nat) (s : St) (t fresh : Nat) (ok : Bool) (h : InvN r0 s) :
    InvN r0 (stepThread true s t fresh ok) := by
  have keeps := stepThread_ring_some true s t fresh ok h.base
  obtain ⟨fd, _, fpc⟩ := stepThread_frame true s t fresh ok
  refine ⟨(inv_stepThread s t fresh ok h.base).1, fd.trans h.noDel, ?_, ?_⟩
  · intro u k hu
    by_cases e : u = t
    · subst e
      rcases stepThread_ring true s u fresh ok with ⟨_, _, hd⟩ | ⟨k', _, hr', hp'⟩
      · exact (keeps k ((hd k hu).elim (h.doneKey u k) id)).1
      · cases hp'.symm.trans hu; exact hr'
    · exact (keeps k (h.doneKey u k ((fpc u e).symm.trans hu))).1
  · intro k0 hr0
    obtain ⟨hring, hst⟩ := h.keep k0 hr0
    exact ⟨(keeps k0 hring).1, (keeps k0 hring).2.trans hst⟩

theorem invN_panicThread (r0 : Option Nat) (s : St) (t : Nat) (h : InvN r0 s) : InvN r0 (panicThread s t) := by
  obtain ⟨f1, f2, f3, _, f5, _⟩ := panicThread_keeps s t
  refine ⟨(inv_panicThread s t h.base).1, f3.trans h.noDel, ?_, ?_⟩
  · intro u k hu; rw [f1]; exact h.doneKey u k (f5 u k hu)
  · intro k0 hr0; rw [f1, f2]; exact h.keep k0 hr0

theorem invN_run (r0 : Option Nat) (s : St) (sched : List Ev) (hnd : noDelete sched = true) (h : InvN r0 s) :
    InvN r0 (run true s sched) := by
  induction sched generalizing s with
  | nil => exact h
  | cons e es ih =>
    obtain ⟨he, hes⟩ := (noDelete_cons e es).mp hnd
    cases e with
    | step t fresh ok => exact ih _ hes (invN_stepThread r0 s t fresh ok h)
    | delete => cases he
    | panic t => exact ih _ hes (invN_panicThread r0 s t h)

/-! ## concurrent `MdkSqliteStorage::new` -/

theorem nset_same (s : NSt) {t : Nat} {p : NPc} (h : s.pc t = p) : nset s t p = s := by
  show { s with pc := _ } = s
  congr 1
  funext u
  by_cases e : u = t
  · rw [if_pos e, e, h]
  · exact if_neg e

theorem nrun_invariant {P : NSt → Prop} {fc : Bool} (hstep : ∀ s e, P s → P (nstepEv fc s e)) (s : NSt)
    (sched : List NEv) (h : P s) : P (nrun fc s sched) := by
  induction sched generalizing s with
  | nil => exact h
  | cons e es ih => exact ih _ (hstep s e h)

/-- the outcomes of one step of the `new` call of caller `t` standing at `q`: the branches of `nstep` -/
inductive NStep (fc : Bool) (s : NSt) (t fresh : Nat) : NPc → NSt → Prop
  | idle {q} : NStep fc s t fresh q s
  | created : s.file = .missing → NStep fc s t fresh .pre (nset { s with file := .empty } t .kr)
  | existed : s.file ≠ .missing → NStep fc s t fresh .pre (nset s t .chk)
  | gotKey {k} : s.k.pc t = .done k → NStep fc s t fresh .kr (nset s t (.opening k))
  | keyErr : s.k.pc t = .failed → NStep fc s t fresh .kr (nset s t (.err .keyring))
  | inner : NStep fc s t fresh .kr { s with k := stepThread fc s.k t fresh true }
  | hasKey {k} : s.k.ring = some k → NStep fc s t fresh .chk (nset s t (.opening k))
  | noKey : s.k.ring = none → NStep fc s t fresh .chk (nset s t .probe)
  | probedEnc {k} : s.file = .enc k → NStep fc s t fresh .probe (nset s t (.err .keyMissing))
  | probedOther : (∀ k, s.file ≠ .enc k) → NStep fc s t fresh .probe (nset s t (.err .unencrypted))
  | reopened {k} : s.file = .enc k → NStep fc s t fresh (.opening k) (nset s t (.ok k))
  | wrongKey {k k'} : s.file = .enc k' → k ≠ k' → NStep fc s t fresh (.opening k) (nset s t (.err .wrongKey))
  | initialised {k} : (∀ k', s.file ≠ .enc k') →
      NStep fc s t fresh (.opening k) (nset { s with file := .enc k } t (.ok k))

theorem nstep_cases (fc : Bool) (s : NSt) (t fresh : Nat) : NStep fc s t fresh (s.pc t) (nstep fc s t fresh) := by
  obtain ⟨file, k, pc⟩ := s
  unfold nstep
  dsimp only
  cases pc t with
  | pre =>
    cases file with
    | missing => exact .created rfl
    | _ => exact .existed nofun
  | kr =>
    cases hk : k.pc t with
    | done k' => exact .gotKey hk
    | failed => exact .keyErr hk
    | _ => exact .inner
  | chk =>
    cases hr : k.ring with
    | some k' => exact .hasKey hr
    | none => exact .noKey hr
  | probe =>
    cases file with
    | enc k' => exact .probedEnc rfl
    | _ => exact .probedOther nofun
  | opening k0 =>
    cases file with
    | enc k' =>
      by_cases e : k0 = k'
      · simp only [if_pos e]; exact .reopened (e ▸ rfl)
      · simp only [if_neg e]; exact .wrongKey rfl e
    | _ => exact .initialised nofun
  | _ => exact .idle

theorem npanic_eq (s : NSt) (t : Nat) :
    npanic s t = s ∨ (s.pc t = .kr ∧ npanic s t = nset { s with k := panicThread s.k t } t .panicked) ∨
    npanic s t = nset s t .panicked := by
  unfold npanic
  cases hp : s.pc t with
  | ok | err | panicked => exact .inl rfl
  | kr => exact .inr (.inl ⟨rfl, rfl⟩)
  | _ => exact .inr (.inr rfl)

/-- the key a caller has committed to, if any -/
def NPc.key : NPc → Option Nat
  | .opening k => some k
  | .ok k => some k
  | _ => none

structure NInv (s : NSt) : Prop where
  base : InvN none s.k
  keyIsRing : ∀ t k, (s.pc t).key = some k → s.k.ring = some k
  fileKey : ∀ k, s.file = .enc k → s.k.ring = some k
  noWrongKey : ∀ t, s.pc t ≠ .err .wrongKey
  /-- `Error::Keyring` is returned only when KEY_GENERATION_LOCK is poisoned -/
  keyringErr : ∀ t, s.pc t = .err .keyring → s.k.poisoned = true
  /-- `get_or_create_db_key` fails only by a panic of this call or because the lock is poisoned -/
  failedWhy : ∀ t, s.k.pc t = .failed → s.pc t = .panicked ∨ s.k.poisoned = true
  /-- a caller that has opened did so on a file that is (now) encrypted under its key -/
  okFile : ∀ t k, s.pc t = .ok k → s.file = .enc k

theorem ninv_init (p : Bool) : NInv (ninit p) :=
  ⟨invN_init none p, nofun, nofun, nofun, nofun, nofun, nofun⟩

/-- caller `t` moves to `p`, the file becoming `f` and the keyring part `k'` (which keeps its invariant, the
    other callers, an entry and the poison flag): what has to be checked -/
theorem NInv.move {s : NSt} (h : NInv s) (t : Nat) {p : NPc} {f : NFile} {k' : St}
    (hbase : InvN none k')
    (hpc : ∀ u, u ≠ t → k'.pc u = s.k.pc u)
    (hring : ∀ k, s.k.ring = some k → k'.ring = some k)
    (hpo : s.k.poisoned = true → k'.poisoned = true)
    (hkey : p.key = none ∨ p.key = k'.ring)
    (hfile : ∀ k, f = .enc k → k'.ring = some k)
    (hw : p ≠ .err .wrongKey)
    (he : p = .err .keyring → k'.poisoned = true)
    (hf : k'.pc t = .failed → p = .panicked ∨ k'.poisoned = true)
    (hok : ∀ k, p = .ok k → f = .enc k)
    (hothers : ∀ u k, u ≠ t → s.pc u = .ok k → f = .enc k) :
    NInv (nset { s with file := f, k := k' } t p) := by
  refine ⟨hbase, ?_, hfile, ?_, ?_, ?_, ?_⟩
  · exact forall_update (P := fun _ q => ∀ k, q.key = some k → k'.ring = some k) _ t p
      (fun k c => hkey.elim (fun e => nomatch e.symm.trans c) (fun e => e.symm.trans c))
      (fun u _ k hu => hring k (h.keyIsRing u k hu))
  · exact forall_update (P := fun _ q => q ≠ .err .wrongKey) _ t p hw (fun u _ => h.noWrongKey u)
  · exact forall_update (P := fun _ q => q = .err .keyring → k'.poisoned = true) _ t p he
      (fun u _ hu => hpo (h.keyringErr u hu))
  · exact forall_update (P := fun u q => k'.pc u = .failed → q = .panicked ∨ k'.poisoned = true) _ t p hf
      (fun u e hu => (h.failedWhy u ((hpc u e).symm.trans hu)).imp_right hpo)
  · exact forall_update (P := fun _ q => ∀ k, q = .ok k → f = .enc k) _ t p hok (fun u e k => hothers u k e)

/-- … file and keyring part staying as they are -/
theorem NInv.move' {s : NSt} (h : NInv s) (t : Nat) {p : NPc}
    (hnp : s.pc t = .panicked → p = .panicked)
    (hkey : p.key = none ∨ p.key = s.k.ring)
    (hw : p ≠ .err .wrongKey)
    (he : p = .err .keyring → s.k.poisoned = true)
    (hok : ∀ k, p = .ok k → s.file = .enc k) :
    NInv (nset s t p) :=
  h.move t (f := s.file) (k' := s.k) h.base (fun _ _ => rfl) (fun _ c => c) id hkey h.fileKey hw he
    (fun c => (h.failedWhy t c).imp_left hnp) hok (fun u k _ hu => h.okFile u k hu)

theorem ninv_step (s : NSt) (t fresh : Nat) (h : NInv s) : NInv (nstep true s t fresh) := by
  have hs := nstep_cases true s t fresh
  generalize hq : s.pc t = q, nstep true s t fresh = s' at hs ⊢
  -- a call that moves is not `panicked`
  have alive : q ≠ .panicked → ∀ {p : NPc}, s.pc t = .panicked → p = .panicked :=
    fun hne _ c => absurd (hq.symm.trans c) hne
  cases hs with
  | idle => exact h
  | created hfile =>
    exact h.move t h.base (fun _ _ => rfl) (fun _ c => c) id (.inl rfl) nofun nofun nofun
      (fun c => (h.failedWhy t c).imp_left (alive nofun)) nofun
      (fun u k _ hu => nomatch hfile.symm.trans (h.okFile u k hu))
  | existed | noKey | probedEnc | probedOther => exact h.move' t (alive nofun) (.inl rfl) nofun nofun nofun
  | gotKey hd =>
    exact h.move' t (alive nofun) (.inr (h.base.doneKey t _ hd).symm) nofun nofun nofun
  | keyErr hd =>
    -- the call is not `panicked`, so its `get_or_create_db_key` failed on a poisoned lock
    exact h.move' t (alive nofun) (.inl rfl) nofun
      (fun _ => (h.failedWhy t hd).elim (fun c => nomatch hq.symm.trans c) id) nofun
  | inner =>
    rw [← nset_same { s with k := stepThread true s.k t fresh true } hq]
    refine h.move t (f := s.file) (invN_stepThread none s.k t fresh true h.base)
      (stepThread_frame true s.k t fresh true).2.2
      (fun k c => (stepThread_ring_some true s.k t fresh true h.base.base k c).1)
      (fun c => (stepThread_frame true s.k t fresh true).2.1.trans c) (.inl rfl)
      (fun k c => (stepThread_ring_some true s.k t fresh true h.base.base k (h.fileKey k c)).1) nofun nofun ?_ nofun
      (fun u k _ hu => h.okFile u k hu)
    intro c
    rw [(stepThread_frame true s.k t fresh true).2.1]
    exact (stepThread_failed_why s.k t fresh c).elim (fun c => (h.failedWhy t c).imp_left (alive nofun)) .inr
  | hasKey hr => exact h.move' t (alive nofun) (.inr hr.symm) nofun nofun nofun
  | reopened hfile =>
    exact h.move' t (alive nofun) (.inr (h.fileKey _ hfile).symm) nofun nofun
      (fun k' c => NPc.ok.inj c ▸ hfile)
  | wrongKey hfile hne =>
    -- the caller's key and the file's key are both the keyring entry
    exact absurd (Option.some.inj ((h.keyIsRing t _ (congrArg NPc.key hq)).symm.trans (h.fileKey _ hfile))) hne
  | initialised hfile =>
    have hr := h.keyIsRing t _ (congrArg NPc.key hq)
    exact h.move t h.base (fun _ _ => rfl) (fun _ c => c) id (.inr hr.symm)
      (fun k' c => NFile.enc.inj c ▸ hr) nofun nofun
      (fun c => (h.failedWhy t c).imp_left (alive nofun)) (fun k' c => NPc.ok.inj c ▸ rfl)
      (fun u k' _ hu => absurd (h.okFile u k' hu) (hfile k'))

theorem ninv_panic (s : NSt) (t : Nat) (h : NInv s) : NInv (npanic s t) := by
  rcases npanic_eq s t with e | ⟨_, e⟩ | e <;> rw [e]
  · exact h
  · obtain ⟨f1, _, _, f4, _⟩ := panicThread_keeps s.k t
    exact h.move t (f := s.file) (invN_panicThread none s.k t h.base) f4
      (fun k c => f1.trans c) (panicThread_poisoned_mono s.k t) (.inl rfl) (fun k c => f1.trans (h.fileKey k c)) nofun
      nofun (fun _ => .inl rfl) nofun (fun u k _ hu => h.okFile u k hu)
  · exact h.move' t (fun _ => rfl) (.inl rfl) nofun nofun nofun

theorem ninv_stepEv (s : NSt) (e : NEv) (h : NInv s) : NInv (nstepEv true s e) := by
  cases e with
  | step t f => exact ninv_step s t f h
  | panic t => exact ninv_panic s t h

theorem ninv_run (s : NSt) (sched : List NEv) (h : NInv s) : NInv (nrun true s sched) :=
  nrun_invariant ninv_stepEv s sched h

theorem nrun_append (fc : Bool) (s : NSt) (a b : List NEv) : nrun fc s (a ++ b) = nrun fc (nrun fc s a) b := by
  induction a generalizing s with
  | nil => rfl
  | cons e es ih => simp [nrun, ih]

/-- an event of a `new` run leaves the keyring part alone or is one event of it, a panic only if it is one -/
theorem nstepEv_k (fc : Bool) (s : NSt) (e : NEv) :
    (nstepEv fc s e).k = s.k ∨ ∃ ev, ev.isPanic = e.isPanic ∧ (nstepEv fc s e).k = step fc s.k ev := by
  cases e with
  | step t f =>
    have hs := nstep_cases fc s t f
    simp only [nstepEv]
    generalize s.pc t = q, nstep fc s t f = s' at hs ⊢
    cases hs with
    | inner => exact .inr ⟨.step t f true, rfl, rfl⟩
    | _ => exact .inl rfl
  | panic t =>
    simp only [nstepEv]
    rcases npanic_eq s t with e | ⟨_, e⟩ | e <;> rw [e]
    · exact .inl rfl
    · exact .inr ⟨.panic t, rfl, rfl⟩
    · exact .inl rfl

/-- the poison flag of a `new` run changes only by a panic -/
theorem nrun_no_panic_poisoned (fc : Bool) (s : NSt) (sched : List NEv)
    (hnp : sched.all (fun e => !e.isPanic) = true) : (nrun fc s sched).k.poisoned = s.k.poisoned := by
  induction sched generalizing s with
  | nil => rfl
  | cons e es ih =>
    simp only [List.all_cons, Bool.and_eq_true, Bool.not_eq_true'] at hnp
    refine (ih _ hnp.2).trans ?_
    rcases nstepEv_k fc s e with h1 | ⟨ev, h0, h1⟩
    · rw [h1]
    · rw [h1]; exact step_poisoned fc s.k ev (h0.trans hnp.1)

theorem nfrozen_run (s0 : St) (s : NSt) (sched : List NEv) (h : Frozen s0 s.k) :
    Frozen s0 (nrun true s sched).k := by
  refine nrun_invariant (P := fun s => Frozen s0 s.k) (fun s e h => ?_) s sched h
  rcases nstepEv_k true s e with h1 | ⟨ev, _, h1⟩ <;> rw [h1]
  · exact h
  · exact frozen_step s0 s.k ev h

def NPc.fitsKey (f : Nat) (p : NPc) : Prop := p = .pre ∨ p = .chk ∨ p = .opening f ∨ p = .ok f ∨ p = .panicked

/-- after the creator has finished: the file is encrypted under `f`, the keyring holds `f`, and every
    caller is before its keyring read, or holds `f`, or has panicked -/
structure NDone (f : Nat) (s : NSt) : Prop where
  file : s.file = .enc f
  ring : s.k.ring = some f
  pcs : ∀ u, (s.pc u).fitsKey f

theorem NDone.move {f : Nat} {s : NSt} (h : NDone f s) (t : Nat) (p : NPc) (hp : p.fitsKey f) :
    NDone f (nset s t p) :=
  ⟨h.file, h.ring, forall_update (P := fun _ q => q.fitsKey f) s.pc t p hp (fun u _ => h.pcs u)⟩

theorem ndone_step (fc : Bool) (f : Nat) (s : NSt) (e : NEv) (h : NDone f s) : NDone f (nstepEv fc s e) := by
  cases e with
  | step t fresh =>
    have hs := nstep_cases fc s t fresh
    have hq := h.pcs t
    simp only [nstepEv]
    generalize s.pc t = q, nstep fc s t fresh = s' at hs hq ⊢
    -- what disagrees with file and keyring holding `f`, or with where `t` may stand (`hq`), is impossible
    cases hs with
    | idle => exact h
    | existed => exact h.move t _ (.inr (.inl rfl))
    | created hfile => cases hfile.symm.trans h.file
    | hasKey hr => exact Option.some.inj (hr.symm.trans h.ring) ▸ h.move t _ (.inr (.inr (.inl rfl)))
    | noKey hr => cases hr.symm.trans h.ring
    | reopened hfile => exact NFile.enc.inj (hfile.symm.trans h.file) ▸ h.move t _ (.inr (.inr (.inr (.inl rfl))))
    | wrongKey hfile hne =>
      rcases hq with c | c | c | c | c <;> cases c
      exact absurd (NFile.enc.inj (hfile.symm.trans h.file)).symm hne
    | initialised hfile => exact absurd h.file (hfile f)
    | _ => rcases hq with c | c | c | c | c <;> cases c
  | panic t =>
    simp only [nstepEv]
    rcases npanic_eq s t with e | ⟨hk, e⟩ | e <;> rw [e]
    · exact h
    · rcases h.pcs t with c | c | c | c | c <;> cases c.symm.trans hk
    · exact h.move _ _ (.inr (.inr (.inr (.inr rfl))))

/-- eight steps of a lone creator (lock not poisoned): precreate, read, lock, read, generate, store,
    return, open -/
theorem creator_prefix_done (fc : Bool) (t f : Nat) :
    NDone f (nrun fc ninit (List.replicate 8 (.step t f))) := by
  generalize hs : nrun fc ninit (List.replicate 8 (.step t f)) = s
  simp [List.replicate, nrun, nstepEv, nstep, ninit, nset, init, stepThread, setPc, log] at hs
  subst hs
  refine ⟨rfl, rfl, fun u => ?_⟩
  by_cases e : u = t <;> simp [NPc.fitsKey, e]

end MdkVerif.Keyring

/-! ## projections of the constructor logic (`Model.OpenMatrix`) -/
namespace MdkVerif.OpenMatrix

theorem sqlOpen_ok (f f' : FileSt) (key : Option Key) (d : Nat) (h : sqlOpen f key = .ok (f', d)) :
    (f' = .special ↔ f = .special) ∧ f' ≠ .missing ∧ ∀ k, key = some k → f ≠ .special → f' = .enc k d := by
  -- row by row of the table: an error row contradicts `h`, an `ok` row fixes `f'` and `d`
  cases key <;> cases f <;> simp only [sqlOpen] at h <;> (try split at h) <;> cases h <;> simp [*]

/-- `new_internal_skip_precreate` -/
theorem finishOpen_spec (w : World) (key : Option Key) :
    (finishOpen w key).1.stores = w.stores ∧ (finishOpen w key).1.ring = w.ring ∧ (finishOpen w key).1.dir = w.dir ∧
    (w.file ≠ .special →
      (finishOpen w key).1.file ≠ .special ∧ (w.file ≠ .missing → (finishOpen w key).1.file ≠ .missing) ∧
      ∀ key' d, (finishOpen w key).2 = .opened key' d →
        key' = key ∧ (finishOpen w key).1.fmode = mode600 ∧
        ∀ k, key = some k → (finishOpen w key).1.file = .enc k d) := by
  unfold finishOpen
  cases h : sqlOpen w.file key with
  | error e => exact ⟨rfl, rfl, rfl, fun hs => ⟨hs, id, nofun⟩⟩
  | ok r =>
    obtain ⟨f, d⟩ := r
    obtain ⟨hsp, hm, hk⟩ := sqlOpen_ok _ _ _ _ h
    cases f with
    | special => exact ⟨rfl, rfl, rfl, fun hs => absurd (hsp.mp rfl) hs⟩
    | _ =>
      refine ⟨rfl, rfl, rfl, fun hs => ⟨nofun, fun _ => hm, fun key' d' ho => ?_⟩⟩
      obtain ⟨rfl, rfl⟩ := Outcome.opened.inj ho
      exact ⟨rfl, rfl, fun k e => hk k e hs⟩

theorem precreate_keeps (w : World) :
    (precreate w).1.stores = w.stores ∧ (precreate w).1.ring = w.ring ∧
    ((precreate w).1.file = .special ↔ w.file = .special) ∧
    (w.file ≠ .special → (precreate w).1.dir = some (w.dir.getD mode700) ∧ (precreate w).1.file ≠ .missing) ∧
    (w.file = .special → (precreate w).1 = w) ∧
    (fileExists w.file = true → (precreate w).2 = .existed ∧ (precreate w).1.file = w.file) ∧
    (w.file = .missing → (precreate w).2 = .created ∧ (precreate w).1.file = .empty) := by
  obtain ⟨file, ring, fmode, dir, stores⟩ := w
  cases file <;> cases dir <;> simp [precreate, fileExists]

theorem precreate_existing (w : World) (h : fileExists w.file = true) :
    precreate w = ({ w with dir := some (w.dir.getD mode700) }, .existed) := by
  obtain ⟨file, ring, fmode, dir, stores⟩ := w
  cases file <;> cases dir <;> first | rfl | cases h

theorem getOrCreate_keeps (w : World) (fresh : Key) :
    (getOrCreate w fresh).1.file = w.file ∧ (getOrCreate w fresh).1.dir = w.dir ∧ (getOrCreate w fresh).1.fmode = w.fmode ∧
    w.stores ≤ (getOrCreate w fresh).1.stores ∧ (getOrCreate w fresh).1.stores ≤ w.stores + 1 := by
  obtain ⟨file, ring, fmode, dir, stores⟩ := w
  cases ring <;> simp [getOrCreate, getDbKey]

/-- the world in which a constructor call stops or goes on to open the database: the one `precreate`
    leaves and, for `new` on a path without a file, `get_or_create_db_key` after it -/
inductive Prepared (w : World) (fresh : Key) : Ctor → World → Prop
  | pre {c} : Prepared w fresh c (precreate w).1
  | keyed : (precreate w).2 ≠ .existed → Prepared w fresh .new (getOrCreate (precreate w).1 fresh).1

theorem Prepared.frame {w : World} {fresh : Key} {c : Ctor} {w1 : World} (h : Prepared w fresh c w1) :
    w1.stores ≤ w.stores + 1 ∧ (fileExists w.file = true → w1.stores = w.stores) ∧
    (w.file ≠ .special → w1.file ≠ .special ∧ w1.file ≠ .missing ∧ w1.dir = some (w.dir.getD mode700)) := by
  obtain ⟨hst, _, hsp, hreal, _, hex, _⟩ := precreate_keeps w
  have real : w.file ≠ .special → (precreate w).1.file ≠ .special ∧ (precreate w).1.file ≠ .missing ∧
      (precreate w).1.dir = some (w.dir.getD mode700) :=
    fun hs => ⟨fun c => hs (hsp.mp c), (hreal hs).2, (hreal hs).1⟩
  cases h with
  | pre => exact ⟨hst ▸ Nat.le_succ _, fun _ => hst, real⟩
  | keyed hne =>
    obtain ⟨gfile, gdir, _, _, gle⟩ := getOrCreate_keeps (precreate w).1 fresh
    exact ⟨hst ▸ gle, fun he => absurd (hex he).1 hne, fun hs => gfile ▸ gdir ▸ real hs⟩

/-- how a constructor call ends: refused before anything is touched (`new_with_key` on a plain file), with an
    error in a prepared world, or with `finishOpen` on a prepared world and the key the constructor presents -/
inductive OpenPath (w : World) (fresh : Key) (c : Ctor) : World × Outcome → Prop
  | refused {e} : fileExists w.file = true → OpenPath w fresh c (w, .err e)
  | stopped {w1 e} : Prepared w fresh c w1 → OpenPath w fresh c (w1, .err e)
  | opening {w1 key} : Prepared w fresh c w1 → (c ≠ .unenc → key.isSome = true) →
      OpenPath w fresh c (finishOpen w1 key)

theorem openDb_cases (w : World) (c : Ctor) (fresh : Key) : OpenPath w fresh c (openDb w c fresh) := by
  cases c with
  | unenc => exact .opening .pre (fun h => absurd rfl h)
  | withKey k =>
    simp only [openDb, ctorWithKey]
    split
    · rename_i h; exact .refused (Bool.and_eq_true _ _ ▸ h).1
    · exact .opening .pre (fun _ => rfl)
  | new =>
    simp only [openDb, ctorNew]
    have p1 : Prepared w fresh .new (precreate w).1 := .pre
    have p2 : (precreate w).2 ≠ .existed → Prepared w fresh .new (getOrCreate (precreate w).1 fresh).1 := .keyed
    generalize precreate w = pw at p1 p2 ⊢
    obtain ⟨w1, pr⟩ := pw
    dsimp only at p1 p2
    cases pr with
    | existed =>
      simp only
      cases getDbKey w1.ring with
      | error e => exact .stopped p1
      | ok o =>
        cases o with
        | none => simp only; split <;> exact .stopped p1
        | some k => exact .opening p1 (fun _ => rfl)
    | _ =>
      have p2 := p2 nofun
      simp only
      generalize getOrCreate w1 fresh = g at p2 ⊢
      obtain ⟨w2, r⟩ := g
      cases r with
      | error e => exact .stopped p2
      | ok k => exact .opening p2 (fun _ => rfl)

theorem openDb_spec (w : World) (c : Ctor) (fresh : Nat) :
    (openDb w c fresh).1.stores ≤ w.stores + 1 ∧
    (fileExists w.file = true → (openDb w c fresh).1.stores = w.stores) ∧
    (w.file ≠ .special → (openDb w c fresh).1.file ≠ .special ∧ (openDb w c fresh).1.file ≠ .missing ∧
      ∀ key d, (openDb w c fresh).2 = .opened key d →
        (openDb w c fresh).1.fmode = mode600 ∧ (openDb w c fresh).1.dir = some (w.dir.getD mode700) ∧
        (c ≠ .unenc → ∃ k, key = some k ∧ (openDb w c fresh).1.file = .enc k d)) := by
  have hc := openDb_cases w c fresh
  generalize openDb w c fresh = r at hc ⊢
  cases hc with
  | refused hex => exact ⟨Nat.le_succ _, fun _ => rfl, fun hs => ⟨hs, (fun hm => by rw [hm] at hex; cases hex), nofun⟩⟩
  | stopped hw1 =>
    obtain ⟨hle, hex, hfile⟩ := hw1.frame
    exact ⟨hle, hex, fun hs => ⟨(hfile hs).1, (hfile hs).2.1, nofun⟩⟩
  | @opening w1 key0 hw1 hkey =>
    obtain ⟨hle, hex, hfile⟩ := hw1.frame
    obtain ⟨hst, _, hdir, hfin⟩ := finishOpen_spec w1 key0
    refine ⟨hst ▸ hle, fun h => hst.trans (hex h), fun hs => ?_⟩
    obtain ⟨hsp, hm, hd⟩ := hfile hs
    obtain ⟨h1, h2, h3⟩ := hfin hsp
    refine ⟨h1, h2 hm, fun key d ho => ?_⟩
    obtain ⟨rfl, h4, h5⟩ := h3 key d ho
    refine ⟨h4, hdir.trans hd, fun hc => ?_⟩
    cases key with
    | none => cases hkey hc
    | some k => exact ⟨k, rfl, h5 k rfl⟩

theorem openDb_enc (w : World) (c : Ctor) (fresh k d : Nat) (hf : w.file = .enc k d) :
    (openDb w c fresh).1.file = .enc k d ∧
    (openDb w c fresh).2 =
      match c with
      | .unenc => .err .sqlite
      | .withKey k' => if k' = k then .opened (some k) d else .err .wrongKey
      | .new =>
        match getDbKey w.ring with
        | .error e => .err e
        | .ok none => .err .keyringEntryMissing
        | .ok (some k') => if k' = k then .opened (some k) d else .err .wrongKey := by
  obtain ⟨file, ring, fmode, dir, stores⟩ := w
  simp only at hf; subst hf
  have hp := precreate_existing ⟨.enc k d, ring, fmode, dir, stores⟩ rfl
  cases c with
  | unenc => simp [openDb, ctorUnenc, hp, finishOpen, sqlOpen]
  | withKey k' =>
    by_cases e : k' = k <;> simp [openDb, ctorWithKey, fileExists, isEncrypted, hp, finishOpen, sqlOpen, e]
  | new =>
    simp only [openDb, ctorNew, hp]
    cases getDbKey ring with
    | error e => exact ⟨rfl, rfl⟩
    | ok o =>
      cases o with
      | none => exact ⟨rfl, rfl⟩
      | some k' => by_cases e : k' = k <;> simp [finishOpen, sqlOpen, e]

theorem isOpened_iff (o : Outcome) : o.isOpened = true ↔ ∃ key d, o = .opened key d := by
  cases o <;> simp [Outcome.isOpened]

theorem runOpens_stores_le_one (w : World) (h : List (Ctor × Key))
    (hw : w.file ≠ .special ∧ (w.file = .missing → w.stores = 0) ∧ w.stores ≤ 1) :
    (runOpens w h).stores ≤ 1 := by
  induction h generalizing w with
  | nil => exact hw.2.2
  | cons e es ih =>
    obtain ⟨c, f⟩ := e
    apply ih
    obtain ⟨h1, h2, h3⟩ := hw
    obtain ⟨f1, f2, f3⟩ := openDb_spec w c f
    refine ⟨(f3 h1).1, fun hm => absurd hm (f3 h1).2.1, ?_⟩
    by_cases hm : w.file = .missing
    · have := h2 hm; omega
    · have he : fileExists w.file = true := by
        revert hm h1; cases w.file <;> simp [fileExists]
      rw [f2 he]; exact h3

end MdkVerif.OpenMatrix
