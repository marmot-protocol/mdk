import MdkVerif.Model.Client
import MdkVerif.Proofs.Client
import MdkVerif.Props.C08Inv
/-
  MdkVerif.Proofs.RestartSim — C11 lifted to histories.

  `Sim c c'` relates the client of a run WITHOUT restarts (`c`) to the client of the same run WITH restarts
  inserted anywhere (`c'`): every field is equal except the snapshot manager, whose entries agree in epoch,
  commit id and saved state, and whose timestamp in the restarted run is either the real one or 0 (hydrated).

  Every client operation is a simulation for `Sim` (same result, relation preserved).  The only operation that
  needs a hypothesis is `deliver`, and only when it reaches the MIP-03 comparison of `ProcessMessageWrongEpoch`
  and the restart-free run judges the candidate better: then the restarted run must judge it better as well
  (`isBetter` is monotone in the timestamps: zeroing can only turn `true` into `false`: `isBetter_mono`).
-/
namespace MdkVerif.Client
open MdkVerif

/-! ## the relation -/

/-- entries of the two managers: equal but for the timestamp, which may be 0 (hydrated) in the restarted run -/
def SnapRel (s s' : Snap) : Prop :=
  s'.epoch = s.epoch ∧ s'.commit = s.commit ∧ s'.saved = s.saved ∧ (s'.ts = s.ts ∨ s'.ts = 0)

/-- pointwise `SnapRel` (core Lean has no `List.Forall₂`) -/
inductive MgrRel : List Snap → List Snap → Prop
  | nil : MgrRel [] []
  | cons {s s' : Snap} {m m' : List Snap} : SnapRel s s' → MgrRel m m' → MgrRel (s :: m) (s' :: m')

theorem SnapRel.refl (s : Snap) : SnapRel s s := ⟨rfl, rfl, rfl, Or.inl rfl⟩

theorem MgrRel.refl : ∀ m : List Snap, MgrRel m m
  | [] => .nil
  | s :: m => .cons (SnapRel.refl s) (MgrRel.refl m)

theorem MgrRel.length_eq {m m' : List Snap} (h : MgrRel m m') : m'.length = m.length := by
  induction h with
  | nil => rfl
  | cons _ _ ih => simp [ih]

theorem MgrRel.append {a a' b b' : List Snap} (h1 : MgrRel a a') (h2 : MgrRel b b') : MgrRel (a ++ b) (a' ++ b') := by
  induction h1 with
  | nil => exact h2
  | cons hs _ ih => exact .cons hs ih

theorem MgrRel.drop {m m' : List Snap} (h : MgrRel m m') : ∀ k, MgrRel (m.drop k) (m'.drop k) := by
  induction h with
  | nil => intro k; simp; exact .nil
  | cons hs hm ih =>
    intro k
    cases k with
    | zero => exact .cons hs hm
    | succ k => simpa using ih k

theorem MgrRel.take {m m' : List Snap} (h : MgrRel m m') : ∀ k, MgrRel (m.take k) (m'.take k) := by
  induction h with
  | nil => intro k; simp; exact .nil
  | cons hs hm ih =>
    intro k
    cases k with
    | zero => exact .nil
    | succ k => simpa using .cons hs (ih k)

/-- hydration on the restarted side keeps the relation -/
theorem MgrRel.zero {m m' : List Snap} (h : MgrRel m m') : MgrRel m (m'.map (fun s => { s with ts := 0 })) := by
  induction h with
  | nil => exact .nil
  | cons hs _ ih => exact .cons ⟨hs.1, hs.2.1, hs.2.2.1, Or.inr rfl⟩ ih

theorem MgrRel.zero_both {m m' : List Snap} (h : MgrRel m m') :
    MgrRel (m.map (fun s => { s with ts := 0 })) (m'.map (fun s => { s with ts := 0 })) := by
  induction h with
  | nil => exact .nil
  | cons hs _ ih => exact .cons ⟨hs.1, hs.2.1, hs.2.2.1, Or.inl rfl⟩ ih

theorem MgrRel.findIdx_eq {m m' : List Snap} (h : MgrRel m m') (ep : Nat) : findIdx m' ep = findIdx m ep := by
  induction h with
  | nil => rfl
  | cons hs _ ih => simp only [findIdx, hs.1, ih]

/-- the entry of an epoch: absent in both managers, or present and related -/
theorem MgrRel.find_rel {m m' : List Snap} (h : MgrRel m m') (ep : Nat) :
    (m.find? (·.epoch == ep) = none ∧ m'.find? (·.epoch == ep) = none) ∨
    ∃ s s', m.find? (·.epoch == ep) = some s ∧ m'.find? (·.epoch == ep) = some s' ∧ SnapRel s s' := by
  induction h with
  | nil => exact .inl ⟨rfl, rfl⟩
  | @cons s s' m m' hs _ ih =>
    simp only [List.find?_cons, hs.1]
    cases s.epoch == ep with
    | true => exact .inr ⟨s, s', rfl, rfl, hs⟩
    | false => exact ih

/-- the snapshot of the epoch is hydrated (its timestamp is 0) -/
def hydratedAt (c : Cl) (ep : Nat) : Bool :=
  match c.mgr.find? (·.epoch == ep) with
  | some s => s.ts == 0
  | none => false

/-- the restarted run judges a candidate better exactly when the restart-free run does and the snapshot it is
    compared with still has its timestamp (was taken after the last restart) -/
theorem isBetter_sim_iff (c c' : Cl) (h : MgrRel c.mgr c'.mgr) (ee : Nat) (e : Ev) :
    isBetter c' ee e = true ↔ (isBetter c ee e = true ∧ hydratedAt c' ee = false) := by
  unfold isBetter hydratedAt
  rcases h.find_rel ee with ⟨h1, h2⟩ | ⟨s, s', h1, h2, hs⟩
  · rw [h1, h2]; simp
  · rw [h1, h2]
    obtain ⟨_, hc, _, ht | ht⟩ := hs
    · simp only [ht, hc]
      by_cases h0 : (s.ts == 0) = true
      · simp [h0]
      · simp [h0]
    · simp [ht]

/-- **monotonicity**: a candidate the restarted run judges better is judged better by the restart-free run -/
theorem isBetter_mono (c c' : Cl) (h : MgrRel c.mgr c'.mgr) (ee : Nat) (e : Ev) :
    isBetter c' ee e = true → isBetter c ee e = true := fun hb => ((isBetter_sim_iff c c' h ee e).1 hb).1

/-- after a rollback to an epoch the manager holds no snapshot of that epoch any more: the re-processing
    never compares again -/
theorem find_take_findIdx (m : List Snap) (ep i : Nat) (h : findIdx m ep = some i) :
    (m.take i).find? (·.epoch == ep) = none := by
  induction m generalizing i with
  | nil => simp [findIdx] at h
  | cons s t ih =>
    unfold findIdx at h
    by_cases he : (s.epoch == ep) = true
    · simp only [he, if_true, Option.some.injEq] at h
      subst h; rfl
    · simp only [he, Bool.false_eq_true, if_false, Option.map_eq_some_iff] at h
      obtain ⟨j, hj, rfl⟩ := h
      have he2 : (s.epoch == ep) = false := by simpa using he
      simp only [List.take_succ_cons, List.find?, he2]
      exact ih j hj

theorem isBetter_after_rollback (c c1 : Cl) (ee : Nat) (e : Ev) (h : rollbackTo c ee = some c1) :
    isBetter c1 ee e = false := by
  obtain ⟨i, s, rest, hi, _, _, rfl⟩ := rollbackTo_spec h
  simp only [isBetter, find_take_findIdx c.mgr ee i hi]

/-! ## clients -/

def withMgr (c : Cl) (m : List Snap) : Cl := { c with mgr := m }

/-- restart-free client `c`, restarted client `c'`: equal except for hydrated timestamps in the manager -/
def Sim (c c' : Cl) : Prop := ∃ m', c' = withMgr c m' ∧ MgrRel c.mgr m'

/-- results equal, states related -/
def SimRes (p p' : Cl × Res) : Prop := Sim p.1 p'.1 ∧ p'.2 = p.2

theorem Sim.refl (c : Cl) : Sim c c := ⟨c.mgr, rfl, MgrRel.refl _⟩

theorem Sim.mgr {c c' : Cl} (h : Sim c c') : MgrRel c.mgr c'.mgr := by
  obtain ⟨m', rfl, hm⟩ := h; exact hm

theorem Sim.g {c c' : Cl} (h : Sim c c') : c'.g = c.g := by obtain ⟨m', rfl, _⟩ := h; rfl
theorem Sim.msgs {c c' : Cl} (h : Sim c c') : c'.msgs = c.msgs := by obtain ⟨m', rfl, _⟩ := h; rfl
theorem Sim.recs {c c' : Cl} (h : Sim c c') : c'.recs = c.recs := by obtain ⟨m', rfl, _⟩ := h; rfl
theorem Sim.hasGroup {c c' : Cl} (h : Sim c c') : c'.hasGroup = c.hasGroup := by obtain ⟨m', rfl, _⟩ := h; rfl
theorem Sim.id {c c' : Cl} (h : Sim c c') : c'.id = c.id := by obtain ⟨m', rfl, _⟩ := h; rfl
theorem Sim.persistent {c c' : Cl} (h : Sim c c') : c'.persistent = c.persistent := by obtain ⟨m', rfl, _⟩ := h; rfl
theorem Sim.retention {c c' : Cl} (h : Sim c c') : c'.retention = c.retention := by obtain ⟨m', rfl, _⟩ := h; rfl
theorem Sim.maxPast {c c' : Cl} (h : Sim c c') : c'.maxPast = c.maxPast := by obtain ⟨m', rfl, _⟩ := h; rfl
theorem Sim.proj {c c' : Cl} (h : Sim c c') : proj c' = proj c := by obtain ⟨m', rfl, _⟩ := h; rfl

/-- the managers hold snapshots of the same epochs, of the same commits, with the same saved states -/
theorem MgrRel.map_eq {m m' : List Snap} (h : MgrRel m m') :
    m'.map (fun s => (s.epoch, s.commit, s.saved)) = m.map (fun s => (s.epoch, s.commit, s.saved)) := by
  induction h with
  | nil => rfl
  | cons hs _ ih => simp [hs.1, hs.2.1, hs.2.2.1, ih]

/-! ## building blocks -/

theorem simRes_mk {a a' : Cl} {r : Res} (h : Sim a a') : SimRes (a, r) (a', r) := ⟨h, rfl⟩

theorem sim_recordFailure {c c' : Cl} (h : Sim c c') (n : Nat) (b : Bool) (ep : Option Nat) :
    Sim (recordFailure c n b ep) (recordFailure c' n b ep) := by
  obtain ⟨m', rfl, hm⟩ := h; exact ⟨m', rfl, hm⟩

theorem sim_withSecret {c c' : Cl} (h : Sim c c') : Sim (withSecret c) (withSecret c') := by
  obtain ⟨m', rfl, hm⟩ := h; exact ⟨m', rfl, hm⟩

theorem sim_failUnprocessable {c c' : Cl} (h : Sim c c') (e : Ev) :
    SimRes (failUnprocessable c e) (failUnprocessable c' e) := by
  obtain ⟨m', rfl, hm⟩ := h; exact ⟨⟨m', rfl, hm⟩, rfl⟩

theorem sim_returnOwnCommit {c c' : Cl} (h : Sim c c') : SimRes (returnOwnCommit c) (returnOwnCommit c') := by
  obtain ⟨m', rfl, hm⟩ := h; exact ⟨⟨m', rfl, hm⟩, rfl⟩

theorem sim_storeApp {c c' : Cl} (h : Sim c c') (e : Ev) (mid t k : Nat) :
    SimRes (storeApp c e mid t k) (storeApp c' e mid t k) := by
  obtain ⟨m', rfl, hm⟩ := h; exact ⟨⟨m', rfl, hm⟩, rfl⟩

theorem sim_ownMessage {c c' : Cl} (h : Sim c c') (e : Ev) : SimRes (ownMessage c e) (ownMessage c' e) := by
  obtain ⟨m', rfl, hm⟩ := h
  exact ownMessage_sim e ⟨m', rfl, hm⟩ rfl rfl (fun _ _ => ⟨m', rfl, hm⟩) ⟨m', rfl, hm⟩

theorem sim_notBetterResult {c c' : Cl} (h : Sim c c') (e : Ev) : SimRes (notBetterResult c e) (notBetterResult c' e) := by
  have hr : getRec c' e.n = getRec c e.n := by obtain ⟨m', rfl, _⟩ := h; rfl
  unfold notBetterResult
  rw [hr]
  cases getRec c e.n with
  | none => exact sim_failUnprocessable h e
  | some r => exact ite_elim₂ (fun _ => sim_returnOwnCommit h) (fun _ => sim_failUnprocessable h e)

theorem sim_mgrCreate {c c' : Cl} (h : Sim c c') (ep : Nat) (e : Ev) : Sim (mgrCreate c ep e) (mgrCreate c' ep e) := by
  obtain ⟨m', rfl, hm⟩ := h
  refine ⟨(mgrCreate (withMgr c m') ep e).mgr, rfl, ?_⟩
  have hl := hm.length_eq
  simp only [mgrCreate, withMgr, List.length_append, hl]
  exact (hm.append (.cons (SnapRel.refl _) .nil)).drop _

/-- replacing the group state by the same value on both sides -/
theorem sim_setG {c c' : Cl} (h : Sim c c') (g : GState) : Sim { c with g := g } { c' with g := g } := by
  obtain ⟨m', rfl, hm⟩ := h; exact ⟨m', rfl, hm⟩

theorem sim_setRec {c c' : Cl} (h : Sim c c') (n : Nat) (r : Rec) : Sim (setRec c n r) (setRec c' n r) := by
  obtain ⟨m', rfl, hm⟩ := h; exact ⟨m', rfl, hm⟩

theorem sim_processCommit {c c' : Cl} (h : Sim c c') (e : Ev) (b : Body) (sw : List Nat) :
    SimRes (processCommit c e b sw) (processCommit c' e b sw) := by
  have hg := h.g
  have hid := h.id
  have hmp := h.maxPast
  have hc := sim_mgrCreate h (epochOf c.g.path) e
  have hcg : (mgrCreate c' (epochOf c.g.path) e).g = (mgrCreate c (epochOf c.g.path) e).g := hc.g
  unfold processCommit
  rw [hg, hid, hmp]
  dsimp only
  rw [hcg]
  refine ite_elim₂ (fun _ => simRes_mk (sim_recordFailure h _ _ _)) (fun _ => ?_)
  refine ite_elim₂ (fun _ => simRes_mk ?_) (fun _ => simRes_mk ?_)
  · exact sim_setRec (sim_setG hc _) _ _
  · exact sim_setRec (sim_setG hc _) _ _

theorem sim_rollbackTo {c c' : Cl} (h : Sim c c') (ep : Nat) :
    (rollbackTo c ep = none ∧ rollbackTo c' ep = none) ∨
    ∃ c1 c1', rollbackTo c ep = some c1 ∧ rollbackTo c' ep = some c1' ∧ Sim c1 c1' := by
  obtain ⟨m', rfl, hm⟩ := h
  unfold rollbackTo
  rw [show findIdx (withMgr c m').mgr ep = findIdx c.mgr ep from hm.findIdx_eq ep]
  cases findIdx c.mgr ep with
  | none => exact .inl ⟨rfl, rfl⟩
  | some i =>
    have hd : MgrRel (c.mgr.drop i) ((withMgr c m').mgr.drop i) := hm.drop i
    dsimp only
    generalize c.mgr.drop i = l, (withMgr c m').mgr.drop i = l' at hd
    cases hd with
    | nil => exact .inl ⟨rfl, rfl⟩
    | cons hs _ => exact .inr ⟨_, _, rfl, rfl, m'.take i, by simp only [withMgr, hs.2.2.1], hm.take i⟩

theorem sim_rollbackTo_none {c c' : Cl} (h : Sim c c') (ep : Nat) (hn : rollbackTo c ep = none) : rollbackTo c' ep = none := by
  rcases sim_rollbackTo h ep with ⟨_, h2⟩ | ⟨_, _, h1, _⟩
  · exact h2
  · rw [hn] at h1; cases h1

theorem sim_wrongEpochCommit (retry retry' : Cl → Option (Cl × Res)) {c c' : Cl} (h : Sim c c') (e : Ev) (ee : Nat)
    (hb : isBetter c ee e = true → isBetter c' ee e = true)
    (hretry : ∀ c1 c1', Sim c1 c1' → isBetter c1 ee e = false →
      (retry c1 = none ∧ retry' c1' = none) ∨ ∃ r r', retry c1 = some r ∧ retry' c1' = some r' ∧ SimRes r r') :
    SimRes (wrongEpochCommit retry c e ee) (wrongEpochCommit retry' c' e ee) := by
  unfold wrongEpochCommit
  by_cases hbt : isBetter c ee e = true
  · rw [hbt, hb hbt]
    simp only [if_true]
    rcases sim_rollbackTo h ee with ⟨hr, hr'⟩ | ⟨c1, c1', hr, hr', hs1⟩
    · rw [hr, hr']
      exact sim_notBetterResult h e
    · rw [hr, hr']
      dsimp only
      rcases hretry c1 c1' hs1 (isBetter_after_rollback c c1 ee e hr) with ⟨h1, h2⟩ | ⟨r, r', h1, h2, hrr⟩
      · rw [h1, h2]; exact sim_notBetterResult h e
      · rw [h1, h2]; exact hrr
  · have hf : isBetter c ee e = false := by simpa using hbt
    have hf' : isBetter c' ee e = false := by
      cases hx : isBetter c' ee e with
      | false => rfl
      | true => rw [isBetter_mono c c' h.mgr ee e hx] at hf; cases hf
    rw [hf, hf']
    simp only [Bool.false_eq_true, if_false]
    exact sim_notBetterResult h e

/-! ## `process_message` -/

/-- what the re-processing after a rollback must satisfy (it runs on a state without a snapshot of the epoch) -/
def RetryRel (retry retry' : Cl → Option (Cl × Res)) (ee : Nat) (e : Ev) : Prop :=
  ∀ c1 c1', Sim c1 c1' → isBetter c1 ee e = false →
    (retry c1 = none ∧ retry' c1' = none) ∨ ∃ r r', retry c1 = some r ∧ retry' c1' = some r' ∧ SimRes r r'

theorem sim_step1 (retry retry' : Cl → Option (Cl × Res)) (nx : Nat) {c c' : Cl} (h : Sim c c') (e : Ev)
    (hb : ∀ b sw, e.kind = .commit b sw → routes c e = true → c.g.active = true → outerOpens (withSecret c).g e = true →
          epochOf e.path ≠ epochOf c.g.path →
          isBetter c (epochOf e.path) e = true → isBetter c' (epochOf e.path) e = true)
    (hretry : RetryRel retry retry' (epochOf e.path) e) :
    SimRes (step1 retry nx c e) (step1 retry' nx c' e) := by
  obtain ⟨m', rfl, hm⟩ := h
  have h : Sim c (withMgr c m') := ⟨m', rfl, hm⟩
  have hw := sim_withSecret h
  unfold step1
  -- the conditions are written out for `c`: left to unification they come in terms of `withMgr c m'`
  refine ite_elim₂ (fun _ => simRes_mk (sim_recordFailure h _ _ _)) (fun (hr : ¬(!routes c e) = true) => ?_)
  refine ite_elim₂ (fun _ => simRes_mk (sim_recordFailure h _ _ _)) (fun (ha : ¬(!c.g.active) = true) => ?_)
  dsimp only
  refine ite_elim₂ (fun _ => simRes_mk (sim_recordFailure hw _ _ _))
    (fun (ho : ¬(!outerOpens (withSecret c).g e) = true) => ?_)
  have hr' : routes c e = true := by simpa using hr
  have ha' : c.g.active = true := by simpa using ha
  have ho' : outerOpens (withSecret c).g e = true := by simpa using ho
  cases hk : e.kind with
  | commit b sw =>
    dsimp only
    refine ite_elim₂ (fun (hne : (epochOf e.path != epochOf (withSecret c).g.path) = true) => ?_) (fun _ => ?_)
    · have hne' : epochOf e.path ≠ epochOf c.g.path := by simpa using hne
      exact sim_wrongEpochCommit retry retry' hw e _ (hb b sw hk hr' ha' ho' hne') hretry
    · refine ite_elim₂ (fun _ => ?_) (fun _ => ?_)
      · have hp : (withSecret (withMgr c m')).g.pending = (withSecret c).g.pending := rfl
        rw [hp]
        cases (withSecret c).g.pending with
        | some p => exact simRes_mk (sim_setRec (sim_setG (sim_mgrCreate hw _ e) _) _ _)
        | none => exact sim_ownMessage hw e
      · refine ite_elim₂ (fun _ => sim_failUnprocessable hw e) (fun _ => ?_)
        exact sim_processCommit (sim_setG hw _) e b sw
  | leave =>
    dsimp only
    refine ite_elim₂ (fun _ => sim_failUnprocessable hw e) (fun _ => ?_)
    refine ite_elim₂ (fun _ => sim_ownMessage hw e) (fun _ => ?_)
    refine ite_elim₂ (fun _ => sim_failUnprocessable hw e) (fun _ => ?_)
    refine ite_elim₂ (fun _ => simRes_mk (sim_setRec (sim_setG hw _) _ _)) (fun _ => simRes_mk (sim_setRec (sim_setG hw _) _ _))
  | app mid msgTs tok =>
    dsimp only
    refine ite_elim₂ (fun _ => sim_failUnprocessable hw e) (fun _ => ?_)
    refine ite_elim₂ (fun _ => sim_failUnprocessable hw e) (fun _ => ?_)
    refine ite_elim₂ (fun _ => sim_ownMessage hw e) (fun _ => ?_)
    refine ite_elim₂ (fun _ => sim_failUnprocessable hw e) (fun _ => ?_)
    exact sim_storeApp (sim_setG hw _) e mid msgTs tok

/-- the delivery is not stopped by the dedup check, reaches the MIP-03 comparison of `ProcessMessageWrongEpoch`
    (a commit of another epoch than the receiver's whose wrapper opens) and the candidate is judged better than
    the snapshot of its epoch: the client rolls back for it -/
def winsAt (c : Cl) (e : Ev) : Bool :=
  (match getRec c e.n with
   | some r => !(r.state == 3 || r.state == 4)
   | none => true) &&
  routes c e && c.g.active && outerOpens (withSecret c).g e &&
  (match e.kind with
   | .commit _ _ => epochOf e.path != epochOf c.g.path
   | _ => false) &&
  isBetter c (epochOf e.path) e

/-- the hypothesis of one delivery: a candidate that wins in the restart-free run wins in the restarted run -/
def DeliverOk (c c' : Cl) (e : Ev) : Prop := winsAt c e = true → isBetter c' (epochOf e.path) e = true

theorem sim_deliverOnce (retry retry' : Cl → Option (Cl × Res)) (nx : Nat) {c c' : Cl} (h : Sim c c') (e : Ev)
    (hb : DeliverOk c c' e) (hretry : RetryRel retry retry' (epochOf e.path) e) :
    SimRes (deliverOnce retry nx c e) (deliverOnce retry' nx c' e) := by
  have hrec : getRec c' e.n = getRec c e.n := by obtain ⟨m', rfl, _⟩ := h; rfl
  have hroutes : routes c' e = routes c e := by obtain ⟨m', rfl, _⟩ := h; rfl
  -- past the dedup check (`hd`), a candidate that wins in `step1` is one that `winsAt` describes
  have step (hd : (match getRec c e.n with | some r => !(r.state == 3 || r.state == 4) | none => true) = true) :
      SimRes (step1 retry nx c e) (step1 retry' nx c' e) := by
    refine sim_step1 retry retry' nx h e (fun b sw hk h1 h2 h3 h4 h5 => hb ?_) hretry
    have h4' : (epochOf e.path != epochOf c.g.path) = true := by simpa using h4
    simp only [winsAt, hd, hk, h1, h2, h3, h4', h5, Bool.and_self]
  unfold deliverOnce
  rw [hrec, hroutes]
  cases hr : getRec c e.n with
  | none => exact step (by rw [hr])
  | some r => exact ite_elim₂ (fun _ => simRes_mk h) (fun hs => step (by rw [hr]; simpa using hs))

/-- `process_message` with its re-processing, every fuel -/
theorem sim_deliverN (f nx : Nat) {c c' : Cl} (h : Sim c c') (e : Ev) (hb : DeliverOk c c' e) :
    SimRes (deliverN f nx c e) (deliverN f nx c' e) := by
  induction f generalizing c c' with
  | zero =>
    exact sim_deliverOnce _ _ nx h e hb (fun _ _ _ _ => Or.inl ⟨rfl, rfl⟩)
  | succ f ih =>
    refine sim_deliverOnce _ _ nx h e hb ?_
    intro c1 c1' h1 hnb
    refine Or.inr ⟨_, _, rfl, rfl, ih h1 ?_⟩
    intro hw
    have : isBetter c1 (epochOf e.path) e = true := by
      simp only [winsAt, Bool.and_eq_true] at hw
      exact hw.2
    rw [hnb] at this; cases this

theorem sim_deliver {c c' : Cl} (h : Sim c c') (e : Ev) (nx : Nat) (hb : DeliverOk c c' e) :
    SimRes (deliver c e nx) (deliver c' e nx) := sim_deliverN 3 nx h e hb

/-! ## the local operations: no hypothesis -/

theorem sim_send {c c' : Cl} (h : Sim c c') (n ts idn mid mts tok : Nat) :
    SimRes (send c n ts idn mid mts tok) (send c' n ts idn mid mts tok) := by
  obtain ⟨m', rfl, hm⟩ := h
  have h : Sim c (withMgr c m') := ⟨m', rfl, hm⟩
  unfold send
  refine ite_elim₂ (fun _ => simRes_mk h) (fun _ => ?_)
  refine ite_elim₂ (fun _ => simRes_mk h) (fun _ => ?_)
  refine ite_elim₂ (fun _ => simRes_mk h) (fun _ => ?_)
  exact ⟨⟨m', rfl, hm⟩, rfl⟩

theorem sim_stageCommit {c c' : Cl} (h : Sim c c') (n ts idn : Nat) (b : Body) (na : Bool) :
    SimRes (stageCommit c n ts idn b na) (stageCommit c' n ts idn b na) := by
  obtain ⟨m', rfl, hm⟩ := h
  have h : Sim c (withMgr c m') := ⟨m', rfl, hm⟩
  unfold stageCommit
  refine ite_elim₂ (fun _ => simRes_mk h) (fun _ => ?_)
  refine ite_elim₂ (fun _ => simRes_mk h) (fun _ => ?_)
  refine ite_elim₂ (fun _ => simRes_mk h) (fun _ => ?_)
  refine ite_elim₂ (fun _ => simRes_mk h) (fun _ => ?_)
  exact ⟨⟨m', rfl, hm⟩, rfl⟩

theorem sim_updateData {c c' : Cl} (h : Sim c c') (n ts idn : Nat) (u : DataUpd) :
    SimRes (updateData c n ts idn u) (updateData c' n ts idn u) := by
  have hs := fun b => sim_stageCommit h n ts idn b true
  obtain ⟨m', rfl, hm⟩ := h
  have h : Sim c (withMgr c m') := ⟨m', rfl, hm⟩
  unfold updateData
  refine ite_elim₂ (fun _ => simRes_mk h) (fun _ => ?_)
  refine ite_elim₂ (fun _ => simRes_mk h) (fun _ => ?_)
  exact hs _

theorem sim_removeMembers {c c' : Cl} (h : Sim c c') (n ts idn : Nat) (who : List Nat) :
    SimRes (removeMembers c n ts idn who) (removeMembers c' n ts idn who) := by
  have hs := fun b => sim_stageCommit h n ts idn b true
  obtain ⟨m', rfl, hm⟩ := h
  have h : Sim c (withMgr c m') := ⟨m', rfl, hm⟩
  unfold removeMembers
  refine ite_elim₂ (fun _ => simRes_mk h) (fun _ => ?_)
  refine ite_elim₂ (fun _ => simRes_mk h) (fun _ => ?_)
  refine ite_elim₂ (fun _ => simRes_mk h) (fun _ => ?_)
  refine ite_elim₂ (fun _ => simRes_mk h) (fun _ => ?_)
  exact hs _

theorem sim_addMembers {c c' : Cl} (h : Sim c c') (n ts idn : Nat) (who : List Nat) :
    SimRes (addMembers c n ts idn who) (addMembers c' n ts idn who) := by
  have hs := fun b => sim_stageCommit h n ts idn b true
  obtain ⟨m', rfl, hm⟩ := h
  have h : Sim c (withMgr c m') := ⟨m', rfl, hm⟩
  unfold addMembers
  refine ite_elim₂ (fun _ => simRes_mk h) (fun _ => ?_)
  refine ite_elim₂ (fun _ => simRes_mk h) (fun _ => ?_)
  refine ite_elim₂ (fun _ => simRes_mk h) (fun _ => ?_)
  refine ite_elim₂ (fun _ => simRes_mk h) (fun _ => ?_)
  refine ite_elim₂ (fun _ => simRes_mk h) (fun _ => ?_)
  exact hs _

theorem sim_leave {c c' : Cl} (h : Sim c c') (n ts idn : Nat) : SimRes (leave c n ts idn) (leave c' n ts idn) := by
  obtain ⟨m', rfl, hm⟩ := h
  have h : Sim c (withMgr c m') := ⟨m', rfl, hm⟩
  unfold leave
  refine ite_elim₂ (fun _ => simRes_mk h) (fun _ => ?_)
  refine ite_elim₂ (fun _ => simRes_mk h) (fun _ => ?_)
  refine ite_elim₂ (fun _ => simRes_mk h) (fun _ => ?_)
  exact ⟨⟨m', rfl, hm⟩, rfl⟩

theorem sim_merge {c c' : Cl} (h : Sim c c') : SimRes (merge c) (merge c') := by
  obtain ⟨m', rfl, hm⟩ := h
  have h : Sim c (withMgr c m') := ⟨m', rfl, hm⟩
  unfold merge
  refine ite_elim₂ (fun _ => simRes_mk h) (fun _ => ?_)
  refine ite_elim₂ (fun _ => simRes_mk h) (fun _ => ?_)
  have hp : (withMgr c m').g.pending = c.g.pending := rfl
  rw [hp]
  cases c.g.pending with
  | some p => exact ⟨⟨m', rfl, hm⟩, rfl⟩
  | none => exact ⟨⟨m', rfl, hm⟩, rfl⟩

theorem sim_clear {c c' : Cl} (h : Sim c c') : SimRes (clear c) (clear c') := by
  obtain ⟨m', rfl, hm⟩ := h
  have h : Sim c (withMgr c m') := ⟨m', rfl, hm⟩
  unfold clear
  exact ite_elim₂ (fun _ => simRes_mk h) (fun _ => ⟨⟨m', rfl, hm⟩, rfl⟩)

theorem sim_join {c c' : Cl} (h : Sim c c') (g : GState) : Sim (join c g) (join c' g) := by
  obtain ⟨m', rfl, hm⟩ := h
  unfold join
  have hh : (withMgr c m').hasGroup = c.hasGroup := rfl
  rw [hh]
  split
  · exact ⟨m', rfl, hm⟩
  · exact ⟨[], rfl, .nil⟩

/-- a restart of the restarted run alone keeps the relation -/
theorem sim_restart_right {c c' : Cl} (h : Sim c c') : Sim c (restart c').1 := by
  obtain ⟨m', rfl, hm⟩ := h
  unfold restart
  split
  · exact ⟨_, rfl, hm.zero⟩
  · exact ⟨m', rfl, hm⟩

/-- … and so does a restart of both -/
theorem sim_restart {c c' : Cl} (h : Sim c c') : SimRes (restart c) (restart c') := by
  obtain ⟨m', rfl, hm⟩ := h
  unfold restart
  have hp : (withMgr c m').persistent = c.persistent := rfl
  rw [hp]
  refine ite_elim₂ (fun _ => simRes_mk ⟨_, rfl, ?_⟩) (fun _ => simRes_mk ⟨m', rfl, hm⟩)
  exact hm.zero_both

/-! ## histories -/

open MdkVerif.Props.C08 (COp)

def isRestart : COp → Bool
  | .restart => true
  | _ => false

/-- one API call with its result (`C08.cstep` with the result kept: `rstep_fst`) -/
def rstep (c : Cl) : COp → Cl × Res
  | .deliver e nx => deliver c e nx
  | .send n ts idn mid mts tok => send c n ts idn mid mts tok
  | .stage n ts idn b na => stageCommit c n ts idn b na
  | .data n ts idn u => updateData c n ts idn u
  | .remove n ts idn who => removeMembers c n ts idn who
  | .add n ts idn who => addMembers c n ts idn who
  | .join mp g e => (join c (welcomeState mp g e), .ok)
  | .leave n ts idn => leave c n ts idn
  | .merge => merge c
  | .clear => clear c
  | .restart => restart c

theorem rstep_fst (c : Cl) (o : COp) : (rstep c o).1 = MdkVerif.Props.C08.cstep c o := by cases o <;> rfl

/-- a history: the final client and the results of all calls but the restarts -/
def run (c : Cl) : List COp → Cl × List Res
  | [] => (c, [])
  | o :: os => ((run (rstep c o).1 os).1, if isRestart o then (run (rstep c o).1 os).2 else (rstep c o).2 :: (run (rstep c o).1 os).2)

/-- the same history without its restarts -/
def strip (ops : List COp) : List COp := ops.filter (fun o => !isRestart o)

theorem run_fst (c : Cl) (ops : List COp) : (run c ops).1 = ops.foldl MdkVerif.Props.C08.cstep c := by
  induction ops generalizing c with
  | nil => rfl
  | cons o os ih => simp only [run, List.foldl, ih, rstep_fst]

/-- the call rolls back for a candidate in the restart-free run (`c`) while the snapshot it is compared with is
    hydrated in the restarted run (`c'`): taken before the last restart -/
def staleWin (c c' : Cl) : COp → Bool
  | .deliver e _ => winsAt c e && hydratedAt c' (epochOf e.path)
  | _ => false

/-- no call of the history (`c`: restart-free run, `c'`: run with the restarts) is a stale win -/
def noStaleWin : Cl → Cl → List COp → Bool
  | _, _, [] => true
  | c, c', o :: os =>
    if isRestart o then noStaleWin c (restart c').1 os
    else !staleWin c c' o && noStaleWin (rstep c o).1 (rstep c' o).1 os

/-- the call does not roll back for a better competitor -/
def quietStep (c : Cl) : COp → Bool
  | .deliver e _ => !winsAt c e
  | _ => true

/-- no delivery of the run is judged better against a snapshot -/
def quietRun : Cl → List COp → Bool
  | _, [] => true
  | c, o :: os => quietStep c o && quietRun (rstep c o).1 os

theorem sim_rstep {c c' : Cl} (h : Sim c c') (o : COp) (hs : staleWin c c' o = false) : SimRes (rstep c o) (rstep c' o) := by
  cases o with
  | deliver e nx =>
    refine sim_deliver h e nx ?_
    intro hw
    simp only [staleWin, hw, Bool.true_and] at hs
    refine (isBetter_sim_iff c c' h.mgr _ e).2 ⟨?_, hs⟩
    simp only [winsAt, Bool.and_eq_true] at hw
    exact hw.2
  | send n ts idn mid mts tok => exact sim_send h n ts idn mid mts tok
  | stage n ts idn b na => exact sim_stageCommit h n ts idn b na
  | data n ts idn u => exact sim_updateData h n ts idn u
  | remove n ts idn who => exact sim_removeMembers h n ts idn who
  | add n ts idn who => exact sim_addMembers h n ts idn who
  | join mp g e => exact simRes_mk (sim_join h _)
  | leave n ts idn => exact sim_leave h n ts idn
  | merge => exact sim_merge h
  | clear => exact sim_clear h
  | restart => exact sim_restart h

theorem rstep_restart (c : Cl) (o : COp) (h : isRestart o = true) : rstep c o = restart c := by
  cases o <;> first | rfl | cases h

/-- **the simulation, for histories**: related clients, the restarted one runs `ops`, the other `ops` without the
    restarts; unless a call is a stale win they end related and every call answered the same -/
theorem run_sim (ops : List COp) {c c' : Cl} (h : Sim c c') (hq : noStaleWin c c' ops = true) :
    Sim (run c (strip ops)).1 (run c' ops).1 ∧ (run c' ops).2 = (run c (strip ops)).2 := by
  induction ops generalizing c c' with
  | nil => exact ⟨h, rfl⟩
  | cons o os ih =>
    by_cases hr : isRestart o = true
    · have hst : strip (o :: os) = strip os := by simp [strip, List.filter, hr]
      simp only [noStaleWin, hr, if_true] at hq
      rw [hst]
      simp only [run, hr, if_true, rstep_restart c' o hr]
      exact ih (sim_restart_right h) hq
    · have hr' : isRestart o = false := by simpa using hr
      have hst : strip (o :: os) = o :: strip os := by simp [strip, List.filter, hr']
      simp only [noStaleWin, hr', Bool.false_eq_true, if_false, Bool.and_eq_true, Bool.not_eq_true'] at hq
      rw [hst]
      simp only [run, hr', Bool.false_eq_true, if_false]
      obtain ⟨hs1, hs2⟩ := sim_rstep h o hq.1
      obtain ⟨i1, i2⟩ := ih hs1 hq.2
      exact ⟨i1, by rw [hs2, i2]⟩

/-- a snapshot that wins has a timestamp: on one and the same client no win is stale -/
theorem staleWin_self (c : Cl) (o : COp) : staleWin c c o = false := by
  cases o with
  | deliver e nx =>
    simp only [staleWin]
    cases hw : winsAt c e with
    | false => rfl
    | true =>
      simp only [winsAt, Bool.and_eq_true] at hw
      have := (isBetter_sim_iff c c (MgrRel.refl _) _ e).1 hw.2
      simp [this.2]
  | _ => rfl

/-- a quiet call is no stale win, whatever the restarted client looks like -/
theorem staleWin_of_quiet (c c' : Cl) (o : COp) (h : quietStep c o = true) : staleWin c c' o = false := by
  cases o with
  | deliver e nx =>
    simp only [quietStep, Bool.not_eq_true'] at h
    simp [staleWin, h]
  | _ => rfl

theorem noStaleWin_of_quiet (ops : List COp) (c c' : Cl) (h : quietRun c (strip ops) = true) : noStaleWin c c' ops = true := by
  induction ops generalizing c c' with
  | nil => rfl
  | cons o os ih =>
    by_cases hr : isRestart o = true
    · have hst : strip (o :: os) = strip os := by simp [strip, List.filter, hr]
      rw [hst] at h
      simp only [noStaleWin, hr, if_true]
      exact ih c _ h
    · have hr' : isRestart o = false := by simpa using hr
      have hst : strip (o :: os) = o :: strip os := by simp [strip, List.filter, hr']
      rw [hst] at h
      simp only [quietRun, Bool.and_eq_true] at h
      simp only [noStaleWin, hr', Bool.false_eq_true, if_false, Bool.and_eq_true, Bool.not_eq_true']
      exact ⟨staleWin_of_quiet c c' o h.1, ih _ _ h.2⟩

theorem strip_noRestart (ops : List COp) (h : ∀ o ∈ ops, isRestart o = false) : strip ops = ops := by
  simp only [strip, List.filter_eq_self]
  intro o ho; simp [h o ho]

theorem run_append (c : Cl) (a b : List COp) :
    run c (a ++ b) = ((run (run c a).1 b).1, (run c a).2 ++ (run (run c a).1 b).2) := by
  induction a generalizing c with
  | nil => rfl
  | cons o os ih =>
    simp only [List.cons_append, run, ih]
    split <;> rfl

/-- up to the first restart the two runs are one and the same: nothing is asked of those calls -/
theorem noStaleWin_prefix (pre post : List COp) (c : Cl) (h : ∀ o ∈ pre, isRestart o = false) :
    noStaleWin c c (pre ++ post) = noStaleWin (run c pre).1 (run c pre).1 post := by
  induction pre generalizing c with
  | nil => rfl
  | cons o os ih =>
    have hr : isRestart o = false := h o (List.mem_cons_self ..)
    simp only [List.cons_append, noStaleWin, hr, Bool.false_eq_true, if_false, staleWin_self, Bool.not_false, Bool.true_and, run]
    exact ih _ (fun x hx => h x (List.mem_cons_of_mem _ hx))

end MdkVerif.Client
