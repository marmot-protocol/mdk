import MdkVerif.Model.Ratchet
/-
  Lemmas behind Props/C02Win.lean, in the order of Model/Ratchet.lean.  The ratchet: `recv` branch by branch, the
  invariant `Inv` and what one offer does under it (`recv_spec`), runs, `Sim` (a larger tolerance).  The
  message-secrets store: `PastOK`.  The client: `Chain`, `step1` / `deliver` on one offer, `deliverAll_inside`, `appGens`.
-/
namespace MdkVerif.Ratchet

theorem setFalse_eq_set (i : Nat) (l : List Bool) : setFalse i l = l.set i false := by
  induction l generalizing i with
  | nil => cases i <;> rfl
  | cons b t ih => cases i with
    | zero => rfl
    | succ i => exact congrArg (b :: ·) (ih i)

theorem getElem?_fwd (k : Nat) (past : List Bool) (i : Nat) :
    (false :: (List.replicate k true ++ past))[i]? =
      if i = 0 then some false else if i ≤ k then some true else past[i - (k + 1)]? := by
  rw [List.getElem?_cons, List.getElem?_append, List.getElem?_replicate, List.length_replicate]
  by_cases h0 : i = 0
  · rw [if_pos h0, if_pos h0]
  · rw [if_neg h0, if_neg h0]
    by_cases h : i ≤ k
    · rw [if_pos h, if_pos (by omega), if_pos (by omega)]
    · rw [if_neg h, if_neg (by omega), show i - 1 - k = i - (k + 1) by omega]

def TooFar (F : Nat) (r : Ratchet) (g : Nat) : Prop := r.head < u32Max - F ∧ g > r.head + F
def TooOld (T : Nat) (r : Ratchet) (g : Nat) : Prop := g < r.head ∧ r.head - g > T

instance (F : Nat) (r : Ratchet) (g : Nat) : Decidable (TooFar F r g) := by unfold TooFar; infer_instance
instance (T : Nat) (r : Ratchet) (g : Nat) : Decidable (TooOld T r g) := by unfold TooOld; infer_instance

theorem not_tooFar_iff {F : Nat} {r : Ratchet} {g : Nat} : ¬ TooFar F r g ↔ g ≤ r.head + F ∨ u32Max - F ≤ r.head := by
  unfold TooFar; omega

theorem not_tooOld_iff {T : Nat} {r : Ratchet} {g : Nat} : ¬ TooOld T r g ↔ r.head ≤ g + T := by
  unfold TooOld; omega

theorem recv_tooFar {T F : Nat} {r : Ratchet} {g : Nat} (h : TooFar F r g) : recv T F r g = (r, .tooFarAhead) :=
  if_pos h

theorem recv_tooOld {T F : Nat} {r : Ratchet} {g : Nat} (h1 : ¬ TooFar F r g) (h2 : TooOld T r g) :
    recv T F r g = (r, .tooOld) :=
  (if_neg h1).trans (if_pos h2)

theorem recv_long {T F : Nat} {r : Ratchet} {g : Nat} (h1 : ¬ TooFar F r g) (h2 : ¬ TooOld T r g)
    (h3 : g ≥ r.head) (h4 : g ≥ u32Max) : recv T F r g = (r, .ratchetTooLong) :=
  (if_neg h1).trans <| (if_neg h2).trans <| (if_pos h3).trans (if_pos h4)

theorem recv_fwd {T F : Nat} {r : Ratchet} {g : Nat} (h1 : ¬ TooFar F r g) (h2 : ¬ TooOld T r g)
    (h3 : g ≥ r.head) (h4 : ¬ g ≥ u32Max) :
    recv T F r g = (⟨g + 1, (false :: (List.replicate (g - r.head) true ++ r.past)).take T⟩, .accepted) :=
  (if_neg h1).trans <| (if_neg h2).trans <| (if_pos h3).trans (if_neg h4)

theorem recv_back {T F : Nat} {r : Ratchet} {g : Nat} (h1 : ¬ TooFar F r g) (h2 : ¬ TooOld T r g)
    (h3 : ¬ g ≥ r.head) :
    recv T F r g = takePast r g :=
  (if_neg h1).trans <| (if_neg h2).trans (if_neg h3)

theorem recv_ne_epochGone (T F : Nat) (r : Ratchet) (g : Nat) : (recv T F r g).2 ≠ .epochGone := by
  by_cases h1 : TooFar F r g
  · rw [recv_tooFar h1]; nofun
  by_cases h2 : TooOld T r g
  · rw [recv_tooOld h1 h2]; nofun
  by_cases h3 : g ≥ r.head
  · by_cases h4 : g ≥ u32Max
    · rw [recv_long h1 h2 h3 h4]; nofun
    · rw [recv_fwd h1 h2 h3 h4]; nofun
  · rw [recv_back h1 h2 h3]; unfold takePast; split <;> nofun

def headOf : List Nat → Nat
  | [] => 0
  | a :: A => max (headOf A) (a + 1)

theorem lt_headOf {A : List Nat} {a : Nat} (h : a ∈ A) : a < headOf A := by
  induction A with
  | nil => cases h
  | cons b t ih =>
    simp only [headOf]
    rcases List.mem_cons.1 h with rfl | h
    · omega
    · have := ih h; omega

/-- `A` = the generations accepted so far.  Every accepted generation lies below the head; a generation
    within `T` of the head still has its key material iff it was not accepted. -/
structure Inv (T : Nat) (r : Ratchet) (A : List Nat) : Prop where
  bound : r.head ≤ u32Max
  hd : r.head = headOf A
  slot : ∀ x, x < r.head → r.head - x ≤ T → r.past[r.head - x - 1]? = some (decide (x ∉ A))

theorem Inv.lt {T : Nat} {r : Ratchet} {A : List Nat} (inv : Inv T r A) : ∀ a ∈ A, a < r.head := by
  intro a ha; rw [inv.hd]; exact lt_headOf ha

theorem inv_new (T : Nat) : Inv T Ratchet.new [] :=
  ⟨Nat.zero_le _, rfl, fun _ hx => absurd hx (Nat.not_lt_zero _)⟩

theorem decide_notMem_cons {x g : Nat} (A : List Nat) (e : x ≠ g) : decide (x ∉ g :: A) = decide (x ∉ A) := by
  simp only [List.mem_cons, e, false_or]

theorem inv_fwd {T : Nat} {r : Ratchet} {A : List Nat} (inv : Inv T r A) {g : Nat} (h3 : r.head ≤ g) (h4 : g < u32Max) :
    Inv T ⟨g + 1, (false :: (List.replicate (g - r.head) true ++ r.past)).take T⟩ (g :: A) := by
  refine ⟨h4, by simp only [headOf, ← inv.hd]; omega, fun x hx hT => ?_⟩
  simp only at hx hT ⊢
  rw [List.getElem?_take, if_pos (by omega), getElem?_fwd]
  by_cases e : x = g
  · subst e; rw [if_pos (by omega), decide_eq_false fun h => h List.mem_cons_self]
  rw [if_neg (by omega), decide_notMem_cons A e]
  by_cases hx2 : r.head ≤ x
  · -- a generation the ratchet skipped: its key is kept, and it was never accepted
    rw [if_pos (by omega), decide_eq_true (p := x ∉ A) fun hm => by have := inv.lt x hm; omega]
  · rw [if_neg (by omega), show g + 1 - x - 1 - (g - r.head + 1) = r.head - x - 1 by omega,
      inv.slot x (by omega) (by omega)]

theorem inv_back {T : Nat} {r : Ratchet} {A : List Nat} (inv : Inv T r A) {g : Nat} (hlt : g < r.head) (hT : r.head - g ≤ T) :
    Inv T ⟨r.head, setFalse (r.head - g - 1) r.past⟩ (g :: A) := by
  refine ⟨inv.bound, by simp only [headOf, ← inv.hd]; omega, fun x hx hxT => ?_⟩
  simp only at hx hxT ⊢
  rw [setFalse_eq_set]
  by_cases e : x = g
  · subst e
    have hlen := (List.getElem?_eq_some_iff.1 (inv.slot x hlt hT)).1
    rw [List.getElem?_set_self hlen, decide_eq_false fun h => h List.mem_cons_self]
  · rw [List.getElem?_set_ne (by omega), inv.slot x hx hxT, decide_notMem_cons A e]

theorem recv_spec {T : Nat} (F : Nat) {r : Ratchet} {A : List Nat} (inv : Inv T r A) (g : Nat) :
    ((recv T F r g).2 = .accepted ↔ ¬ TooFar F r g ∧ ¬ TooOld T r g ∧ g < u32Max ∧ g ∉ A) ∧
    ((recv T F r g).2 = .reused ↔ ¬ TooFar F r g ∧ ¬ TooOld T r g ∧ g < r.head ∧ g ∈ A) ∧
    (recv T F r g).2 ≠ .indexOutOfBounds ∧
    (if (recv T F r g).2 = .accepted then Inv T (recv T F r g).1 (g :: A) else (recv T F r g).1 = r) := by
  by_cases h1 : TooFar F r g
  · rw [recv_tooFar h1]
    exact ⟨⟨nofun, fun c => absurd h1 c.1⟩, ⟨nofun, fun c => absurd h1 c.1⟩, nofun, rfl⟩
  by_cases h2 : TooOld T r g
  · rw [recv_tooOld h1 h2]
    exact ⟨⟨nofun, fun c => absurd h2 c.2.1⟩, ⟨nofun, fun c => absurd h2 c.2.1⟩, nofun, rfl⟩
  by_cases h3 : g ≥ r.head
  · have hA : g ∉ A := fun hm => by have := inv.lt g hm; omega
    by_cases h4 : g ≥ u32Max
    · rw [recv_long h1 h2 h3 h4]
      exact ⟨⟨nofun, fun c => absurd c.2.2.1 (Nat.not_lt.2 h4)⟩, ⟨nofun, fun c => absurd c.2.2.2 hA⟩, nofun, rfl⟩
    · rw [recv_fwd h1 h2 h3 h4]
      exact ⟨⟨fun _ => ⟨h1, h2, Nat.not_le.1 h4, hA⟩, fun _ => rfl⟩, ⟨nofun, fun c => absurd c.2.2.2 hA⟩, nofun,
        inv_fwd inv h3 (Nat.not_le.1 h4)⟩
  · have hlt : g < r.head := Nat.not_le.1 h3
    have hT : r.head - g ≤ T := by unfold TooOld at h2; omega
    rw [recv_back h1 h2 h3]; unfold takePast; rw [inv.slot g hlt hT]
    by_cases hA : g ∈ A
    · rw [decide_eq_false fun h => h hA]
      exact ⟨⟨nofun, fun c => absurd hA c.2.2.2⟩, ⟨fun _ => ⟨h1, h2, hlt, hA⟩, fun _ => rfl⟩, nofun, rfl⟩
    · rw [decide_eq_true hA]
      exact ⟨⟨fun _ => ⟨h1, h2, Nat.lt_of_lt_of_le hlt inv.bound, hA⟩, fun _ => rfl⟩,
        ⟨nofun, fun c => absurd c.2.2.2 hA⟩, nofun, inv_back inv hlt hT⟩

theorem recv_accepted_inv {T F : Nat} {r : Ratchet} {A : List Nat} (inv : Inv T r A) {g : Nat}
    (h : (recv T F r g).2 = .accepted) : g ∉ A ∧ Inv T (recv T F r g).1 (g :: A) :=
  ⟨((recv_spec F inv g).1.1 h).2.2.2, (if_pos h).mp (recv_spec F inv g).2.2.2⟩

theorem recv_refused_same {T F : Nat} {r : Ratchet} {A : List Nat} (inv : Inv T r A) {g : Nat}
    (h : (recv T F r g).2 ≠ .accepted) : (recv T F r g).1 = r :=
  (if_neg h).mp (recv_spec F inv g).2.2.2

theorem recv_never_oob {T F : Nat} {r : Ratchet} {A : List Nat} (inv : Inv T r A) (g : Nat) :
    (recv T F r g).2 ≠ .indexOutOfBounds :=
  (recv_spec F inv g).2.2.1

theorem recv_accepted_head {T F : Nat} {r : Ratchet} {A : List Nat} (inv : Inv T r A) {g : Nat}
    (h : (recv T F r g).2 = .accepted) : (recv T F r g).1.head = max r.head (g + 1) := by
  rw [(recv_accepted_inv inv h).2.hd, inv.hd]; rfl

theorem run_cons (T F : Nat) (r : Ratchet) (g : Nat) (l : List Nat) :
    run T F r (g :: l) = ((run T F (recv T F r g).1 l).1, (recv T F r g).2 :: (run T F (recv T F r g).1 l).2) := rfl

theorem acceptedGens_cons (T F : Nat) (r : Ratchet) (g : Nat) (l : List Nat) :
    acceptedGens T F r (g :: l) =
      if (recv T F r g).2 = .accepted then g :: acceptedGens T F (recv T F r g).1 l
      else acceptedGens T F (recv T F r g).1 l := rfl

theorem run_inv {T F : Nat} (l : List Nat) {r : Ratchet} {A : List Nat} (inv : Inv T r A) :
    Inv T (run T F r l).1 ((acceptedGens T F r l).reverse ++ A) := by
  induction l generalizing r A with
  | nil => simpa [run, acceptedGens] using inv
  | cons g l ih =>
    rw [run_cons, acceptedGens_cons]
    by_cases h : (recv T F r g).2 = .accepted
    · have := ih (recv_accepted_inv inv h).2
      simpa [h, List.append_assoc] using this
    · rw [if_neg h]
      have e := recv_refused_same inv h
      rw [e]
      exact ih inv

theorem acceptedGens_nodup {T F : Nat} (l : List Nat) {r : Ratchet} {A : List Nat} (inv : Inv T r A) :
    (acceptedGens T F r l).Nodup ∧ ∀ x ∈ acceptedGens T F r l, x ∉ A := by
  induction l generalizing r A with
  | nil => simp [acceptedGens]
  | cons g l ih =>
    rw [acceptedGens_cons]
    by_cases h : (recv T F r g).2 = .accepted
    · rw [if_pos h]
      obtain ⟨hg, inv'⟩ := recv_accepted_inv inv h
      obtain ⟨nd, nA⟩ := ih inv'
      refine ⟨List.nodup_cons.mpr ⟨fun hm => ?_, nd⟩, ?_⟩
      · exact nA g hm (by simp)
      · intro x hx
        simp only [List.mem_cons] at hx
        rcases hx with rfl | hx
        · exact hg
        · exact fun hxa => nA x hx (by simp [hxa])
    · rw [if_neg h, recv_refused_same inv h]
      exact ih inv

theorem run_inside {T F : Nat} (l : List Nat) {r : Ratchet} {A : List Nat} (inv : Inv T r A)
    (hn : l.Nodup) (hA : ∀ x ∈ l, x ∉ A) (hw : inWin T F r.head l = true) :
    (run T F r l).2 = l.map (fun _ => Verdict.accepted) ∧ acceptedGens T F r l = l := by
  induction l generalizing r A with
  | nil => simp [run, acceptedGens]
  | cons g l ih =>
    simp only [inWin, Bool.and_eq_true, decide_eq_true_eq] at hw
    obtain ⟨⟨⟨h1, h2⟩, h3⟩, h4⟩ := hw
    have hnd := List.nodup_cons.mp hn
    have hacc : (recv T F r g).2 = .accepted :=
      (recv_spec F inv g).1.2 ⟨not_tooFar_iff.2 (.inl h1), not_tooOld_iff.2 h2, h3, hA g List.mem_cons_self⟩
    have inv' := (recv_accepted_inv inv hacc).2
    have hh := recv_accepted_head inv hacc
    have := ih inv' hnd.2 (by
      intro x hx hm
      simp only [List.mem_cons] at hm
      rcases hm with rfl | hm
      · exact hnd.1 hx
      · exact hA x (by simp [hx]) hm) (by rw [hh]; exact h4)
    rw [run_cons, acceptedGens_cons, if_pos hacc, this.1, this.2, hacc]
    simp

/-- the ratchet under the smaller tolerance is the one under the larger tolerance with a shorter queue -/
def Sim (T : Nat) (r r' : Ratchet) : Prop := r.head = r'.head ∧ r.past = r'.past.take T

theorem take_append_take (a b : List Bool) (n : Nat) : (a ++ b.take n).take n = (a ++ b).take n := by
  rw [List.take_append, List.take_append, List.take_take]
  congr 2
  omega

/-- looking a generation up empties its slot, whatever was in it -/
theorem takePast_fst (r : Ratchet) (g : Nat) : (takePast r g).1 = ⟨r.head, r.past.set (r.head - g - 1) false⟩ := by
  unfold takePast
  split
  · next h => rw [List.set_eq_of_length_le (List.getElem?_eq_none_iff.1 h)]
  · rw [setFalse_eq_set]
  · next h => obtain ⟨hl, e⟩ := List.getElem?_eq_some_iff.1 h; rw [← e, List.set_getElem_self]

theorem takePast_accepted (r : Ratchet) (g : Nat) :
    (takePast r g).2 = .accepted ↔ r.past[r.head - g - 1]? = some true := by
  unfold takePast
  split <;> next h => rw [h] <;> simp

theorem sim_step {T T' F F' : Nat} (hT : T ≤ T') (hF : F ≤ F') {r r' : Ratchet} (sim : Sim T r r') (g : Nat)
    (hfar : TooFar F r g → TooFar F' r' g) :
    Sim T (recv T F r g).1 (recv T' F' r' g).1 ∧
    ((recv T F r g).2 = .accepted → (recv T' F' r' g).2 = .accepted) := by
  obtain ⟨hh, hp⟩ := sim
  by_cases f' : TooFar F' r' g
  · have f : TooFar F r g := by unfold TooFar at f' ⊢; omega
    rw [recv_tooFar f, recv_tooFar f']
    exact ⟨⟨hh, hp⟩, nofun⟩
  have f : ¬ TooFar F r g := fun h => f' (hfar h)
  by_cases o' : TooOld T' r' g
  · have o : TooOld T r g := by unfold TooOld at o' ⊢; omega
    rw [recv_tooOld f o, recv_tooOld f' o']
    exact ⟨⟨hh, hp⟩, nofun⟩
  by_cases hge : g ≥ r'.head
  · have o : ¬ TooOld T r g := by unfold TooOld; omega
    by_cases hl : g ≥ u32Max
    · rw [recv_long f o (hh ▸ hge) hl, recv_long f' o' hge hl]
      exact ⟨⟨hh, hp⟩, nofun⟩
    · rw [recv_fwd f o (hh ▸ hge) hl, recv_fwd f' o' hge hl]
      refine ⟨⟨rfl, ?_⟩, fun _ => rfl⟩
      simp only
      rw [hp, hh, List.take_take, Nat.min_eq_left hT]
      exact take_append_take (false :: List.replicate (g - r'.head) true) r'.past T
  · rw [recv_back f' o' hge, takePast_fst, takePast_accepted]
    by_cases o : TooOld T r g
    · -- the slot lies beyond the shorter queue
      rw [recv_tooOld f o]
      refine ⟨⟨hh, ?_⟩, nofun⟩
      have : r.past.length ≤ r'.head - g - 1 := by
        have := List.length_take_le T r'.past; unfold TooOld at o; rw [← hp] at this; omega
      simp only
      rw [List.take_set, ← hp, List.set_eq_of_length_le this]
    · rw [recv_back f o (hh ▸ hge), takePast_fst, takePast_accepted, hp, hh, List.getElem?_take,
        if_pos (by unfold TooOld at o; omega)]
      exact ⟨⟨rfl, List.take_set.symm⟩, id⟩

/-- along the run under the smaller windows, an offer that is too far ahead for `F` is also too far ahead for `F'` -/
def farOK (T F F' : Nat) : Ratchet → List Nat → Prop
  | _, [] => True
  | r, g :: l => (TooFar F r g → TooFar F' r g) ∧ farOK T F F' (recv T F r g).1 l

theorem sim_run {T T' F F' : Nat} (hT : T ≤ T') (hF : F ≤ F') (l : List Nat) {r r' : Ratchet} (sim : Sim T r r')
    (hfar : farOK T F F' r l) :
    ∀ i : Nat, (run T F r l).2[i]? = some Verdict.accepted → (run T' F' r' l).2[i]? = some Verdict.accepted := by
  induction l generalizing r r' with
  | nil => intro i h; simp [run] at h
  | cons g l ih =>
    obtain ⟨h1, h2⟩ := hfar
    have hfar' : TooFar F r g → TooFar F' r' g := by
      intro h; have := h1 h; unfold TooFar at this ⊢; rw [← sim.1]; exact this
    obtain ⟨s', a⟩ := sim_step hT hF sim g hfar'
    intro i h
    rw [run_cons] at h ⊢
    cases i with
    | zero =>
      simp only [List.getElem?_cons_zero, Option.some.injEq] at h ⊢
      exact a h
    | succ i =>
      simp only [List.getElem?_cons_succ] at h ⊢
      exact ih s' h2 i h

theorem farOK_same (T F : Nat) (r : Ratchet) (l : List Nat) : farOK T F F r l := by
  induction l generalizing r with
  | nil => trivial
  | cons g l ih => exact ⟨id, ih _⟩

theorem farOK_of_none {T F F' : Nat} (l : List Nat) {r : Ratchet} (h : Verdict.tooFarAhead ∉ (run T F r l).2) :
    farOK T F F' r l := by
  induction l generalizing r with
  | nil => trivial
  | cons g l ih =>
    rw [run_cons] at h
    simp only [List.mem_cons, not_or] at h
    refine ⟨fun hf => ?_, ih h.2⟩
    rw [recv_tooFar hf] at h
    exact absurd rfl h.1

theorem inWin_mono {T T' F F' : Nat} (hT : T ≤ T') (hF : F ≤ F') (h : Nat) (l : List Nat)
    (hw : inWin T F h l = true) : inWin T' F' h l = true := by
  induction l generalizing h with
  | nil => rfl
  | cons g l ih =>
    simp only [inWin, Bool.and_eq_true, decide_eq_true_eq] at hw ⊢
    obtain ⟨⟨⟨h1, h2⟩, h3⟩, h4⟩ := hw
    exact ⟨⟨⟨by omega, by omega⟩, h3⟩, ih _ h4⟩

theorem tlookup_none_iff {α : Type} (k : Nat) (l : List (Nat × α)) : tlookup k l = none ↔ k ∉ l.map Prod.fst := by
  induction l with
  | nil => simp [tlookup]
  | cons p t ih =>
    obtain ⟨k', v⟩ := p
    by_cases e : k' = k
    · simp [tlookup, e]
    · have : ¬ k = k' := fun h => e h.symm
      simp [tlookup, e, ih, this]

theorem tlookup_tinsert_self {α : Type} (k : Nat) (v : α) (l : List (Nat × α)) : tlookup k (tinsert k v l) = some v := by
  induction l with
  | nil => simp [tinsert, tlookup]
  | cons p t ih =>
    obtain ⟨k', v'⟩ := p
    by_cases e : k' = k
    · simp [tinsert, tlookup, e]
    · simp [tinsert, tlookup, e, ih]

theorem tlookup_tinsert_ne {α : Type} {k k' : Nat} (h : k' ≠ k) (v : α) (l : List (Nat × α)) :
    tlookup k' (tinsert k v l) = tlookup k' l := by
  have hk : ¬ k = k' := fun e => h e.symm
  induction l with
  | nil => simp [tinsert, tlookup, hk]
  | cons p t ih =>
    obtain ⟨k0, v0⟩ := p
    by_cases e : k0 = k
    · subst e; simp [tinsert, tlookup, hk]
    · simp only [tinsert, if_neg e, tlookup]
      by_cases e' : k0 = k'
      · simp [e']
      · simp [e', ih]

theorem tinsert_keys {α : Type} {k : Nat} (v : α) {l : List (Nat × α)} (h : k ∈ l.map Prod.fst) :
    (tinsert k v l).map Prod.fst = l.map Prod.fst := by
  induction l with
  | nil => simp at h
  | cons p t ih =>
    obtain ⟨k0, v0⟩ := p
    by_cases e : k0 = k
    · simp [tinsert, e]
    · have : k ∈ t.map Prod.fst := by
        simp only [List.map_cons, List.mem_cons] at h
        rcases h with h | h
        · exact absurd h.symm e
        · exact h
      simp [tinsert, e, ih this]

/-- the retained past epochs are the last `min P (epoch - e0)` epoch numbers (`e0`: the epoch the store started in) -/
def PastOK (P e0 : Nat) (s : Store) : Prop :=
  e0 ≤ s.epoch ∧
  s.pastTrees.map Prod.fst = List.range' (s.epoch - min P (s.epoch - e0)) (min P (s.epoch - e0))

/-- `PastOK` without `min` and subtraction: the retained epochs are `a, …, a + n - 1 = epoch - 1`, at most `P` of
    them, and they reach back to `e0` unless `P` are held -/
theorem pastOK_iff {P e0 : Nat} {s : Store} : PastOK P e0 s ↔
    ∃ a n, s.pastTrees.map Prod.fst = List.range' a n ∧ a + n = s.epoch ∧ e0 ≤ a ∧ n ≤ P ∧ (n = P ∨ a = e0) := by
  constructor
  · intro ⟨h0, hk⟩
    generalize hn : min P (s.epoch - e0) = n at hk
    have : n ≤ P ∧ n ≤ s.epoch - e0 ∧ (n = P ∨ n = s.epoch - e0) := by omega
    exact ⟨_, n, hk, by omega⟩
  · intro ⟨a, n, hk, h1, h⟩
    obtain rfl : n = min P (s.epoch - e0) := by omega
    obtain rfl := Nat.eq_sub_of_add_eq h1
    exact ⟨by omega, hk⟩

theorem pastOK_init (P e0 : Nat) : PastOK P e0 { epoch := e0, cur := [], pastTrees := [] } :=
  pastOK_iff.2 ⟨e0, 0, rfl, rfl, Nat.le_refl _, Nat.zero_le _, .inr rfl⟩

theorem addPast_keys {P a n : Nat} {l : List (Nat × Tree)} (hk : l.map Prod.fst = List.range' a n) (hn : n ≤ P)
    (t : Tree) :
    (addPast P l (a + n) t).map Prod.fst = if n < P then List.range' a (n + 1) else List.range' (a + 1) n := by
  have hlen : l.length = n := by simpa using congrArg List.length hk
  unfold addPast
  by_cases full : n < P
  · rw [if_neg (by omega), if_neg (by omega), if_pos full, List.map_append, hk, List.range'_concat, Nat.one_mul]; rfl
  · obtain rfl : n = P := by omega
    rw [if_neg full]
    cases n with
    | zero => rw [if_pos rfl, hk]; rfl
    | succ q =>
      rw [if_neg (Nat.succ_ne_zero q), if_pos (by omega), List.map_append, List.map_take, List.map_drop, hk,
        List.drop_range', List.take_of_length_le (by simp), List.range'_concat]
      simp only [List.map_cons, List.map_nil, Nat.add_sub_cancel, Nat.one_mul]
      rw [Nat.add_right_comm a 1 q, Nat.add_assoc a q 1]

theorem pastOK_advance {P e0 : Nat} {s : Store} (h : PastOK P e0 s) : PastOK P e0 (advance P s) := by
  obtain ⟨a, n, hk, h1, h2, h3, h4⟩ := pastOK_iff.1 h
  have hk' := addPast_keys hk h3 s.cur
  rw [h1] at hk'
  refine pastOK_iff.2 ?_
  by_cases full : n < P
  · rw [if_pos full] at hk'
    exact ⟨a, n + 1, hk', by simp only [advance]; omega, h2, full, .inr (by omega)⟩
  · rw [if_neg full] at hk'
    exact ⟨a + 1, n, hk', by simp only [advance]; omega, by omega, h3, .inl (by omega)⟩

/-- **the past-epoch window**: the secrets of epoch `m` are gone iff `m` is more than `P` epochs back
    (or from before the store existed) -/
theorem treeFor_none_iff {P e0 : Nat} {s : Store} (h : PastOK P e0 s) (m : Nat) :
    treeFor s m = none ↔ m < s.epoch ∧ (s.epoch - m > P ∨ m < e0) := by
  obtain ⟨a, n, hk, h⟩ := pastOK_iff.1 h
  unfold treeFor
  by_cases c : m < s.epoch
  · rw [if_pos c, tlookup_none_iff, hk, List.mem_range'_1]; omega
  · rw [if_neg c]; exact ⟨nofun, fun h => absurd h.1 c⟩

theorem pastOK_setTree {P e0 : Nat} {s : Store} (h : PastOK P e0 s) {m : Nat} {t0 : Tree} (hm : treeFor s m = some t0)
    (t : Tree) : PastOK P e0 (setTree s m t) := by
  unfold setTree
  by_cases c : m < s.epoch
  · rw [if_pos c]
    refine ⟨h.1, ?_⟩
    simp only
    have : m ∈ s.pastTrees.map Prod.fst := by
      unfold treeFor at hm; rw [if_pos c] at hm
      by_cases hn : m ∈ s.pastTrees.map Prod.fst
      · exact hn
      · rw [(tlookup_none_iff m _).mpr hn] at hm; cases hm
    rw [tinsert_keys t this]; exact h.2
  · rw [if_neg c]; exact h

theorem mlsRecv_epoch (T F : Nat) (s : Store) (m sender g : Nat) : (mlsRecv T F s m sender g).1.epoch = s.epoch := by
  unfold mlsRecv
  split
  · rfl
  · simp only
    split
    · unfold setTree; split <;> rfl
    · rfl

theorem pastOK_mlsRecv {P e0 : Nat} {s : Store} (h : PastOK P e0 s) (T F m sender g : Nat) :
    PastOK P e0 (mlsRecv T F s m sender g).1 := by
  unfold mlsRecv
  split
  · exact h
  · rename_i t ht
    simp only
    split
    · exact pastOK_setTree h ht _
    · exact h

theorem mlsRecv_accept {T F : Nat} {s : Store} {m sender g : Nat} {t : Tree} (ht : treeFor s m = some t)
    (h : (recv T F ((tlookup sender t).getD Ratchet.new) g).2 = .accepted) :
    mlsRecv T F s m sender g = (setTree s m (tinsert sender (recv T F ((tlookup sender t).getD Ratchet.new) g).1 t), .accepted) := by
  unfold mlsRecv; rw [ht]; simp only; rw [if_pos h, h]

theorem mlsRecv_refuse {T F : Nat} {s : Store} {m sender g : Nat} {t : Tree} (ht : treeFor s m = some t)
    (h : (recv T F ((tlookup sender t).getD Ratchet.new) g).2 ≠ .accepted) :
    mlsRecv T F s m sender g = (s, (recv T F ((tlookup sender t).getD Ratchet.new) g).2) := by
  unfold mlsRecv; rw [ht]; simp only; rw [if_neg h]

theorem treeFor_setTree (s : Store) (m : Nat) (t : Tree) :
    treeFor (setTree s m t) m = some t := by
  by_cases c : m < s.epoch
  · simp [treeFor, setTree, c, tlookup_tinsert_self]
  · simp [treeFor, setTree, c]

theorem setTree_epoch (s : Store) (m : Nat) (t : Tree) : (setTree s m t).epoch = s.epoch := by
  unfold setTree; split <;> rfl

/-- the receiver `c` can open messages of sender `s` from epoch `m`, and `r` is its ratchet for them -/
structure Chain (c : Cl) (m s : Nat) (r : Ratchet) : Prop where
  notOwn : s ≠ c.id
  outer : outerOpens c m = true
  tree : ∃ t, treeFor c.st m = some t ∧ (tlookup s t).getD Ratchet.new = r

theorem deliver_eq_step1 {c : Cl} {w : Msg} (h : ∀ rc, tlookup w.n c.recs = some rc → rc.state ≠ 3) :
    deliver c w = step1 c w := by
  unfold deliver
  split
  · rename_i rc hrc; rw [if_neg (h rc hrc)]
  · rfl

theorem step1_open {c : Cl} {w : Msg} {t : Tree} (ho : outerOpens c w.epoch = true) (ht : treeFor c.st w.epoch = some t) :
    step1 c w =
      if w.sender = c.id then ownMessage c w
      else if (mlsRecv c.cfg.T c.cfg.F c.st w.epoch w.sender w.gen).2 = .accepted then
        storeApp { c with st := (mlsRecv c.cfg.T c.cfg.F c.st w.epoch w.sender w.gen).1 } w
      else (recordFailure c w.n (some c.st.epoch), .unprocessable) := by
  unfold step1; rw [ho, ht]; rfl

theorem ownMessage_created {c : Cl} {w : Msg} {r : Rec} {mid : Nat} {row : Row} (hr : tlookup w.n c.recs = some r)
    (h0 : r.state = 0) (hm : r.mid = some mid) (hrow : findRow mid c.rows = some row) :
    ownMessage c w = ({ c with rows := upsertRow { row with state := 1 } c.rows,
                               recs := tinsert w.n { r with state := 1 } c.recs }, .app mid) := by
  unfold ownMessage; rw [hr]; simp only [if_pos h0, hm, hrow]

theorem ownMessage_notCreated {c : Cl} {w : Msg} {r : Rec} (hr : tlookup w.n c.recs = some r) (h0 : r.state ≠ 0) :
    ownMessage c w = (c, .unprocessable) := by
  unfold ownMessage; rw [hr]; simp only [if_neg h0]

theorem step1_accept {c : Cl} {m s : Nat} {r : Ratchet} (ch : Chain c m s r) (w : Msg) (hs : w.sender = s) (hm : w.epoch = m)
    (hacc : (recv c.cfg.T c.cfg.F r w.gen).2 = .accepted) :
    ∃ c1, step1 c w = (c1, .app w.mid) ∧ Chain c1 m s (recv c.cfg.T c.cfg.F r w.gen).1 ∧
      c1.cfg = c.cfg ∧ c1.id = c.id ∧ c1.joined = c.joined ∧ c1.st.epoch = c.st.epoch ∧
      c1.rows = upsertRow ⟨w.mid, s, 1, c.st.epoch, w.tok⟩ c.rows ∧
      c1.recs = tinsert w.n ⟨1, some c.st.epoch, some w.mid⟩ c.recs := by
  obtain ⟨t, ht, hr⟩ := ch.tree
  subst hs hm hr
  have e := mlsRecv_accept (sender := w.sender) ht hacc
  refine ⟨{ c with st := setTree c.st w.epoch (tinsert w.sender (recv c.cfg.T c.cfg.F ((tlookup w.sender t).getD Ratchet.new) w.gen).1 t), rows := upsertRow ⟨w.mid, w.sender, 1, c.st.epoch, w.tok⟩ c.rows, recs := tinsert w.n ⟨1, some c.st.epoch, some w.mid⟩ c.recs }, ?_, ?_, rfl, rfl, rfl, setTree_epoch .., rfl, rfl⟩
  · rw [step1_open ch.outer ht, if_neg ch.notOwn, e, if_pos rfl]
    simp only [storeApp, setTree_epoch]
  · refine ⟨ch.notOwn, ?_, ⟨_, treeFor_setTree .., by rw [tlookup_tinsert_self]; rfl⟩⟩
    have := ch.outer
    unfold outerOpens at this ⊢
    simpa only [setTree_epoch] using this

theorem step1_refuse {c : Cl} {m s : Nat} {r : Ratchet} (ch : Chain c m s r) (w : Msg) (hs : w.sender = s) (hm : w.epoch = m)
    (hacc : (recv c.cfg.T c.cfg.F r w.gen).2 ≠ .accepted) :
    step1 c w = (recordFailure c w.n (some c.st.epoch), .unprocessable) := by
  obtain ⟨t, ht, hr⟩ := ch.tree
  subst hs hm hr
  rw [step1_open ch.outer ht, if_neg ch.notOwn, mlsRecv_refuse (sender := w.sender) ht hacc, if_neg hacc]

theorem findRow_upsert_self (r : Row) (l : List Row) : findRow r.mid (upsertRow r l) = some r := by
  induction l with
  | nil => simp [upsertRow, findRow]
  | cons a t ih =>
    by_cases e : a.mid = r.mid
    · simp [upsertRow, findRow, e]
    · simp [upsertRow, findRow, e, ih]

theorem findRow_upsert_ne {r : Row} {k : Nat} (h : k ≠ r.mid) (l : List Row) : findRow k (upsertRow r l) = findRow k l := by
  have h' : ¬ r.mid = k := fun e => h e.symm
  induction l with
  | nil => simp [upsertRow, findRow, h']
  | cons a t ih =>
    by_cases e : a.mid = r.mid
    · simp [upsertRow, findRow, e, h']
    · by_cases e2 : a.mid = k
      · subst e2; simp [upsertRow, findRow, e]
      · simp [upsertRow, findRow, e, e2, ih]

theorem opens_of_window {c : Cl} (ok : PastOK c.cfg.P c.joined c.st) {m : Nat}
    (h1 : c.joined ≤ m) (h2 : m ≤ c.st.epoch) (h3 : c.st.epoch - m ≤ c.cfg.P) (h4 : c.st.epoch - m ≤ c.cfg.L) :
    outerOpens c m = true ∧ ∃ t, treeFor c.st m = some t := by
  refine ⟨decide_eq_true ⟨h1, h2, h4⟩, ?_⟩
  cases ht : treeFor c.st m with
  | none => have := (treeFor_none_iff ok m).mp ht; omega
  | some t => exact ⟨t, rfl⟩

theorem chain_of_window {c : Cl} (ok : PastOK c.cfg.P c.joined c.st) {m s : Nat} (hs : s ≠ c.id)
    (h1 : c.joined ≤ m) (h2 : m ≤ c.st.epoch) (h3 : c.st.epoch - m ≤ c.cfg.P) (h4 : c.st.epoch - m ≤ c.cfg.L) :
    ∃ r, Chain c m s r :=
  let ⟨ho, t, ht⟩ := opens_of_window ok h1 h2 h3 h4
  ⟨_, hs, ho, t, ht, rfl⟩

theorem ownMessage_frame (c : Cl) (w : Msg) :
    (ownMessage c w).1.cfg = c.cfg ∧ (ownMessage c w).1.joined = c.joined ∧ (ownMessage c w).1.id = c.id ∧
    (ownMessage c w).1.st = c.st := by
  unfold ownMessage
  repeat' split
  all_goals exact ⟨rfl, rfl, rfl, rfl⟩

theorem step1_frame (c : Cl) (w : Msg) :
    (step1 c w).1.cfg = c.cfg ∧ (step1 c w).1.joined = c.joined ∧ (step1 c w).1.id = c.id ∧
    ((step1 c w).1.st = c.st ∨ (step1 c w).1.st = (mlsRecv c.cfg.T c.cfg.F c.st w.epoch w.sender w.gen).1) := by
  cases ho : outerOpens c w.epoch with
  | false => unfold step1; rw [ho]; exact ⟨rfl, rfl, rfl, .inl rfl⟩
  | true =>
    cases ht : treeFor c.st w.epoch with
    | none => unfold step1; rw [ho, ht]; exact ⟨rfl, rfl, rfl, .inl rfl⟩
    | some t =>
      rw [step1_open ho ht]
      by_cases hid : w.sender = c.id
      · rw [if_pos hid]
        have ⟨h1, h2, h3, h4⟩ := ownMessage_frame c w
        exact ⟨h1, h2, h3, .inl h4⟩
      rw [if_neg hid]
      by_cases hv : (mlsRecv c.cfg.T c.cfg.F c.st w.epoch w.sender w.gen).2 = .accepted
      · rw [if_pos hv]; exact ⟨rfl, rfl, rfl, .inr rfl⟩
      · rw [if_neg hv]; exact ⟨rfl, rfl, rfl, .inl rfl⟩

theorem deliver_cases (c : Cl) (w : Msg) : deliver c w = (c, .unprocessable) ∨ deliver c w = step1 c w := by
  unfold deliver
  cases tlookup w.n c.recs with
  | none => exact .inr rfl
  | some r =>
    by_cases h3 : r.state = 3
    · exact .inl (if_pos h3)
    · exact .inr (if_neg h3)

theorem deliver_frame (c : Cl) (w : Msg) :
    (deliver c w).1.cfg = c.cfg ∧ (deliver c w).1.joined = c.joined ∧ (deliver c w).1.id = c.id ∧
    ((deliver c w).1.st = c.st ∨ (deliver c w).1.st = (mlsRecv c.cfg.T c.cfg.F c.st w.epoch w.sender w.gen).1) := by
  rcases deliver_cases c w with e | e <;> rw [e]
  · exact ⟨rfl, rfl, rfl, .inl rfl⟩
  · exact step1_frame c w

theorem deliverAll_cons (c : Cl) (w : Msg) (ws : List Msg) :
    deliverAll c (w :: ws) = ((deliverAll (deliver c w).1 ws).1, (deliver c w).2 :: (deliverAll (deliver c w).1 ws).2) := rfl

/-- what a burst `ws` of sender `s` and epoch `m`, every offer stored, leaves: `p` is `deliverAll c ws` -/
structure Stored (c : Cl) (m s : Nat) (A : List Nat) (ws : List Msg) (p : Cl × List Res) : Prop where
  res : p.2 = ws.map (fun w => Res.app w.mid)
  chain : ∃ r', Chain p.1 m s r' ∧ Inv c.cfg.T r' ((ws.map (·.gen)).reverse ++ A)
  cfg : p.1.cfg = c.cfg
  epoch : p.1.st.epoch = c.st.epoch
  row : ∀ w ∈ ws, findRow w.mid p.1.rows = some ⟨w.mid, s, 1, c.st.epoch, w.tok⟩
  rowElse : ∀ k, k ∉ ws.map (·.mid) → findRow k p.1.rows = findRow k c.rows
  record : ∀ w ∈ ws, tlookup w.n p.1.recs = some ⟨1, some c.st.epoch, some w.mid⟩
  recordElse : ∀ k, k ∉ ws.map (·.n) → tlookup k p.1.recs = tlookup k c.recs

theorem deliverAll_inside (ws : List Msg) {c : Cl} {m s : Nat} {r : Ratchet} {A : List Nat}
    (ch : Chain c m s r) (inv : Inv c.cfg.T r A)
    (same : ∀ w ∈ ws, w.sender = s ∧ w.epoch = m)
    (gens : (ws.map (·.gen)).Nodup) (hA : ∀ w ∈ ws, w.gen ∉ A)
    (wrappers : (ws.map (·.n)).Nodup) (mids : (ws.map (·.mid)).Nodup)
    (fresh : ∀ w ∈ ws, ∀ rc, tlookup w.n c.recs = some rc → rc.state ≠ 3)
    (hw : inWin c.cfg.T c.cfg.F r.head (ws.map (·.gen)) = true) :
    Stored c m s A ws (deliverAll c ws) := by
  induction ws generalizing c r A with
  | nil => exact ⟨rfl, ⟨r, ch, by simpa using inv⟩, rfl, rfl, by simp, by simp [deliverAll], by simp, by simp [deliverAll]⟩
  | cons w ws ih =>
    simp only [List.map_cons, inWin, Bool.and_eq_true, decide_eq_true_eq] at hw
    obtain ⟨⟨⟨h1, h2⟩, h3⟩, h4⟩ := hw
    simp only [List.map_cons, List.nodup_cons] at gens wrappers mids
    obtain ⟨hs, hm⟩ := same w (by simp)
    have hacc : (recv c.cfg.T c.cfg.F r w.gen).2 = .accepted :=
      (recv_spec c.cfg.F inv w.gen).1.2 ⟨not_tooFar_iff.2 (.inl h1), not_tooOld_iff.2 h2, h3, hA w List.mem_cons_self⟩
    have inv1 := (recv_accepted_inv inv hacc).2
    have hh := recv_accepted_head inv hacc
    obtain ⟨c1, e1, ch1, hcfg, _, _, hep, hrows, hrecs⟩ := step1_accept ch w hs hm hacc
    have ed : deliver c w = (c1, .app w.mid) := by rw [deliver_eq_step1 (fresh w (by simp)), e1]
    have ih' := ih (c := c1) (r := (recv c.cfg.T c.cfg.F r w.gen).1) (A := w.gen :: A) ch1 (by rw [hcfg]; exact inv1)
      (fun x hx => same x (by simp [hx])) gens.2
      (by
        intro x hx hmem
        simp only [List.mem_cons] at hmem
        rcases hmem with e | hmem
        · exact gens.1 (by rw [← e]; exact List.mem_map_of_mem hx)
        · exact hA x (by simp [hx]) hmem)
      wrappers.2 mids.2
      (by
        intro x hx rc hrc
        have hne : x.n ≠ w.n := fun e => wrappers.1 (by rw [← e]; exact List.mem_map_of_mem hx)
        rw [hrecs, tlookup_tinsert_ne hne] at hrc
        exact fresh x (by simp [hx]) rc hrc)
      (by rw [hcfg, hh]; exact h4)
    obtain ⟨r', chr, invr⟩ := ih'.chain
    rw [deliverAll_cons, ed]
    refine ⟨by simp [ih'.res], ⟨r', chr, ?_⟩, by rw [ih'.cfg, hcfg], by rw [ih'.epoch, hep], ?_, ?_, ?_, ?_⟩
    · rw [hcfg] at invr; simpa [List.append_assoc] using invr
    · intro x hx
      simp only [List.mem_cons] at hx
      rcases hx with rfl | hx
      · rw [ih'.rowElse _ mids.1, hrows]
        exact findRow_upsert_self ⟨x.mid, s, 1, c.st.epoch, x.tok⟩ c.rows
      · rw [ih'.row x hx, hep]
    · intro k hk
      simp only [List.map_cons, List.mem_cons, not_or] at hk
      rw [ih'.rowElse k hk.2, hrows]
      exact findRow_upsert_ne hk.1 _
    · intro x hx
      simp only [List.mem_cons] at hx
      rcases hx with rfl | hx
      · rw [ih'.recordElse _ wrappers.1, hrecs]
        exact tlookup_tinsert_self _ _ _
      · rw [ih'.record x hx, hep]
    · intro k hk
      simp only [List.map_cons, List.mem_cons, not_or] at hk
      rw [ih'.recordElse k hk.2, hrecs]
      exact tlookup_tinsert_ne hk.1 _ _

/-- the generations of the deliveries that returned the message -/
def appGens (c : Cl) : List Msg → List Nat
  | [] => []
  | w :: ws => if (deliver c w).2 = .app w.mid then w.gen :: appGens (deliver c w).1 ws else appGens (deliver c w).1 ws

theorem appGens_nodup (ws : List Msg) {c : Cl} {m s : Nat} {r : Ratchet} {A : List Nat}
    (ch : Chain c m s r) (inv : Inv c.cfg.T r A) (same : ∀ w ∈ ws, w.sender = s ∧ w.epoch = m) :
    (appGens c ws).Nodup ∧ ∀ g ∈ appGens c ws, g ∉ A := by
  induction ws generalizing c r A with
  | nil => simp [appGens]
  | cons w ws ih =>
    obtain ⟨hs, hm⟩ := same w (by simp)
    have same' : ∀ x ∈ ws, x.sender = s ∧ x.epoch = m := fun x hx => same x (by simp [hx])
    rcases deliver_cases c w with ed | e
    · -- blocked by a Failed record
      simp only [appGens, ed]
      rw [if_neg nofun]
      exact ih ch inv same'
    by_cases hacc : (recv c.cfg.T c.cfg.F r w.gen).2 = .accepted
    · obtain ⟨c1, e1, ch1, hcfg, _⟩ := step1_accept ch w hs hm hacc
      obtain ⟨hg, inv1⟩ := recv_accepted_inv inv hacc
      obtain ⟨nd, nA⟩ := ih ch1 (by rw [hcfg]; exact inv1) same'
      simp only [appGens, e, e1, if_true]
      refine ⟨List.nodup_cons.mpr ⟨fun hmem => nA _ hmem List.mem_cons_self, nd⟩, fun g hgm => ?_⟩
      rcases List.mem_cons.1 hgm with rfl | hgm
      · exact hg
      · exact fun ha => nA g hgm (List.mem_cons_of_mem _ ha)
    · simp only [appGens, e, step1_refuse ch w hs hm hacc]
      rw [if_neg nofun]
      exact ih ⟨ch.notOwn, ch.outer, ch.tree⟩ inv same'

end MdkVerif.Ratchet
