import MdkVerif.Model.Snapshots
import MdkVerif.Proofs.Ite
import MdkVerif.Proofs.Store
import MdkVerif.Proofs.Sort
/-
  MdkVerif.Proofs.SnapBound — lemmas for the bound on STORED snapshots (C20): the names stored for a
  group are duplicate-free and contained in the manager's queue of that group.
-/
namespace MdkVerif.Snapshots
open MdkVerif MdkVerif.Store List

/-- the snapshot names stored for group `g` -/
def namesOf (l : List Snap) (g : Nat) : List Nat := (l.filter (·.gid == g)).map (·.name)

theorem namesOf_append (l : List Snap) (p : Snap) (g : Nat) :
    namesOf (l ++ [p]) g = namesOf l g ++ (if p.gid == g then [p.name] else []) := by
  simp only [namesOf, List.filter_append, List.map_append]
  by_cases c : (p.gid == g) = true <;> simp [c]

theorem namesOf_dropSnap (l : List Snap) (gid n g : Nat) :
    namesOf (dropSnap gid n l) g = if g = gid then (namesOf l g).filter (· != n) else namesOf l g := by
  simp only [namesOf, dropSnap, List.filter_filter]
  by_cases cg : g = gid
  · subst cg
    simp only [if_true, List.filter_map, List.filter_filter]
    congr 1
    apply List.filter_congr
    intro a _
    by_cases c1 : (a.gid == g) = true <;> by_cases c2 : (a.name == n) = true <;> simp [c1, c2, bne]
  · simp only [cg, if_false]
    congr 1
    apply List.filter_congr
    intro a _
    by_cases c1 : a.gid = g
    · have : ¬ a.gid = gid := by rw [c1]; exact cg
      simp [c1, cg]
    · simp [c1]

theorem namesOf_filter_sublist (l : List Snap) (f : Snap → Bool) (g : Nat) :
    (namesOf (l.filter f) g).Sublist (namesOf l g) := by
  simp only [namesOf]
  apply List.Sublist.map
  rw [List.filter_filter]
  have : (l.filter (fun a => a.gid == g && f a)) = (l.filter (·.gid == g)).filter f := by
    rw [List.filter_filter]; congr 1; funext a; exact Bool.and_comm _ _
  rw [this]
  exact List.filter_sublist

theorem mem_filter_ne {l : List Nat} {n x : Nat} : x ∈ l.filter (· != n) ↔ x ∈ l ∧ x ≠ n := by
  simp [List.mem_filter]

theorem releaseAll_backend (s : Store) (g : Nat) (old : List Meta) : (releaseAll s g old).backend = s.backend := by
  induction old generalizing s with
  | nil => rfl
  | cons e t ih => simp only [releaseAll, List.foldl_cons] at ih ⊢; rw [ih]; rfl

/-- releasing touches only the snapshot table … -/
theorem releaseAll_snaps (s : Store) (g : Nat) (old : List Meta) (g' : Nat) :
    namesOf (releaseAll s g old).snaps g' =
      if g' = g then (namesOf s.snaps g').filter (fun n => !(old.map (·.name)).contains n) else namesOf s.snaps g' := by
  induction old generalizing s with
  | nil =>
    by_cases c : g' = g
    · simp only [releaseAll, List.foldl_nil, c, if_true, List.map_nil, List.contains_nil, Bool.not_false]
      exact (List.filter_eq_self.mpr (fun _ _ => rfl)).symm
    · simp [releaseAll, c]
  | cons e t ih =>
    simp only [releaseAll, List.foldl_cons] at ih ⊢
    rw [ih]
    simp only [snapRelease, namesOf_dropSnap]
    by_cases c : g' = g
    · simp only [c, if_true, List.filter_filter]
      apply List.filter_congr
      intro x _
      by_cases cx : x = e.name <;> simp [cx]
    · simp [c]

theorem mem_releaseAll (s : Store) (g : Nat) (old : List Meta) (x : Nat) :
    x ∈ namesOf (releaseAll s g old).snaps g ↔ x ∈ namesOf s.snaps g ∧ x ∉ old.map (·.name) := by
  rw [releaseAll_snaps]; simp [List.mem_filter]

theorem releaseAll_nodup (s : Store) (g : Nat) (old : List Meta) (g' : Nat) (h : (namesOf s.snaps g').Nodup) :
    (namesOf (releaseAll s g old).snaps g').Nodup := by
  rw [releaseAll_snaps]
  split
  · exact h.sublist List.filter_sublist
  · exact h

/-! ## how the store operations used by the manager change the stored names -/

theorem snapCreate_names (s s' : Store) (g n ts : Nat) (h : snapCreate s g n ts = some s')
    (hnd : ∀ g', (namesOf s.snaps g').Nodup) :
    s'.backend = s.backend ∧ (∀ g', (namesOf s'.snaps g').Nodup) ∧
    (∀ x ∈ namesOf s'.snaps g, x ∈ namesOf s.snaps g ∨ x = n) ∧
    ∀ g', g' ≠ g → namesOf s'.snaps g' = namesOf s.snaps g' := by
  rcases snapCreate_some h with ⟨rfl, _⟩ | rfl
  · exact ⟨rfl, hnd, fun x hx => Or.inl hx, fun _ _ => rfl⟩
  -- the new snapshot replaces the one stored under its name
  have hn : ∀ g', namesOf (dropSnap g n s.snaps ++ [takeSnap s g n ts]) g' =
      if g' = g then (namesOf s.snaps g').filter (· != n) ++ [n] else namesOf s.snaps g' := by
    intro g'
    rw [namesOf_append, namesOf_dropSnap]
    by_cases c : g' = g
    · subst c; simp only [if_true, takeSnap, beq_self_eq_true]
    · have : ((takeSnap s g n ts).gid == g') = false := beq_false_of_ne (fun e => c e.symm)
      simp only [c, if_false, this, Bool.false_eq_true, List.append_nil]
  refine ⟨rfl, fun g' => ?_, fun x hx => ?_, fun g' c => ?_⟩
  · show (namesOf (dropSnap g n s.snaps ++ [takeSnap s g n ts]) g').Nodup
    rw [hn]
    split
    · refine List.nodup_append.mpr ⟨(hnd g').sublist List.filter_sublist, by simp, fun a ha b hb' e => ?_⟩
      exact (mem_filter_ne.mp ha).2 (e.trans (List.mem_singleton.mp hb'))
    · exact hnd g'
  · have hx' : x ∈ namesOf (dropSnap g n s.snaps ++ [takeSnap s g n ts]) g := hx
    rw [hn, if_pos rfl] at hx'
    rcases List.mem_append.mp hx' with hx' | hx'
    · exact Or.inl (mem_filter_ne.mp hx').1
    · exact Or.inr (List.mem_singleton.mp hx')
  · show namesOf (dropSnap g n s.snaps ++ [takeSnap s g n ts]) g' = _
    rw [hn, if_neg c]

/-- the manager knows about group `g`'s stored snapshots: always on memory, after hydration on SQLite -/
def covered (m : Mgr) (g : Nat) : Prop := m.store.backend = .mem ∨ g ∈ m.hydrated

structure SInv (r : Nat) (m : Mgr) : Prop where
  ret : m.retention = r
  nodup : ∀ g, (namesOf m.store.snaps g).Nodup
  sub : ∀ g, covered m g → ∀ n ∈ namesOf m.store.snaps g, n ∈ (m.queue g).map (·.name)
  unc : ∀ g, ¬ covered m g → m.queue g = [] ∧ (namesOf m.store.snaps g).length ≤ r
  bnd : ∀ g, (m.queue g).length ≤ r

/-- hence: at most `r` snapshots are stored for any group -/
theorem SInv.stored_le {r : Nat} {m : Mgr} (h : SInv r m) (g : Nat) : (namesOf m.store.snaps g).length ≤ r := by
  by_cases c : covered m g
  · have := (h.nodup g).length_le_of_subset (h.sub g c)
    rw [List.length_map] at this
    exact Nat.le_trans this (h.bnd g)
  · exact (h.unc g c).2

theorem trim_facts (r : Nat) (s : Store) (g : Nat) (q : List Meta)
    (hnd : ∀ g', (namesOf s.snaps g').Nodup) (hsub : ∀ n ∈ namesOf s.snaps g, n ∈ q.map (·.name)) :
    (∀ g', (namesOf (trim r s g q).1.snaps g').Nodup) ∧
    (∀ n ∈ namesOf (trim r s g q).1.snaps g, n ∈ (trim r s g q).2.map (·.name)) ∧
    (∀ g', g' ≠ g → namesOf (trim r s g q).1.snaps g' = namesOf s.snaps g') ∧
    (trim r s g q).1.backend = s.backend ∧ (trim r s g q).2.length ≤ r := by
  simp only [trim]
  refine ⟨fun g' => releaseAll_nodup _ _ _ _ (hnd g'), ?_, ?_, releaseAll_backend _ _ _, by simp; omega⟩
  · intro n hn
    obtain ⟨h1, h2⟩ := (mem_releaseAll _ _ _ _).mp hn
    have := hsub n h1
    rw [← List.take_append_drop (q.length - r) q, List.map_append, List.mem_append] at this
    rcases this with x | x
    · exact absurd x h2
    · exact x
  · intro g' c
    rw [releaseAll_snaps]; simp [c]

theorem queue_setQueue_self' (m : Mgr) (g : Nat) (q : List Meta) : (m.setQueue g q).queue g = q := by
  simp [Mgr.queue, Mgr.setQueue, alookup_ainsert_self]

/-- re-establishing the invariant after the manager rewrote group `g`'s queue and snapshots -/
theorem sinv_update (r : Nat) (m0 m' : Mgr) (g : Nat) (q' : List Meta) (h0 : SInv r m0)
    (hret : m'.retention = r) (hq : m'.queues = ainsert g q' m0.queues)
    (hback : m'.store.backend = m0.store.backend)
    (hhyd : m'.hydrated = m0.hydrated ∨ m'.hydrated = g :: m0.hydrated)
    (hcov : covered m' g)
    (hnd : ∀ g', (namesOf m'.store.snaps g').Nodup)
    (hsub : ∀ n ∈ namesOf m'.store.snaps g, n ∈ q'.map (·.name))
    (hoth : ∀ g', g' ≠ g → namesOf m'.store.snaps g' = namesOf m0.store.snaps g')
    (hlen : q'.length ≤ r) : SInv r m' := by
  have hqg : m'.queue g = q' := by simp [Mgr.queue, hq, alookup_ainsert_self]
  have hqo : ∀ g', g' ≠ g → m'.queue g' = m0.queue g' := by
    intro g' c; simp [Mgr.queue, hq, alookup_ainsert_ne _ _ _ _ c]
  have hco : ∀ g', g' ≠ g → (covered m' g' ↔ covered m0 g') := by
    intro g' c
    simp only [covered, hback]
    rcases hhyd with e | e
    · rw [e]
    · rw [e]; simp [c]
  refine ⟨hret, hnd, ?_, ?_, ?_⟩
  · intro g' hc n hn
    by_cases c : g' = g
    · subst c; rw [hqg]; exact hsub n hn
    · rw [hqo g' c]; rw [hoth g' c] at hn
      exact h0.sub g' ((hco g' c).mp hc) n hn
  · intro g' hc
    by_cases c : g' = g
    · subst c; exact absurd hcov hc
    · rw [hqo g' c, hoth g' c]
      exact h0.unc g' (fun x => hc ((hco g' c).mpr x))
  · intro g'
    by_cases c : g' = g
    · subst c; rw [hqg]; exact hlen
    · rw [hqo g' c]; exact h0.bnd g'

/-! ## every manager operation keeps the invariant -/

theorem mem_snapListRaw (s : Store) (g n : Nat) :
    n ∈ ((snapListRaw s g).map (fun p => parseName p.1)).map (·.name) ↔ n ∈ namesOf s.snaps g := by
  simp only [List.map_map, snapListRaw, namesOf]
  have hp := (sortBy_perm (fun (a b : Nat × Nat) => decide (a.2 ≤ b.2))
    ((s.snaps.filter (·.gid == g)).map (fun p => (p.name, p.createdAt))))
  constructor
  · intro h
    obtain ⟨x, hx, rfl⟩ := List.mem_map.mp h
    have := hp.mem_iff.mp hx
    obtain ⟨p, hpm, rfl⟩ := List.mem_map.mp this
    exact List.mem_map.mpr ⟨p, hpm, rfl⟩
  · intro h
    obtain ⟨p, hpm, rfl⟩ := List.mem_map.mp h
    exact List.mem_map.mpr ⟨(p.name, p.createdAt), hp.mem_iff.mpr (List.mem_map.mpr ⟨p, hpm, rfl⟩), rfl⟩

theorem hydrate_sinv (r : Nat) (m : Mgr) (g : Nat) (h : SInv r m) : SInv r (hydrate m g) ∧ covered (hydrate m g) g := by
  unfold hydrate
  rcases backend_cases m.store with hb | hb
  · simp only [hb]; exact ⟨h, Or.inl hb⟩
  · simp only [hb]
    by_cases hh : g ∈ m.hydrated
    · simp only [hh, if_true]; exact ⟨h, Or.inr hh⟩
    · simp only [hh, if_false]
      obtain ⟨t1, t2, t3, t4, t5⟩ := trim_facts m.retention m.store g
        (m.queue g ++ (snapListRaw m.store g).map (fun p => parseName p.1)) h.nodup
        (by intro n hn; rw [List.map_append, List.mem_append]; exact Or.inr ((mem_snapListRaw _ _ _).mpr hn))
      refine ⟨?_, Or.inr List.mem_cons_self⟩
      exact sinv_update r m _ g _ h h.ret rfl t4 (Or.inr rfl) (Or.inr List.mem_cons_self) t1 t2 t3 (by rw [← h.ret]; exact t5)

theorem create_sinv (r : Nat) (m : Mgr) (g e c t k : Nat) (h : SInv r m) : SInv r (create m g e c t k).1 := by
  obtain ⟨h1, hc1⟩ := hydrate_sinv r m g h
  unfold create
  simp only
  cases hs : snapCreate (hydrate m g).store g (mkName e c) k with
  | none => exact h1
  | some s' =>
    simp only
    obtain ⟨sb, snd', ssub, soth⟩ := snapCreate_names _ _ _ _ _ hs h1.nodup
    obtain ⟨t1, t2, t3, t4, t5⟩ := trim_facts (hydrate m g).retention s' g
      ((hydrate m g).queue g ++ [{ epoch := e, commit := c, ts := t, name := mkName e c }]) snd'
      (by
        intro n hn
        rw [List.map_append, List.mem_append]
        rcases ssub n hn with x | x
        · exact Or.inl (h1.sub g hc1 n x)
        · exact Or.inr (by simp [x]))
    have hcov : (trim (hydrate m g).retention s' g ((hydrate m g).queue g ++ [{ epoch := e, commit := c, ts := t, name := mkName e c }])).1.backend = .mem ∨ g ∈ (hydrate m g).hydrated := by
      rcases hc1 with x | x
      · exact Or.inl (by rw [t4, sb]; exact x)
      · exact Or.inr x
    exact sinv_update r (hydrate m g) _ g _ h1 h1.ret rfl (t4.trans sb) (Or.inl rfl) hcov t1 t2
      (fun g' cg => by rw [t3 g' cg, soth g' cg]) (by rw [← h1.ret]; exact t5)

theorem isBetter_fst (m : Mgr) (g e t c : Nat) : (isBetter m g e t c).1 = hydrate m g := by
  unfold isBetter
  simp only
  split
  · rfl
  · split
    · rfl
    · split
      · rfl
      · split <;> rfl

theorem findIdx_take (q : List Meta) (e i : Nat) (h : findIdx q e = some i) : findIdx (q.take i) e = none := by
  induction q generalizing i with
  | nil => simp [findIdx] at h
  | cons x t ih =>
    simp only [findIdx] at h
    by_cases c : (x.epoch == e) = true
    · simp only [c, if_true, Option.some.injEq] at h
      subst h; simp [findIdx]
    · have c' : (x.epoch == e) = false := by simpa using c
      simp only [c', Bool.false_eq_true, if_false] at h
      cases hj : findIdx t e with
      | none => simp [hj] at h
      | some j =>
        simp only [hj, Option.map_some, Option.some.injEq] at h
        subst h
        simp only [List.take_succ_cons, findIdx, c', Bool.false_eq_true, if_false, ih j hj, Option.map_none]

theorem mem_of_drop_eq_cons {q : List Meta} {i : Nat} {x : Meta} {later : List Meta} (hd : q.drop i = x :: later) (n : Nat)
    (hn : n ∈ q.map (·.name)) : n ∈ (q.take i).map (·.name) ∨ n = x.name ∨ n ∈ later.map (·.name) := by
  rw [← List.take_append_drop i q, hd, List.map_append, List.mem_append, List.map_cons, List.mem_cons] at hn
  exact hn

theorem rollback_sinv (r : Nat) (m : Mgr) (g e : Nat) (h : SInv r m) : SInv r (rollback m g e).1 := by
  obtain ⟨h1, hc1⟩ := hydrate_sinv r m g h
  unfold rollback
  simp only
  split
  · exact h1
  · rename_i i hi
    split
    · exact h1
    · rename_i x later hd
      cases hs : snapRollback (hydrate m g).store g x.name with
      | none => exact h1
      | some s' =>
        simp only
        -- what the store-level rollback did to the snapshot table
        have hsn : s'.snaps = dropSnap g x.name (hydrate m g).store.snaps ∧ s'.backend = (hydrate m g).store.backend := by
          obtain ⟨p, hf, hr⟩ := snapRollback_some hs
          obtain ⟨_, hpg, hpn⟩ := findSnap_spec hf
          have := restoreFrom_some hr
          rw [hpg, hpn] at this
          exact ⟨this.2, this.1⟩
        have hcov : (releaseAll s' g later).backend = .mem ∨ g ∈ (hydrate m g).hydrated := by
          rcases hc1 with y | y
          · exact Or.inl (by rw [releaseAll_backend, hsn.2]; exact y)
          · exact Or.inr y
        refine sinv_update r (hydrate m g) _ g _ h1 h1.ret rfl (by rw [releaseAll_backend, hsn.2]) (Or.inl rfl) hcov ?_ ?_ ?_ ?_
        · intro g'
          apply releaseAll_nodup
          rw [hsn.1, namesOf_dropSnap]
          split
          · exact (h1.nodup g').sublist List.filter_sublist
          · exact h1.nodup g'
        · intro n hn
          obtain ⟨a1, a2⟩ := (mem_releaseAll _ _ _ _).mp hn
          rw [hsn.1, namesOf_dropSnap] at a1
          simp only [if_true] at a1
          obtain ⟨b1, b2⟩ := mem_filter_ne.mp a1
          rcases mem_of_drop_eq_cons hd n (h1.sub g hc1 n b1) with y | y | y
          · exact y
          · exact absurd y b2
          · exact absurd y a2
        · intro g' cg
          rw [releaseAll_snaps, hsn.1, namesOf_dropSnap]
          simp [cg]
        · simp only [List.length_take]
          exact Nat.le_trans (Nat.min_le_right _ _) (h1.bnd g)

theorem restart_sinv (r : Nat) (m : Mgr) (now ttl : Nat) (h : SInv r m) : SInv r (restart m now ttl) := by
  unfold restart
  rcases backend_cases m.store with hb | hb'
  · simp only [hb]; exact h
  · simp only [hb']
    have hnc : ∀ g, ¬ covered ({ m with queues := [], hydrated := [], store := (snapPrune m.store (now - ttl)).1 } : Mgr) g := by
      intro g hc
      rcases hc with y | y
      · simp only [snapPrune] at y; rw [hb'] at y; cases y
      · cases y
    have hsl : ∀ g, (namesOf (snapPrune m.store (now - ttl)).1.snaps g).Sublist (namesOf m.store.snaps g) := by
      intro g; simp only [snapPrune]; exact namesOf_filter_sublist _ _ _
    refine ⟨h.ret, fun g => (h.nodup g).sublist (hsl g), fun g hc => absurd hc (hnc g), ?_, ?_⟩
    · intro g _
      refine ⟨by simp [Mgr.queue, alookup], ?_⟩
      exact Nat.le_trans (hsl g).length_le (h.stored_le g)
    · intro g; simp [Mgr.queue, alookup]

theorem step_sinv (r : Nat) (m : Mgr) (op : Op) (h : SInv r m) : SInv r (step m op).1 := by
  cases op with
  | create g e c t k => exact create_sinv r m g e c t k h
  | better g e t c => exact (isBetter_fst m g e t c) ▸ (hydrate_sinv r m g h).1
  | rollback g e => exact rollback_sinv r m g e h
  | restart now ttl => exact restart_sinv r m now ttl h
  | list g => exact h
  | saveGroup g n =>
    simp only [step]
    split
    · rename_i s' hs
      have e1 : s'.snaps = m.store.snaps := by rw [saveGroup_some hs]
      have e2 : s'.backend = m.store.backend := by rw [saveGroup_some hs]
      exact ⟨h.ret, by simp only [e1]; exact h.nodup,
        fun g' hc => by simp only [e1]; exact h.sub g' (by rcases hc with y | y; exact Or.inl (by rw [← e2]; exact y); exact Or.inr y),
        fun g' hc => by
          simp only [e1]
          exact h.unc g' (fun x => hc (by rcases x with y | y; exact Or.inl (by show s'.backend = _; rw [e2]; exact y); exact Or.inr y)),
        h.bnd⟩
    · exact h

theorem init_sinv (b : Backend) (r : Nat) : SInv r (init b r) where
  ret := rfl
  nodup := fun _ => List.nodup_nil
  sub := fun _ _ n hn => by simp [init, Store.empty, namesOf] at hn
  unc := fun _ _ => ⟨rfl, Nat.zero_le _⟩
  bnd := fun _ => Nat.zero_le _

theorem run_sinv (r : Nat) (ops : List Op) : ∀ m : Mgr, SInv r m → SInv r (run m ops) :=
  foldl_invariant (step_sinv r) ops

end MdkVerif.Snapshots
