import MdkVerif.Model.Lru
/-
  MdkVerif.Proofs.Lru — lemmas about `Model/Lru.lean`: association lists over any key type, the recency queue, the
  equivalence of the two presentations (keys of the recency-ordered list = the queue), the well-formedness invariant
  of the cache (a fact about its keys, hence about the queue), the eviction lemma, the simulation behind
  `lru_refines_map`.
-/
namespace MdkVerif.Lru
open List

variable {κ α : Type} [DecidableEq κ]

theorem lookup_cons (k k' : κ) (v : α) (r : List (κ × α)) :
    lookup k ((k', v) :: r) = if k' = k then some v else lookup k r := rfl

theorem lookup_front (k k' : κ) (v : α) (r : List (κ × α)) :
    lookup k' ((k, v) :: r) = if k' = k then some v else lookup k' r := by
  rw [lookup_cons]
  by_cases e : k' = k
  · rw [if_pos e, if_pos e.symm]
  · rw [if_neg e, if_neg (fun x => e x.symm)]

theorem erase_cons_eq (k : κ) (b : α) (t : List (κ × α)) : erase k ((k, b) :: t) = erase k t := by
  simp [erase]

theorem erase_cons_ne (k a : κ) (b : α) (t : List (κ × α)) (h : a ≠ k) : erase k ((a, b) :: t) = (a, b) :: erase k t := by
  simp [erase, h]

theorem lookup_erase_self (k : κ) (l : List (κ × α)) : lookup k (erase k l) = none := by
  induction l with
  | nil => rfl
  | cons p t ih =>
    obtain ⟨a, b⟩ := p
    by_cases c : a = k
    · subst c; rw [erase_cons_eq]; exact ih
    · rw [erase_cons_ne k a b t c, lookup_cons, if_neg c]; exact ih

theorem lookup_erase_ne (k k' : κ) (l : List (κ × α)) (h : k' ≠ k) : lookup k' (erase k l) = lookup k' l := by
  induction l with
  | nil => rfl
  | cons p t ih =>
    obtain ⟨a, b⟩ := p
    by_cases c : a = k
    · subst c
      rw [erase_cons_eq, lookup_cons, if_neg (fun e => h e.symm)]; exact ih
    · rw [erase_cons_ne k a b t c, lookup_cons, lookup_cons]
      by_cases c2 : a = k'
      · rw [if_pos c2, if_pos c2]
      · rw [if_neg c2, if_neg c2]; exact ih

theorem insert_cons_eq (k : κ) (v b : α) (t : List (κ × α)) : insert k v ((k, b) :: t) = (k, v) :: t := by
  simp [insert]

theorem insert_cons_ne (k a : κ) (v b : α) (t : List (κ × α)) (h : a ≠ k) :
    insert k v ((a, b) :: t) = (a, b) :: insert k v t := by
  simp [insert, h]

theorem lookup_insert_self (k : κ) (v : α) (l : List (κ × α)) : lookup k (insert k v l) = some v := by
  induction l with
  | nil => simp [insert, lookup]
  | cons p t ih =>
    obtain ⟨a, b⟩ := p
    by_cases c : a = k
    · subst c; rw [insert_cons_eq, lookup_cons, if_pos rfl]
    · rw [insert_cons_ne k a v b t c, lookup_cons, if_neg c]; exact ih

theorem lookup_insert_ne (k k' : κ) (v : α) (l : List (κ × α)) (h : k' ≠ k) :
    lookup k' (insert k v l) = lookup k' l := by
  induction l with
  | nil => simp [insert, lookup, Ne.symm h]
  | cons p t ih =>
    obtain ⟨a, b⟩ := p
    by_cases c : a = k
    · subst c
      rw [insert_cons_eq, lookup_cons, lookup_cons, if_neg (fun e => h e.symm), if_neg (fun e => h e.symm)]
    · rw [insert_cons_ne k a v b t c, lookup_cons, lookup_cons]
      by_cases c2 : a = k'
      · rw [if_pos c2, if_pos c2]
      · rw [if_neg c2, if_neg c2]; exact ih

theorem mem_keys_iff (k : κ) (l : List (κ × α)) : k ∈ keys l ↔ (lookup k l).isSome = true := by
  induction l with
  | nil => simp [keys, lookup]
  | cons p t ih =>
    obtain ⟨a, b⟩ := p
    by_cases c : a = k
    · simp [keys, lookup, c]
    · have : ¬ k = a := fun e => c e.symm
      simp only [keys, List.map_cons, List.mem_cons, this, false_or, lookup_cons, c, if_false]
      exact ih

theorem not_mem_keys_iff (k : κ) (l : List (κ × α)) : k ∉ keys l ↔ lookup k l = none := by
  rw [mem_keys_iff]; cases lookup k l <;> simp

theorem keys_erase (k : κ) (l : List (κ × α)) : keys (erase k l) = (keys l).filter (fun x => decide (x ≠ k)) := by
  induction l with
  | nil => rfl
  | cons p t ih =>
    obtain ⟨a, b⟩ := p
    by_cases c : a = k
    · subst c
      rw [erase_cons_eq, ih]
      simp [keys]
    · rw [erase_cons_ne k a b t c]
      simp only [keys, List.map_cons] at ih ⊢
      rw [ih]
      simp [c]

theorem mem_keys_erase (k x : κ) (l : List (κ × α)) : x ∈ keys (erase k l) ↔ x ∈ keys l ∧ x ≠ k := by
  rw [keys_erase]; simp

theorem nodup_keys_erase (k : κ) (l : List (κ × α)) (h : (keys l).Nodup) : (keys (erase k l)).Nodup := by
  rw [keys_erase]; exact h.sublist List.filter_sublist

theorem keys_dropLast (l : List (κ × α)) : keys l.dropLast = (keys l).dropLast := by
  simp [keys]

theorem getLast?_keys (l : List (κ × α)) : (keys l).getLast? = l.getLast?.map Prod.fst := by
  simp [keys]

/-- in a list without duplicates the last element does not occur in the rest -/
theorem getLast_not_mem_dropLast {β : Type} (l : List β) (h : l.Nodup) (e : β) (he : l.getLast? = some e) :
    e ∉ l.dropLast := by
  obtain ⟨ys, rfl⟩ := List.getLast?_eq_some_iff.mp he
  simp only [List.dropLast_concat]
  intro hm
  have := List.nodup_append.mp h
  exact this.2.2 e hm e (by simp) rfl

theorem mem_dropLast_or_last {β : Type} (l : List β) (x : β) (hx : x ∈ l) :
    x ∈ l.dropLast ∨ l.getLast? = some x := by
  cases hl : l.getLast? with
  | none => simp [List.getLast?_eq_none_iff.mp hl] at hx
  | some e =>
    obtain ⟨ys, rfl⟩ := List.getLast?_eq_some_iff.mp hl
    simp only [List.dropLast_concat]
    simp only [List.mem_append, List.mem_singleton] at hx
    rcases hx with h | h
    · exact Or.inl h
    · exact Or.inr (by rw [h])

theorem lookup_dropLast (l : List (κ × α)) (e : κ × α) (he : l.getLast? = some e) (k : κ) (hk : k ≠ e.1) :
    lookup k l.dropLast = lookup k l := by
  obtain ⟨ys, rfl⟩ := List.getLast?_eq_some_iff.mp he
  simp only [List.dropLast_concat]
  clear he
  induction ys with
  | nil =>
    obtain ⟨a, b⟩ := e
    have : ¬ a = k := fun x => hk x.symm
    simp [lookup, this]
  | cons p t ih =>
    obtain ⟨a, b⟩ := p
    simp only [List.cons_append, lookup_cons, ih]

theorem lookup_last_dropLast (l : List (κ × α)) (h : (keys l).Nodup) (e : κ × α) (he : l.getLast? = some e) :
    lookup e.1 l.dropLast = none := by
  rw [← not_mem_keys_iff, keys_dropLast]
  apply getLast_not_mem_dropLast _ h
  rw [getLast?_keys, he]; rfl

theorem qTouch_none (cap : Nat) (k : κ) (q : List κ) (h : k ∈ q ∨ q.length < cap) : (qTouch cap k q).2 = none := by
  unfold qTouch
  by_cases c : k ∈ q
  · rw [if_pos c]
  · rw [if_neg c]
    have : q.length < cap := by rcases h with h | h; exact absurd h c; exact h
    rw [if_pos this]

theorem qTouch_evicted (cap : Nat) (k : κ) (q : List κ) (e : κ) (h : (qTouch cap k q).2 = some e) :
    k ∉ q ∧ cap ≤ q.length ∧ q.getLast? = some e ∧ (qTouch cap k q).1 = k :: q.dropLast := by
  unfold qTouch at h ⊢
  by_cases c : k ∈ q
  · rw [if_pos c] at h; cases h
  · rw [if_neg c] at h ⊢
    by_cases c2 : q.length < cap
    · rw [if_pos c2] at h; cases h
    · rw [if_neg c2] at h ⊢
      exact ⟨c, by omega, h, rfl⟩

theorem qTouch_nodup (cap : Nat) (k : κ) (q : List κ) (h : q.Nodup) : (qTouch cap k q).1.Nodup := by
  unfold qTouch
  by_cases c : k ∈ q
  · rw [if_pos c]
    exact List.nodup_cons.mpr ⟨by simp, h.sublist List.filter_sublist⟩
  · rw [if_neg c]
    by_cases c2 : q.length < cap
    · rw [if_pos c2]; exact List.nodup_cons.mpr ⟨c, h⟩
    · rw [if_neg c2]
      exact List.nodup_cons.mpr ⟨fun x => c (List.dropLast_subset _ x), h.sublist (List.dropLast_sublist _)⟩

theorem qTouch_length (cap : Nat) (k : κ) (q : List κ) (hq : q.length ≤ cap) (hpos : 0 < cap) :
    (qTouch cap k q).1.length ≤ cap := by
  unfold qTouch
  by_cases c : k ∈ q
  · rw [if_pos c]
    have : (q.filter (fun x => decide (x ≠ k))).length < q.length := by
      have := List.length_filter_lt_length_iff_exists (p := fun x => decide (x ≠ k)) (l := q)
      exact this.mpr ⟨k, c, by simp⟩
    simp only [List.length_cons]; omega
  · rw [if_neg c]
    by_cases c2 : q.length < cap
    · rw [if_pos c2]; simp only [List.length_cons]; omega
    · rw [if_neg c2]; simp only [List.length_cons, List.length_dropLast]; omega

theorem mem_cons_filter_ne {k : κ} {q : List κ} (hk : k ∈ q) (x : κ) :
    x ∈ k :: q.filter (fun y => decide (y ≠ k)) ↔ x ∈ q := by
  simp only [List.mem_cons, List.mem_filter, decide_eq_true_eq]
  constructor
  · rintro (rfl | ⟨h, _⟩)
    · exact hk
    · exact h
  · intro h
    by_cases e : x = k
    · exact Or.inl e
    · exact Or.inr ⟨h, e⟩

/-- membership after a touch (queue without duplicates) -/
theorem mem_qTouch (cap : Nat) (k : κ) (q : List κ) (h : q.Nodup) (x : κ) :
    x ∈ (qTouch cap k q).1 ↔ x = k ∨ (x ∈ q ∧ (qTouch cap k q).2 ≠ some x) := by
  unfold qTouch
  by_cases c : k ∈ q
  · rw [if_pos c, mem_cons_filter_ne c]
    simp only [ne_eq, reduceCtorEq, not_false_eq_true, and_true]
    exact ⟨fun h1 => (Decidable.em (x = k)).imp id fun _ => h1, fun h1 => h1.elim (fun e => e ▸ c) id⟩
  · rw [if_neg c]
    by_cases c2 : q.length < cap
    · rw [if_pos c2]; simp
    · rw [if_neg c2]
      simp only [List.mem_cons, ne_eq]
      constructor
      · rintro (h1 | h1)
        · exact Or.inl h1
        · refine Or.inr ⟨List.dropLast_subset _ h1, fun e => ?_⟩
          exact getLast_not_mem_dropLast q h x e h1
      · rintro (h1 | ⟨h1, h2⟩)
        · exact Or.inl h1
        · rcases mem_dropLast_or_last q x h1 with h3 | h3
          · exact Or.inr h3
          · exact absurd h3 h2

theorem qPromote_nodup (k : κ) (q : List κ) (h : q.Nodup) : (qPromote k q).Nodup := by
  unfold qPromote
  by_cases c : k ∈ q
  · rw [if_pos c]; exact List.nodup_cons.mpr ⟨by simp, h.sublist List.filter_sublist⟩
  · rw [if_neg c]; exact h

theorem mem_qPromote (k : κ) (q : List κ) (x : κ) : x ∈ qPromote k q ↔ x ∈ q := by
  unfold qPromote
  by_cases c : k ∈ q
  · rw [if_pos c]; exact mem_cons_filter_ne c x
  · rw [if_neg c]

theorem qPromote_length (k : κ) (q : List κ) (h : q.Nodup) : (qPromote k q).length = q.length := by
  unfold qPromote
  by_cases c : k ∈ q
  · rw [if_pos c]
    have hp : (k :: q.filter (fun x => decide (x ≠ k))).Perm q := by
      rw [List.perm_ext_iff_of_nodup (List.nodup_cons.mpr ⟨by simp, h.sublist List.filter_sublist⟩) h]
      exact mem_cons_filter_ne c
    exact hp.length_eq
  · rw [if_neg c]

theorem mem_qRemove (k : κ) (q : List κ) (x : κ) : x ∈ qRemove k q ↔ x ∈ q ∧ x ≠ k := by
  simp [qRemove]

theorem qRemove_nodup (k : κ) (q : List κ) (h : q.Nodup) : (qRemove k q).Nodup := h.sublist List.filter_sublist

/-! ## the two presentations are the same cache: keys of the recency-ordered list = the queue -/

theorem keys_put (c : Lru κ α) (k : κ) (v : α) :
    keys (c.put k v).1.items = (qTouch c.cap k (keys c.items)).1 ∧
    (c.put k v).2.map Prod.fst = (qTouch c.cap k (keys c.items)).2 := by
  unfold Lru.put qTouch
  by_cases c1 : (lookup k c.items).isSome = true
  · have hk : k ∈ keys c.items := (mem_keys_iff k _).mpr c1
    rw [if_pos c1, if_pos hk]
    exact ⟨by simp only [keys, List.map_cons]; congr 1; exact keys_erase k _, rfl⟩
  · have hk : k ∉ keys c.items := fun x => c1 ((mem_keys_iff k _).mp x)
    rw [if_neg c1, if_neg hk]
    have hl : (keys c.items).length = c.items.length := by simp [keys]
    by_cases c2 : c.items.length < c.cap
    · rw [if_pos c2, if_pos (by rw [hl]; exact c2)]; exact ⟨rfl, rfl⟩
    · rw [if_neg c2, if_neg (by rw [hl]; exact c2)]
      exact ⟨by simp only [keys, List.map_cons, List.map_dropLast], (getLast?_keys _).symm⟩

theorem keys_get (c : Lru κ α) (k : κ) : keys (c.get k).1.items = qPromote k (keys c.items) := by
  unfold Lru.get qPromote
  cases hl : lookup k c.items with
  | none =>
    have hk : k ∉ keys c.items := (not_mem_keys_iff k _).mpr hl
    rw [if_neg hk]
  | some v =>
    have hk : k ∈ keys c.items := (mem_keys_iff k _).mpr (by simp [hl])
    rw [if_pos hk]
    simp only [keys, List.map_cons]; congr 1; exact keys_erase k _

theorem keys_pop (c : Lru κ α) (k : κ) : keys (c.pop k).1.items = qRemove k (keys c.items) :=
  keys_erase k _

/-! ## the cache invariant: for ALL operation sequences, never more than `cap` entries, keys distinct

  Well-formedness speaks of the keys only, and the keys follow the queue operations (`keys_put`, `keys_get`,
  `keys_pop`): so it is what the queue lemmas above say. -/

theorem step_cap (c : Lru κ α) (o : LOp κ α) : (c.step o).1.cap = c.cap := by
  cases o with
  | get k => simp only [Lru.step, Lru.get]; split <;> rfl
  | peek k => rfl
  | contains k => rfl
  | put k v => simp only [Lru.step, Lru.put]; split; rfl; split <;> rfl
  | pop k => rfl

theorem run_cap (c : Lru κ α) (ops : List (LOp κ α)) : (c.run ops).cap = c.cap := by
  induction ops generalizing c with
  | nil => rfl
  | cons o os ih => exact (ih _).trans (step_cap c o)

theorem wf_of_keys {c c' : Lru κ α} (h : c.WF) (hcap : c'.cap = c.cap) (hnd : (keys c'.items).Nodup)
    (hlen : (keys c'.items).length ≤ c.cap) : c'.WF :=
  ⟨hcap ▸ h.pos, by rw [hcap, ← List.length_map (f := Prod.fst)]; exact hlen, hnd⟩

theorem wf_get (c : Lru κ α) (h : c.WF) (k : κ) : (c.get k).1.WF := by
  refine wf_of_keys h (step_cap c (.get k)) ?_ ?_
  · rw [keys_get]; exact qPromote_nodup k _ h.nodup
  · rw [keys_get, qPromote_length k _ h.nodup, keys, List.length_map]; exact h.size

theorem keys_getMod (c : Lru κ α) (k : κ) (f : α → α) : keys (c.getMod k f).items = keys (c.get k).1.items := by
  unfold Lru.getMod Lru.get
  cases lookup k c.items <;> rfl

theorem wf_getMod (c : Lru κ α) (h : c.WF) (k : κ) (f : α → α) : (c.getMod k f).WF := by
  have hg := wf_get c h k
  refine wf_of_keys h (by unfold Lru.getMod; split <;> rfl) (keys_getMod c k f ▸ hg.nodup) ?_
  rw [keys_getMod, keys, List.length_map]; exact step_cap c (.get k) ▸ hg.size

theorem wf_put (c : Lru κ α) (h : c.WF) (k : κ) (v : α) : (c.put k v).1.WF := by
  have hl : (keys c.items).length ≤ c.cap := by rw [keys, List.length_map]; exact h.size
  refine wf_of_keys h (step_cap c (.put k v)) ?_ ?_
  · rw [(keys_put c k v).1]; exact qTouch_nodup c.cap k _ h.nodup
  · rw [(keys_put c k v).1]; exact qTouch_length c.cap k _ hl h.pos

theorem wf_pop (c : Lru κ α) (h : c.WF) (k : κ) : (c.pop k).1.WF :=
  ⟨h.pos, Nat.le_trans (List.length_filter_le _ _) h.size, nodup_keys_erase k _ h.nodup⟩

theorem wf_mapVals (c : Lru κ α) (h : c.WF) (f : κ → α → α) : (c.mapVals f).WF := by
  refine ⟨h.pos, by simpa [Lru.mapVals] using h.size, ?_⟩
  have : keys (c.mapVals f).items = keys c.items := by simp [Lru.mapVals, keys, List.map_map, Function.comp_def]
  rw [this]; exact h.nodup

theorem wf_step (c : Lru κ α) (h : c.WF) (o : LOp κ α) : (c.step o).1.WF := by
  cases o with
  | get k => exact wf_get c h k
  | peek k => exact h
  | contains k => exact h
  | put k v => exact wf_put c h k v
  | pop k => exact wf_pop c h k

theorem wf_run (c : Lru κ α) (h : c.WF) (ops : List (LOp κ α)) : (c.run ops).WF := by
  induction ops generalizing c with
  | nil => exact h
  | cons o os ih => exact ih _ (wf_step c h o)

theorem wf_empty (cap : Nat) (h : 0 < cap) : (Lru.empty cap : Lru κ α).WF :=
  ⟨h, Nat.zero_le _, by simp [Lru.empty, keys]⟩

/-! ## what `put` does to every key -/

/-- a `put` that evicts nothing: the key gets the value, every other key is untouched -/
theorem peek_put_noevict (c : Lru κ α) (k : κ) (v : α)
    (h : (lookup k c.items).isSome = true ∨ c.items.length < c.cap) (k' : κ) :
    (c.put k v).2 = none ∧ (c.put k v).1.peek k' = if k' = k then some v else c.peek k' := by
  unfold Lru.put Lru.peek
  by_cases c1 : (lookup k c.items).isSome = true
  · rw [if_pos c1]
    refine ⟨rfl, ?_⟩
    rw [lookup_front]
    split
    · rfl
    · next e => exact lookup_erase_ne k k' _ e
  · rw [if_neg c1]
    have c2 : c.items.length < c.cap := by rcases h with h | h; exact absurd h c1; exact h
    rw [if_pos c2]
    exact ⟨rfl, lookup_front k k' v _⟩

/-- a `put` of a NEW key into a FULL cache evicts the last entry of the recency order and nothing else -/
theorem put_full (c : Lru κ α) (h : c.WF) (k : κ) (v : α)
    (hnew : lookup k c.items = none) (hfull : c.items.length = c.cap) :
    ∃ e, c.items.getLast? = some e ∧ (c.put k v).2 = some e ∧ e.1 ≠ k ∧
      (c.put k v).1.items = (k, v) :: c.items.dropLast ∧
      (c.put k v).1.peek k = some v ∧ (c.put k v).1.peek e.1 = none ∧
      ∀ k', k' ≠ k → k' ≠ e.1 → (c.put k v).1.peek k' = c.peek k' := by
  have hne : c.items ≠ [] := by
    intro e; rw [e] at hfull; have := h.pos; simp at hfull; omega
  obtain ⟨e, he⟩ : ∃ e, c.items.getLast? = some e := by
    cases hl : c.items.getLast? with
    | none => exact absurd (List.getLast?_eq_none_iff.mp hl) hne
    | some e => exact ⟨e, rfl⟩
  have hek : e.1 ≠ k := by
    intro x
    have : e.1 ∈ keys c.items := by
      simp only [keys]; exact List.mem_map_of_mem (List.mem_of_getLast? he)
    rw [x] at this
    have := (mem_keys_iff k _).mp this
    rw [hnew] at this; simp at this
  have c1 : ¬ (lookup k c.items).isSome = true := by rw [hnew]; simp
  have c2 : ¬ c.items.length < c.cap := by omega
  refine ⟨e, he, ?_, hek, ?_, ?_, ?_, ?_⟩
  · unfold Lru.put; rw [if_neg c1, if_neg c2]; exact he
  · unfold Lru.put; rw [if_neg c1, if_neg c2]
  · unfold Lru.put Lru.peek; rw [if_neg c1, if_neg c2]; simp [lookup]
  · unfold Lru.put Lru.peek; rw [if_neg c1, if_neg c2]
    simp only [lookup_cons, Ne.symm hek, if_false]
    exact lookup_last_dropLast _ h.nodup e he
  · intro k' h1 h2
    unfold Lru.put Lru.peek; rw [if_neg c1, if_neg c2]
    rw [lookup_front, if_neg h1]
    exact lookup_dropLast _ e he k' h2

/-! ## simulation by the unbounded map while at most `cap` distinct keys are in play -/

/-- one step: same observation, lookups stay equal, keys stay inside `T` -/
theorem step_sim (c : Lru κ α) (m : List (κ × α)) (T : List κ) (o : LOp κ α)
    (hwf : c.WF) (hT : T.length ≤ c.cap)
    (hR : ∀ k, lookup k c.items = lookup k m) (hc : ∀ k ∈ keys c.items, k ∈ T) (ho : o.key ∈ T) :
    (c.step o).2 = (mapStep m o).2 ∧ (∀ k, lookup k (c.step o).1.items = lookup k (mapStep m o).1) ∧
      (∀ k ∈ keys (c.step o).1.items, k ∈ T) := by
  cases o with
  | peek k => exact ⟨by simp [Lru.step, mapStep, Lru.peek, hR], hR, hc⟩
  | contains k => exact ⟨by simp [Lru.step, mapStep, Lru.contains, hR], hR, hc⟩
  | get k =>
    simp only [Lru.step, mapStep, Lru.get]
    cases hl : lookup k c.items with
    | none => exact ⟨by simp [← hR, hl], hR, hc⟩
    | some v =>
      refine ⟨by simp [← hR, hl], ?_, ?_⟩
      · intro k'
        rw [lookup_front]
        split
        · next e => rw [e, ← hR, hl]
        · next e => rw [lookup_erase_ne k k' _ e]; exact hR k'
      · intro x hx
        simp only [keys, List.map_cons, List.mem_cons] at hx
        rcases hx with rfl | hx
        · exact ho
        · exact hc x ((mem_keys_erase k x _).mp hx).1
  | pop k =>
    simp only [Lru.step, mapStep, Lru.pop]
    refine ⟨by simp [hR], ?_, ?_⟩
    · intro k'
      by_cases e : k' = k
      · subst e; rw [lookup_erase_self, lookup_erase_self]
      · rw [lookup_erase_ne k k' _ e, lookup_erase_ne k k' _ e]; exact hR k'
    · intro x hx; exact hc x ((mem_keys_erase k x _).mp hx).1
  | put k v =>
    have hroom : (lookup k c.items).isSome = true ∨ c.items.length < c.cap := by
      by_cases c1 : (lookup k c.items).isSome = true
      · exact Or.inl c1
      · right
        have hk : k ∉ keys c.items := fun x => c1 ((mem_keys_iff k _).mp x)
        have hnd : (k :: keys c.items).Nodup := List.nodup_cons.mpr ⟨hk, hwf.nodup⟩
        have hsub : (k :: keys c.items) ⊆ T := by
          intro x hx
          rcases List.mem_cons.mp hx with rfl | hx
          · exact ho
          · exact hc x hx
        have := hnd.length_le_of_subset hsub
        simp only [List.length_cons, keys, List.length_map] at this
        omega
    have hp := peek_put_noevict c k v hroom
    simp only [Lru.step, mapStep]
    refine ⟨by rw [(hp k).1], ?_, ?_⟩
    · intro k'
      have := (hp k').2
      simp only [Lru.peek] at this
      rw [this]
      by_cases e : k' = k
      · subst e; simp [lookup_insert_self]
      · simp only [e, if_false]; rw [lookup_insert_ne k k' v m e]; exact hR k'
    · intro x hx
      have hs := (mem_keys_iff x _).mp hx
      have := (hp x).2
      simp only [Lru.peek] at this
      rw [this] at hs
      by_cases e : x = k
      · subst e; exact ho
      · simp only [e, if_false] at hs
        exact hc x ((mem_keys_iff x _).mpr hs)

theorem observe_sim (ops : List (LOp κ α)) : ∀ (c : Lru κ α) (m : List (κ × α)) (T : List κ),
    c.WF → T.length ≤ c.cap → (∀ k, lookup k c.items = lookup k m) → (∀ k ∈ keys c.items, k ∈ T) →
    (∀ o ∈ ops, o.key ∈ T) → c.observe ops = mapObserve m ops := by
  induction ops with
  | nil => intros; rfl
  | cons o os ih =>
    intro c m T hwf hT hR hc ho
    obtain ⟨h1, h2, h3⟩ := step_sim c m T o hwf hT hR hc (ho o (List.mem_cons_self))
    simp only [Lru.observe, mapObserve, h1]
    congr 1
    exact ih _ _ T (wf_step c hwf o) (by rw [step_cap]; exact hT) h2 h3 (fun o' ho' => ho o' (List.mem_cons_of_mem _ ho'))

/-- the content after a `put` is the plain map update minus the evicted key -/
theorem lookup_put (c : Lru κ α) (h : c.WF) (k : κ) (v : α) (k' : κ) :
    lookup k' (c.put k v).1.items =
      if (c.put k v).2.map Prod.fst = some k' then none else lookup k' (insert k v c.items) := by
  by_cases hroom : (lookup k c.items).isSome = true ∨ c.items.length < c.cap
  · obtain ⟨h1, h2⟩ := peek_put_noevict c k v hroom k'
    simp only [Lru.peek] at h2
    rw [h1, h2]
    simp only [Option.map_none, reduceCtorEq, if_false]
    by_cases e : k' = k
    · subst e; simp [lookup_insert_self]
    · simp only [e, if_false, Lru.peek]; rw [lookup_insert_ne k k' v _ e]
  · have hnew : lookup k c.items = none := by
      cases hl : lookup k c.items with
      | none => rfl
      | some x => exact absurd (Or.inl (by simp [hl])) hroom
    have hfull : c.items.length = c.cap := by
      have := h.size
      have : ¬ c.items.length < c.cap := fun x => hroom (Or.inr x)
      omega
    obtain ⟨e, he, h2, hek, _, h5, h6, h7⟩ := put_full c h k v hnew hfull
    simp only [Lru.peek] at h5 h6 h7
    rw [h2]
    simp only [Option.map_some]
    by_cases e1 : e.1 = k'
    · subst e1; simp [h6]
    · have : ¬ some e.1 = some k' := by simpa using e1
      rw [if_neg this]
      by_cases e2 : k' = k
      · subst e2; rw [h5, lookup_insert_self]
      · rw [h7 k' e2 (fun x => e1 x.symm), lookup_insert_ne k k' v _ e2]

end MdkVerif.Lru
