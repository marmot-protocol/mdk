import MdkVerif.Proofs.MemLru
/-
  `messages_cache` (the by-message-id cache of the memory backend) is written by `save_message` and
  `invalidate_messages_after_epoch` and read by NO method of the storage traits.  Formally: two states of
  `Model/MemLru.lean` that agree on everything but that cache (and the eviction log) answer every operation alike
  and keep agreeing — so the model's treatment of that cache (in particular the order in which
  `invalidate_messages_after_epoch` promotes its entries, which follows an unobservable map order) cannot
  influence any observation.
-/
namespace MdkVerif.MemLru
open MdkVerif MdkVerif.Store MdkVerif.Lru List

/-- everything but `messages_cache` (content, queue) and the eviction log -/
def vis (s : MemStore) : MemStore := { s with byId := [], qById := [], evlog := [] }

theorem vis_cases (a b : MemStore) (h : vis a = vis b) : ∃ bi qi ev, b = { a with byId := bi, qById := qi, evlog := ev } := by
  obtain ⟨c1, m1, u1, bi1, g1, n1, r1, x1, w1, p1, i1, mg1, pm1, e1⟩ := a
  obtain ⟨c2, m2, u2, bi2, g2, n2, r2, x2, w2, p2, i2, mg2, pm2, e2⟩ := b
  simp only [vis, MemStore.mk.injEq] at h
  obtain ⟨rfl, rfl, rfl, -, rfl, rfl, rfl, rfl, rfl, rfl, -, rfl, rfl, -⟩ := h
  exact ⟨bi2, i2, e2, rfl⟩

/-! every `put` but that of `messages_cache` reads and writes visible fields only -/

theorem vis_putGroups (a b : MemStore) (h : vis a = vis b) (k : Nat) : vis (putGroups a k) = vis (putGroups b k) := by
  obtain ⟨bi, qi, ev, rfl⟩ := vis_cases a b h
  rw [putGroups_eq, putGroups_eq]; rfl
theorem vis_putByNid (a b : MemStore) (h : vis a = vis b) (k : Nat) : vis (putByNid a k) = vis (putByNid b k) := by
  obtain ⟨bi, qi, ev, rfl⟩ := vis_cases a b h
  rw [putByNid_eq, putByNid_eq]; rfl
theorem vis_putRelays (a b : MemStore) (h : vis a = vis b) (k : Nat) : vis (putRelays a k) = vis (putRelays b k) := by
  obtain ⟨bi, qi, ev, rfl⟩ := vis_cases a b h
  rw [putRelays_eq, putRelays_eq]; rfl
theorem vis_putSecrets (a b : MemStore) (h : vis a = vis b) (k : Nat × Nat) : vis (putSecrets a k) = vis (putSecrets b k) := by
  obtain ⟨bi, qi, ev, rfl⟩ := vis_cases a b h
  rw [putSecrets_eq, putSecrets_eq]; rfl
theorem vis_putWelcomes (a b : MemStore) (h : vis a = vis b) (k : Nat) : vis (putWelcomes a k) = vis (putWelcomes b k) := by
  obtain ⟨bi, qi, ev, rfl⟩ := vis_cases a b h
  rw [putWelcomes_eq, putWelcomes_eq]; rfl
theorem vis_putPws (a b : MemStore) (h : vis a = vis b) (k : Nat) : vis (putPws a k) = vis (putPws b k) := by
  obtain ⟨bi, qi, ev, rfl⟩ := vis_cases a b h
  rw [putPws_eq, putPws_eq]; rfl
theorem vis_putMsgGroups (a b : MemStore) (h : vis a = vis b) (k : Nat) : vis (putMsgGroups a k) = vis (putMsgGroups b k) := by
  obtain ⟨bi, qi, ev, rfl⟩ := vis_cases a b h
  rw [putMsgGroups_eq, putMsgGroups_eq]; rfl
theorem vis_putPms (a b : MemStore) (h : vis a = vis b) (k : Nat) : vis (putPms a k) = vis (putPms b k) := by
  obtain ⟨bi, qi, ev, rfl⟩ := vis_cases a b h
  rw [putPms_eq, putPms_eq]; rfl

theorem vis_withById (a : MemStore) (m : Msg) : vis (withById a m) = vis a := by
  rw [withById_eq]; rfl

theorem vis_okErr (oa ob : Option MemStore) (a b : MemStore) (h : vis a = vis b)
    (hn : oa.isSome = ob.isSome) (hs : ∀ x y, oa = some x → ob = some y → vis x = vis y) :
    (okErr oa a).2 = (okErr ob b).2 ∧ vis (okErr oa a).1 = vis (okErr ob b).1 := by
  cases oa with
  | none =>
    cases ob with
    | none => exact ⟨rfl, h⟩
    | some y => simp at hn
  | some x =>
    cases ob with
    | none => simp at hn
    | some y => exact ⟨rfl, hs x y rfl rfl⟩

theorem vis_saveGroup (a b : MemStore) (h : vis a = vis b) (g : Group) :
    (saveGroup a g).isSome = (saveGroup b g).isSome ∧ ∀ x y, saveGroup a g = some x → saveGroup b g = some y → vis x = vis y := by
  obtain ⟨bi, qi, ev, rfl⟩ := vis_cases a b h
  simp only [saveGroup]
  cases Store.saveGroup a.u g with
  | none => exact ⟨rfl, fun x y hx => by cases hx⟩
  | some u' =>
    refine ⟨Option.isSome_some.trans Option.isSome_some.symm, fun x y hx hy => ?_⟩
    cases hx; cases hy
    exact vis_putByNid _ _ (vis_putGroups _ _ (by rfl) _) _

theorem vis_saveMessage (a b : MemStore) (h : vis a = vis b) (m : Msg) :
    (saveMessage a m).isSome = (saveMessage b m).isSome ∧
    ∀ x y, saveMessage a m = some x → saveMessage b m = some y → vis x = vis y := by
  obtain ⟨bi, qi, ev, rfl⟩ := vis_cases a b h
  rw [saveMessage_eq, saveMessage_eq]
  by_cases c1 : (findGroup a.u m.gid).isNone = true
  · rw [if_pos c1, if_pos c1]; exact ⟨rfl, fun x y hx => by cases hx⟩
  · rw [if_neg c1, if_neg c1]
    by_cases c2 : m.gid ∈ a.qMsgGroups
    · rw [if_pos c2, if_pos c2]
      refine ⟨Option.isSome_some.trans Option.isSome_some.symm, fun x y hx hy => ?_⟩
      cases hx; cases hy
      rw [vis_withById, vis_withById]
      -- the victim is chosen by visible fields only
      unfold capEvict
      rw [show capVictim { a with byId := bi, qById := qi, evlog := ev } m = capVictim a m from rfl]
      cases capVictim a m <;> rfl
    · rw [if_neg c2, if_neg c2]
      refine ⟨Option.isSome_some.trans Option.isSome_some.symm, fun x y hx hy => ?_⟩
      cases hx; cases hy
      rw [vis_withById, vis_withById]
      exact vis_putMsgGroups _ _ (by rfl) m.gid

theorem vis_snapRollback (a b : MemStore) (h : vis a = vis b) (gid name : Nat) (ch : List Nat) :
    (snapRollback a gid name ch).isSome = (snapRollback b gid name ch).isSome ∧
    ∀ x y, snapRollback a gid name ch = some x → snapRollback b gid name ch = some y → vis x = vis y := by
  obtain ⟨bi, qi, ev, rfl⟩ := vis_cases a b h
  rw [snapRollback_eq, snapRollback_eq]
  cases findSnap a.u gid name with
  | none => exact ⟨rfl, fun x y hx => by cases hx⟩
  | some p =>
    dsimp only
    cases restoreFrom a.u p with
    | none => exact ⟨rfl, fun x y hx => by cases hx⟩
    | some u' =>
      refine ⟨Option.isSome_some.trans Option.isSome_some.symm, fun x y hx hy => ?_⟩
      cases hx; cases hy
      have h1 : vis (putRecord (afterPops a u' p) p) =
          vis (putRecord (afterPops { a with byId := bi, qById := qi, evlog := ev } u' p) p) := by
        unfold putRecord
        cases p.group with
        | none => rfl
        | some g => exact vis_putByNid _ _ (vis_putGroups _ _ (by rfl) _) _
      have h2 : vis (putSnapRelays (putRecord (afterPops a u' p) p) p) =
          vis (putSnapRelays (putRecord (afterPops { a with byId := bi, qById := qi, evlog := ev } u' p) p) p) := by
        unfold putSnapRelays; split
        · exact h1
        · exact vis_putRelays _ _ h1 _
      unfold putSnapSecrets
      generalize secOrder ch (p.secrets.map (·.1)) = es
      generalize putSnapRelays (putRecord (afterPops a u' p) p) p = x at h2
      generalize putSnapRelays (putRecord (afterPops _ u' p) p) p = y at h2
      induction es generalizing x y with
      | nil => exact h2
      | cons e t ih => exact ih _ _ (vis_putSecrets x y h2 (p.gid, e))

/-- the by-id cache and the eviction log never influence an answer, nor any other part of the state -/
theorem vis_step (a b : MemStore) (h : vis a = vis b) (op : Op) (ch : List Nat) :
    (step a op ch).2 = (step b op ch).2 ∧ vis (step a op ch).1 = vis (step b op ch).1 := by
  have hsg := vis_saveGroup a b h
  have hsm := vis_saveMessage a b h
  have h0 := h
  obtain ⟨bi, qi, ev, rfl⟩ := vis_cases a b h
  cases op
  case saveGroup g => exact vis_okErr _ _ _ _ h0 (hsg g).1 (hsg g).2
  case updLast gid c p i =>
    simp only [step, updLastOp]
    cases findGroup a.u gid with
    | none => exact ⟨rfl, h0⟩
    | some g =>
      dsimp only
      obtain ⟨hn, hs⟩ := hsg (updLast g (c, p, i))
      cases ha : saveGroup a (updLast g (c, p, i)) with
      | none =>
        rw [ha] at hn
        cases hb : saveGroup _ (updLast g (c, p, i)) with
        | none => exact ⟨rfl, h0⟩
        | some y => rw [hb] at hn; cases hn
      | some x =>
        rw [ha] at hn
        cases hb : saveGroup _ (updLast g (c, p, i)) with
        | none => rw [hb] at hn; cases hn
        | some y => exact ⟨rfl, hs x y ha hb⟩
  case saveMessage m => exact vis_okErr _ _ _ _ h0 (hsm m).1 (hsm m).2
  case savePm p => exact ⟨rfl, vis_putPms _ _ (by rfl) _⟩
  case savePw p => exact ⟨rfl, vis_putPws _ _ (by rfl) _⟩
  case invalMsgs gid e => exact ⟨rfl, rfl⟩
  case invalPms gid e => exact ⟨rfl, rfl⟩
  case markRetryable w =>
    rcases hm : Store.markRetryable a.u w with _ | u' <;> simp only [step, markRetryable, hm] <;> exact ⟨trivial, rfl⟩
  case replaceRelays gid rs =>
    simp only [step, replaceRelays]
    cases Store.replaceRelays a.u gid rs with
    | none => exact ⟨rfl, h0⟩
    | some u' => exact ⟨rfl, vis_putRelays _ _ (by rfl) _⟩
  case saveSecret gid ep v =>
    simp only [step, saveSecret]
    cases Store.saveSecret a.u gid ep v with
    | none => exact ⟨rfl, h0⟩
    | some u' => exact ⟨rfl, vis_putSecrets _ _ (by rfl) _⟩
  case saveWelcome w =>
    simp only [step, saveWelcome]
    cases Store.saveWelcome a.u w with
    | none => exact ⟨rfl, h0⟩
    | some u' => exact ⟨rfl, vis_putWelcomes _ _ (by rfl) _⟩
  case snapCreate gid name ts =>
    simp only [step, snapCreate]
    cases Store.snapCreate a.u gid name ts with
    | none => exact ⟨rfl, h0⟩
    | some u' => exact ⟨rfl, rfl⟩
  case snapRollback gid name =>
    have hr := vis_snapRollback _ _ h0 gid name ch
    exact vis_okErr _ _ _ _ h0 hr.1 hr.2
  case mlsWrite gid k v => exact ⟨rfl, rfl⟩
  case mlsDelete gid k => exact ⟨rfl, rfl⟩
  case snapRelease gid name => exact ⟨rfl, rfl⟩
  case snapPrune t => exact ⟨rfl, rfl⟩
  all_goals exact ⟨rfl, h0⟩

end MdkVerif.MemLru
