import MdkVerif.Proofs.RestartSim
/-
  MdkVerif.Proofs.Restart — `eraseTs`, what a restart does to a persistent client, as a function: it is an instance of
  the relation `Sim` of Proofs/RestartSim.lean (`sim_eraseTs`), and related clients hydrate to the same client
  (`Sim.eraseTs_eq`).  So `eraseTs` commutes with every handler of `process_message` that does not compare timestamps,
  and with `processCommit` / the wrong-epoch handler when the MIP-03 comparison says "not better".  Nothing builds on
  these equations: C11's statements over deliveries and runs (`Props/C11.lean`) go through `Sim` itself.
-/
namespace MdkVerif.Client
open MdkVerif

/-- forget the manager's timestamps (what a restart does to a persistent client) -/
def eraseTs (c : Cl) : Cl := { c with mgr := c.mgr.map (fun s => { s with ts := 0 }) }

@[simp] theorem eraseTs_g (c : Cl) : (eraseTs c).g = c.g := rfl
@[simp] theorem eraseTs_id (c : Cl) : (eraseTs c).id = c.id := rfl
@[simp] theorem eraseTs_hasGroup (c : Cl) : (eraseTs c).hasGroup = c.hasGroup := rfl
@[simp] theorem eraseTs_msgs (c : Cl) : (eraseTs c).msgs = c.msgs := rfl
@[simp] theorem eraseTs_maxPast (c : Cl) : (eraseTs c).maxPast = c.maxPast := rfl
@[simp] theorem eraseTs_getRec (c : Cl) (n : Nat) : getRec (eraseTs c) n = getRec c n := rfl
theorem eraseTs_withSecret (c : Cl) : withSecret (eraseTs c) = eraseTs (withSecret c) := rfl
theorem eraseTs_setRec (c : Cl) (n : Nat) (r : Rec) : setRec (eraseTs c) n r = eraseTs (setRec c n r) := rfl
theorem eraseTs_recordFailure (c : Cl) (n : Nat) (b : Bool) (e : Option Nat) :
    recordFailure (eraseTs c) n b e = eraseTs (recordFailure c n b e) := rfl
theorem sim_eraseTs (c : Cl) : Sim c (eraseTs c) := ⟨_, rfl, (MgrRel.refl _).zero⟩

theorem MgrRel.zero_eq {m m' : List Snap} (h : MgrRel m m') :
    m'.map (fun s => { s with ts := 0 }) = m.map (fun s => { s with ts := 0 }) := by
  induction h with
  | nil => rfl
  | @cons s s' _ _ hs _ ih =>
    cases s; cases s'
    obtain ⟨h1, h2, h3, _⟩ := hs
    cases h1; cases h2; cases h3
    exact congrArg (List.cons _) ih

theorem Sim.eraseTs_eq {c c' : Cl} (h : Sim c c') : eraseTs c' = eraseTs c := by
  obtain ⟨m', rfl, hm⟩ := h
  exact congrArg (fun m => { c with mgr := m }) hm.zero_eq

theorem eraseTs_idem (c : Cl) : eraseTs (eraseTs c) = eraseTs c := (sim_eraseTs c).eraseTs_eq

theorem eraseTs_isBetter (c : Cl) (ee : Nat) (e : Ev) : isBetter (eraseTs c) ee e = false := by
  unfold isBetter eraseTs
  cases h : (c.mgr.map (fun s => { s with ts := 0 })).find? (·.epoch == ee) with
  | none => rfl
  | some s =>
    have := List.mem_of_find?_eq_some h
    simp only [List.mem_map] at this
    obtain ⟨t, _, rfl⟩ := this
    simp

theorem eraseTs_ownMessage (c : Cl) (e : Ev) :
    ownMessage (eraseTs c) e = (eraseTs (ownMessage c e).1, (ownMessage c e).2) := by
  have := ownMessage_sim (R := fun c c' => c' = eraseTs c) (c' := eraseTs c) e rfl rfl rfl (fun _ _ => rfl) rfl
  exact Prod.ext this.1 this.2

theorem eraseTs_failUnprocessable (c : Cl) (e : Ev) :
    failUnprocessable (eraseTs c) e = (eraseTs (failUnprocessable c e).1, (failUnprocessable c e).2) := rfl

theorem eraseTs_returnOwnCommit (c : Cl) : returnOwnCommit (eraseTs c) = (eraseTs (returnOwnCommit c).1, (returnOwnCommit c).2) := rfl

theorem eraseTs_notBetterResult (c : Cl) (e : Ev) :
    notBetterResult (eraseTs c) e = (eraseTs (notBetterResult c e).1, (notBetterResult c e).2) := by
  unfold notBetterResult
  rw [eraseTs_getRec]
  cases getRec c e.n with
  | none => rfl
  | some r => dsimp only; split <;> rfl

theorem eraseTs_storeApp (c : Cl) (e : Ev) (m t k : Nat) :
    storeApp (eraseTs c) e m t k = (eraseTs (storeApp c e m t k).1, (storeApp c e m t k).2) := rfl

theorem eraseTs_mgrCreate (c : Cl) (ep : Nat) (e : Ev) : eraseTs (mgrCreate (eraseTs c) ep e) = eraseTs (mgrCreate c ep e) :=
  (sim_mgrCreate (sim_eraseTs c) ep e).eraseTs_eq

theorem eraseTs_processCommit (c : Cl) (e : Ev) (b : Body) (sw : List Nat) :
    eraseTs (processCommit (eraseTs c) e b sw).1 = eraseTs (processCommit c e b sw).1 ∧
    (processCommit (eraseTs c) e b sw).2 = (processCommit c e b sw).2 :=
  ⟨(sim_processCommit (sim_eraseTs c) e b sw).1.eraseTs_eq, (sim_processCommit (sim_eraseTs c) e b sw).2⟩

theorem eraseTs_wrongEpoch (retry retry' : Cl → Option (Cl × Res)) (c : Cl) (e : Ev) (ee : Nat)
    (hnb : isBetter c ee e = false) :
    wrongEpochCommit retry (eraseTs c) e ee = (eraseTs (wrongEpochCommit retry' c e ee).1, (wrongEpochCommit retry' c e ee).2) := by
  simp only [wrongEpochCommit, eraseTs_isBetter, hnb, Bool.false_eq_true, if_false]
  exact eraseTs_notBetterResult c e


end MdkVerif.Client
