import MdkVerif.Model.Media
import MdkVerif.Proofs.Tags
/- for Props/C17, media part: a NUL-free prefix before a NUL separator is determined by the whole string; file names and
   MIME types that passed validation are NUL-free -/
namespace MdkVerif.Media
open MdkVerif.Codec MdkVerif.Tags List

/-- two NUL-free prefixes followed by a NUL separator split a string the same way -/
theorem split_at_nul : ∀ (a a' b b' : Bytes), nulFree a = true → nulFree a' = true →
    a ++ 0 :: b = a' ++ 0 :: b' → a = a' ∧ b = b' := by
  intro a
  induction a with
  | nil =>
    intro a' b b' _ ha' h
    cases a' with
    | nil => simp at h; exact ⟨rfl, h⟩
    | cons x xs =>
      simp at h
      have : x = 0 := h.1.symm
      subst this
      simp [nulFree] at ha'
  | cons x xs ih =>
    intro a' b b' ha ha' h
    cases a' with
    | nil =>
      simp at h
      have : x = 0 := h.1
      subst this
      simp [nulFree] at ha
    | cons y ys =>
      simp only [List.cons_append, List.cons.injEq] at h
      have hx : nulFree xs = true := by
        simp only [nulFree, List.contains_cons, Bool.not_eq_true', Bool.or_eq_false_iff] at ha ⊢
        simpa [nulFree] using ha.2
      have hy : nulFree ys = true := by
        simp only [nulFree, List.contains_cons, Bool.not_eq_true', Bool.or_eq_false_iff] at ha' ⊢
        simpa [nulFree] using ha'.2
      obtain ⟨e1, e2⟩ := ih ys b b' hx hy h.2
      exact ⟨by rw [h.1, e1], e2⟩

theorem hasControl_false_nul : ∀ (f : Bytes), hasControl f = false → nulFree f = true
  | [], _ => by simp [nulFree]
  | [c], h => by
    simp only [hasControl, Bool.or_eq_false_iff, decide_eq_false_iff_not] at h
    have : ¬ 0 = c := by omega
    simp [nulFree, this]
  | c :: d :: r, h => by
    simp only [hasControl, Bool.or_eq_false_iff, decide_eq_false_iff_not] at h
    have ih := hasControl_false_nul (d :: r) h.2
    have : ¬ 0 = c := by omega
    simp only [nulFree, List.contains_cons, Bool.not_eq_true', Bool.or_eq_false_iff] at ih ⊢
    refine ⟨by simpa using this, ih⟩

theorem filenameOk_nulFree (f : Bytes) (h : filenameOk f = true) : nulFree f = true := by
  unfold filenameOk at h
  simp only [Bool.and_eq_true, Bool.not_eq_true'] at h
  exact hasControl_false_nul f h.2

theorem validateMime_nulFree (m c : Bytes) (h : validateMime m = some c) : nulFree c = true := by
  have hall : (Generated.escapeHatchMimeType :: Generated.supportedMimeTypes).all nulFree = true := by decide +kernel
  exact (List.all_eq_true.mp hall) c (validateMime_mem m c h)

end MdkVerif.Media
