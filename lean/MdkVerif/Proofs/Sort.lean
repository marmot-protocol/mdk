import MdkVerif.Model.Basic
/- helper lemmas about the model's insertion sort and pagination (core Lean only) -/
namespace MdkVerif
open List

/-- what the sort needs from a comparator: a strict weak order -/
structure StrictWeak {α : Type} (lt : α → α → Bool) : Prop where
  asymm : ∀ a b, lt a b = true → lt b a = false
  negtrans : ∀ a b c, lt b a = false → lt c b = false → lt c a = false

theorem insertBy_perm {α : Type} (lt : α → α → Bool) (x : α) (l : List α) :
    insertBy lt x l ~ x :: l := by
  induction l with
  | nil => simp [insertBy]
  | cons y ys ih =>
    simp only [insertBy]
    split
    · exact Perm.refl _
    · exact (Perm.cons y ih).trans (Perm.swap x y ys)

theorem sortBy_perm {α : Type} (lt : α → α → Bool) (l : List α) : sortBy lt l ~ l := by
  induction l with
  | nil => simp [sortBy]
  | cons x xs ih => exact (insertBy_perm lt x _).trans (Perm.cons x ih)

theorem mem_insertBy {α : Type} (lt : α → α → Bool) (x a : α) (l : List α) :
    a ∈ insertBy lt x l ↔ a = x ∨ a ∈ l := by
  rw [(insertBy_perm lt x l).mem_iff]; simp

theorem mem_sortBy {α : Type} (lt : α → α → Bool) (a : α) (l : List α) : a ∈ sortBy lt l ↔ a ∈ l :=
  (sortBy_perm lt l).mem_iff

theorem length_sortBy {α : Type} (lt : α → α → Bool) (l : List α) : (sortBy lt l).length = l.length :=
  (sortBy_perm lt l).length_eq

/-- the order in which the result lists elements: `b` never strictly precedes an earlier `a` -/
def NotAfter {α : Type} (lt : α → α → Bool) (a b : α) : Prop := lt b a = false

theorem insertBy_sorted {α : Type} {lt : α → α → Bool} (h : StrictWeak lt) (x : α) (l : List α)
    (hl : l.Pairwise (NotAfter lt)) : (insertBy lt x l).Pairwise (NotAfter lt) := by
  induction l with
  | nil => simp [insertBy]
  | cons y ys ih =>
    simp only [insertBy]
    have hy := (pairwise_cons.mp hl)
    by_cases c : lt x y = true
    · simp only [c, if_true]
      refine pairwise_cons.mpr ⟨?_, hl⟩
      intro b hb
      rcases mem_cons.mp hb with rfl | hb
      · exact h.asymm _ _ c
      · exact h.negtrans _ _ _ (h.asymm _ _ c) (hy.1 b hb)
    · have c' : lt x y = false := by simpa using c
      simp only [c', Bool.false_eq_true, if_false]
      refine pairwise_cons.mpr ⟨?_, ih hy.2⟩
      intro b hb
      rcases (mem_insertBy lt x b ys).mp hb with rfl | hb
      · exact c'
      · exact hy.1 b hb

theorem sortBy_sorted {α : Type} {lt : α → α → Bool} (h : StrictWeak lt) (l : List α) :
    (sortBy lt l).Pairwise (NotAfter lt) := by
  induction l with
  | nil => simp [sortBy]
  | cons x xs ih => exact insertBy_sorted h x _ ih

/-- the sorted listing is determined by the *set* of elements, not by the order they are held in
    (hash-map iteration order, SQL row order), provided incomparable elements are equal -/
theorem sortBy_perm_eq {α : Type} {lt : α → α → Bool} (h : StrictWeak lt) (l₁ l₂ : List α)
    (hp : l₁ ~ l₂)
    (hd : ∀ a b, a ∈ l₁ → b ∈ l₁ → lt a b = false → lt b a = false → a = b) :
    sortBy lt l₁ = sortBy lt l₂ := by
  apply Perm.eq_of_pairwise (le := NotAfter lt)
  · intro a b ha hb hab hba
    have ha' : a ∈ l₁ := (mem_sortBy lt a l₁).mp ha
    have hb' : b ∈ l₁ := hp.symm.mem_iff.mp ((mem_sortBy lt b l₂).mp hb)
    exact hd a b ha' hb' hba hab
  · exact sortBy_sorted h l₁
  · exact sortBy_sorted h l₂
  · exact (sortBy_perm lt l₁).trans (hp.trans (sortBy_perm lt l₂).symm)

def pageOf {α : Type} (l : List α) (offset limit : Nat) : List α := (l.drop offset).take limit

/-- concatenating `k` consecutive pages of size `limit` gives the first `k*limit` elements -/
theorem pages_concat {α : Type} (l : List α) (limit : Nat) (k : Nat) :
    ((List.range k).flatMap (fun i => pageOf l (i * limit) limit)) = l.take (k * limit) := by
  induction k with
  | zero => simp
  | succ k ih =>
    rw [List.range_succ, List.flatMap_append, ih]
    simp only [flatMap_cons, flatMap_nil, append_nil, pageOf]
    rw [Nat.succ_mul]
    -- take (a) l ++ take b (drop a l) = take (a+b) l
    rw [← List.take_add]

/-- pages partition the listing: no gaps, no repeats -/
theorem pages_partition {α : Type} (l : List α) (limit : Nat) (k : Nat) (hk : l.length ≤ k * limit) :
    ((List.range k).flatMap (fun i => pageOf l (i * limit) limit)) = l := by
  rw [pages_concat, List.take_of_length_le hk]

/-- a page that starts at or beyond the end is empty -/
theorem page_beyond {α : Type} (l : List α) (offset limit : Nat) (h : l.length ≤ offset) :
    pageOf l offset limit = [] := by
  simp [pageOf, List.drop_eq_nil_of_le h]

end MdkVerif
