import MdkVerif.Model.Locks
import MdkVerif.Proofs.Locks
/-
  MdkVerif.Proofs.LocksNested — nested lock sections (generic in state, result, operation names):

  * ordered acquisition ⇒ some unfinished thread can always take its next step (no deadlock), for any
    thread pool and any schedule;
  * a nested section (outer lock held across an inner section) is simulated by ONE atomic step placed
    where the inner section ran, under every schedule that respects the locks.
-/
namespace MdkVerif.Locks
variable {ι σ ρ : Type}

/-! ## ordered acquisition -/

/-- 1 + the largest rank among the locks held (0 when none is held) -/
def bound (rank : Nat → Nat) : List Lock → Nat
  | [] => 0
  | l :: ls => max (rank l.1 + 1) (bound rank ls)

theorem bound_append (rank : Nat → Nat) (h : List Lock) (lk : Lock) :
    bound rank (h ++ [lk]) = max (bound rank h) (rank lk.1 + 1) := by
  induction h with
  | nil => exact Nat.max_comm _ _
  | cons x xs ih => exact (congrArg (max _) ih).trans (Nat.max_assoc _ _ _).symm

theorem bound_snoc_of_le {rank : Nat → Nat} {h : List Lock} {lk : Lock} (hb : bound rank h ≤ rank lk.1) :
    bound rank (h ++ [lk]) = rank lk.1 + 1 := by
  rw [bound_append]; omega

theorem lt_bound_of_mem (rank : Nat → Nat) {h : List Lock} {l : Lock} (hm : l ∈ h) : rank l.1 < bound rank h := by
  induction h with
  | nil => cases hm
  | cons x xs ih =>
    simp only [bound]
    rcases List.mem_cons.mp hm with e | e
    · subst e; omega
    · have := ih e; omega

theorem ordered_acquires {rank : Nat → Nat} {b : Nat} {p : Prog σ ρ} {lk : Lock}
    (h : p.ordered rank b) (ha : p.acquires = some lk) : b ≤ rank lk.1 := by
  cases p <;> simp only [Prog.acquires, Option.some.injEq, reduceCtorEq] at ha
  · subst ha; exact h.1
  · subst ha; exact h.1

theorem ordered_adv {rank : Nat → Nat} {hl : List Lock} {p : Prog σ ρ} (h : p.ordered rank (bound rank hl)) (s : σ) :
    (p.adv s).2.1.ordered rank (bound rank (hl ++ (p.adv s).2.2)) := by
  cases p with
  | done r => simp [Prog.adv, Prog.ordered]
  | sec lk upd next => simpa [Prog.adv] using h.2 s
  | hold lk upd body =>
    simp only [Prog.adv, bound_snoc_of_le h.1]
    exact h.2 s
  | act upd next => simpa [Prog.adv] using h s

/-- every operation under way acquires in order above what it holds; every operation not yet
    started holds nothing and acquires in order -/
def OrdInv (rank : Nat → Nat) (c : Cfg ι σ ρ) : Prop :=
  ∀ u it rest, c.thr u = it :: rest →
    it.rem.ordered rank (bound rank it.held) ∧ ∀ it', it' ∈ rest → it'.held = [] ∧ it'.rem.ordered rank 0

theorem ordInv_step (rank : Nat → Nat) (c : Cfg ι σ ρ) (t : Nat) (h : OrdInv rank c) : OrdInv rank (step c t) := by
  cases hth : c.thr t with
  | nil => rw [step_nil hth]; exact h
  | cons it rest =>
    obtain ⟨hhead, hrest⟩ := h t it rest hth
    cases hd : (it.rem.adv c.st).2.1.isDone with
    | some r =>
      rw [step_complete hth hd]
      intro u it2 rest2 hu
      by_cases e : u = t
      · subst e
        simp only [setThr_same] at hu
        subst hu
        obtain ⟨h1, h2⟩ := hrest it2 (by simp)
        refine ⟨by rw [h1]; exact h2, fun it' hm => hrest it' (by simp [hm])⟩
      · simp only [setThr_other _ _ e] at hu
        exact h u it2 rest2 hu
    | none =>
      rw [step_continue hth hd]
      intro u it2 rest2 hu
      by_cases e : u = t
      · subst e
        simp only [setThr_same, List.cons.injEq] at hu
        obtain ⟨h1, h2⟩ := hu
        subst h1; subst h2
        exact ⟨ordered_adv hhead c.st, hrest⟩
      · simp only [setThr_other _ _ e] at hu
        exact h u it2 rest2 hu

theorem ordInv_init (rank : Nat → Nat) (prog : ι → Prog σ ρ) (hord : ∀ i, (prog i).ordered rank 0)
    (ops : Nat → List ι) (s0 : σ) : OrdInv rank (init prog ops s0) := by
  intro u it rest hu
  have hall : ∀ it', it' ∈ (init prog ops s0).thr u → it'.held = [] ∧ it'.rem.ordered rank 0 := by
    intro it' hm
    simp only [init, List.mem_map] at hm
    obtain ⟨i, _, rfl⟩ := hm
    exact ⟨rfl, hord i⟩
  rw [hu] at hall
  obtain ⟨h1, h2⟩ := hall it (by simp)
  refine ⟨by rw [h1]; exact h2, fun it' hm => hall it' (by simp [hm])⟩

/-- the rank argument: a thread that cannot move waits for a lock held by a thread whose own next
    acquisition lies strictly higher; ranks are bounded, so the chain ends at a thread that can move -/
theorem ordered_progress_aux (rank : Nat → Nat) (N : Nat) (hN : ∀ i, rank i < N) (c : Cfg ι σ ρ)
    (hinv : OrdInv rank c) :
    ∀ k t, c.thr t ≠ [] →
      (∀ it rest lk, c.thr t = it :: rest → it.rem.acquires = some lk → N ≤ rank lk.1 + k) →
      ∃ u, c.thr u ≠ [] ∧ enabled c u := by
  intro k
  induction k with
  | zero =>
    intro t ht hk
    refine ⟨t, ht, ?_⟩
    intro it rest h lk hacq u l _
    have := hk it rest lk h hacq
    have := hN lk.1
    omega
  | succ k ih =>
    intro t ht hk
    by_cases he : enabled c t
    · exact ⟨t, ht, he⟩
    · simp only [enabled, Classical.not_forall] at he
      obtain ⟨it, rest, hth, lk, hacq, u, l, hl, hcf⟩ := he
      have hid : lk.1 = l.1 := by
        simp only [conflict, Bool.not_eq_false, Bool.and_eq_true, beq_iff_eq] at hcf; exact hcf.1
      -- `u` is under way and holds `l`
      cases hu : c.thr u with
      | nil => simp [Cfg.holds, hu] at hl
      | cons iu ru =>
        have hlu : l ∈ iu.held := by simpa [Cfg.holds, hu] using hl
        have hlt := lt_bound_of_mem rank hlu
        obtain ⟨hord, _⟩ := hinv u iu ru hu
        apply ih u (by rw [hu]; simp)
        intro iu' ru' lk' hu' hacq'
        rw [hu] at hu'
        simp only [List.cons.injEq] at hu'
        obtain ⟨e1, _⟩ := hu'
        subst e1
        have h1 := ordered_acquires hord hacq'
        have h2 := hk it rest lk hth hacq
        rw [hid] at h2
        omega

theorem ordered_progress (rank : Nat → Nat) (N : Nat) (hN : ∀ i, rank i < N) (c : Cfg ι σ ρ)
    (hinv : OrdInv rank c) (t : Nat) (ht : c.thr t ≠ []) : ∃ u, c.thr u ≠ [] ∧ enabled c u := by
  apply ordered_progress_aux rank N hN c hinv N t ht
  intro it rest lk _ _
  omega

/-! ### the same at the level of lock states: no wait-for cycle -/

theorem waits_of_chain (L : LockState) (x : Nat) : ∀ (rest : List Nat) (z : Nat), L.chain (x :: rest ++ [z]) →
    ∃ lx, L.waits x = some lx
  | [], _, hc | _ :: _, _, hc => hc.1.imp fun _ h => h.1

theorem chain_rank_lt (L : LockState) (rank : Nat → Nat) (h : L.orderedBy rank) :
    ∀ (rest : List Nat) (x z lx lz : Nat), L.chain (x :: rest ++ [z]) → L.waits x = some lx → L.waits z = some lz →
      rank lx < rank lz := by
  intro rest
  induction rest with
  | nil =>
    intro x z lx lz hc hx hz
    obtain ⟨l, hw, hl⟩ := hc.1
    rw [hx] at hw; cases hw
    exact h z lz hz lx hl
  | cons y r ih =>
    intro x z lx lz hc hx hz
    obtain ⟨l, hw, hl⟩ := hc.1
    rw [hx] at hw; cases hw
    obtain ⟨ly, hly⟩ := waits_of_chain L y r z hc.2
    have h1 := h y ly hly lx hl
    have h2 := ih y z ly lz hc.2 hly hz
    omega

theorem ordered_no_wait_cycle (L : LockState) (rank : Nat → Nat) (h : L.orderedBy rank) (a : Nat) (path : List Nat) :
    ¬ L.chain (a :: path ++ [a]) := by
  intro hc
  obtain ⟨la, hla⟩ := waits_of_chain L a path a hc
  exact Nat.lt_irrefl _ (chain_rank_lt L rank h path a a la la hc hla hla)

/-- the no-nesting protocol is the special case: whoever waits holds nothing -/
theorem orderedBy_of_noNested (L : LockState) (rank : Nat → Nat) (h : L.noNested) : L.orderedBy rank := by
  intro t l hw x hx
  have : L.holds t = [] := h t (by rw [hw]; simp)
  rw [this] at hx; cases hx

/-! ### from the shape table to programs -/

theorem stackOrdered_snoc (rank : Nat → Nat) (h : List Lock) (lk : Lock) :
    ∀ b, stackOrdered rank b (h ++ [lk]) = true → b ≤ rank lk.1 ∧ bound rank h ≤ rank lk.1 := by
  induction h with
  | nil =>
    intro b hb
    simp only [List.nil_append, stackOrdered, Bool.and_true, decide_eq_true_eq] at hb
    exact ⟨hb, by simp [bound]⟩
  | cons x xs ih =>
    intro b hb
    simp only [List.cons_append, stackOrdered, Bool.and_eq_true, decide_eq_true_eq] at hb
    obtain ⟨h1, h2⟩ := ih _ hb.2
    simp only [bound]
    omega

/-- a program that follows a shape all of whose sections are taken in increasing rank acquires in order -/
theorem ordered_of_follows (rank : Nat → Nat) (p : Prog σ ρ) :
    ∀ (h : List Lock) (l : List (List Lock)), p.follows h l → (∀ st, st ∈ l → stackOrdered rank 0 st = true) →
      p.ordered rank (bound rank h) := by
  induction p with
  | done r => intro h l _ _; trivial
  | sec lk upd next ih =>
    intro h l hf hs
    cases l with
    | nil => exact hf.elim
    | cons st ls =>
      obtain ⟨rfl, hnext⟩ := hf
      exact ⟨(stackOrdered_snoc rank h lk 0 (hs _ (List.mem_cons_self ..))).2,
        fun s => ih s h ls (hnext s) fun st' hm => hs st' (List.mem_cons_of_mem _ hm)⟩
  | hold lk upd body ih =>
    intro h l hf hs
    cases l with
    | nil => exact hf.elim
    | cons st ls =>
      obtain ⟨rfl, hnext⟩ := hf
      have hb := (stackOrdered_snoc rank h lk 0 (hs _ (List.mem_cons_self ..))).2
      exact ⟨hb, fun s => bound_snoc_of_le hb ▸ ih s (h ++ [lk]) ls (hnext s) fun st' hm => hs st' (List.mem_cons_of_mem _ hm)⟩
  | act upd next ih =>
    intro h l hf hs
    exact fun s => ih s h l (hf s) hs

/-! ### decidable forms of `respects` and of quiescence (finitely many active threads) -/

theorem respects_of_respectsB (us : List Nat) (sched : List Nat) :
    ∀ c : Cfg ι σ ρ, (∀ u, u ∉ us → c.thr u = []) → respectsB c us sched = true → respects c sched := by
  induction sched with
  | nil => intro c _ _; trivial
  | cons t r ih =>
    intro c hidle hb
    simp only [respectsB, Bool.and_eq_true] at hb
    refine ⟨?_, ih _ (step_keeps_idle c t us hidle) hb.2⟩
    intro it rest hth lk hacq u l hl
    by_cases hm : u ∈ us
    · have h1 := hb.1
      simp only [enabledB, hth, hacq, List.all_eq_true] at h1
      have := h1 u hm l hl
      simpa using this
    · simp [Cfg.holds, hidle u hm] at hl

theorem exec_keeps_idle (us : List Nat) (sched : List Nat) :
    ∀ c : Cfg ι σ ρ, (∀ u, u ∉ us → c.thr u = []) → ∀ u, u ∉ us → (exec c sched).thr u = [] :=
  exec_invariant (fun c t => step_keeps_idle c t us) sched

/-- nobody holds a lock, checked for the threads in `us` -/
def quiescentB (c : Cfg ι σ ρ) (us : List Nat) : Bool := us.all (fun u => (c.holds u).isEmpty)

theorem quiescent_of_quiescentB (c : Cfg ι σ ρ) (us : List Nat) (hidle : ∀ u, u ∉ us → c.thr u = [])
    (h : quiescentB c us = true) : ∀ u, c.holds u = [] := by
  intro u
  by_cases hm : u ∈ us
  · have := List.all_eq_true.mp h u hm
    simpa using this
  · simp [Cfg.holds, hidle u hm]

theorem init_idle (prog : ι → Prog σ ρ) (ops : Nat → List ι) (s0 : σ) (us : List Nat) (h : ∀ u, u ∉ us → ops u = []) :
    ∀ u, u ∉ us → (init prog ops s0).thr u = [] := by
  intro u hu; simp [init, h u hu]

/-! ## nested sections: simulation by the fused (atomic) operations -/

theorem logOf_snoc (l : List (Nat × ι × ρ)) (e : Nat × ι × ρ) (u : Nat) :
    logOf (l ++ [e]) u = logOf l u ++ (if e.1 = u then [e] else []) := by
  simp only [logOf, List.filter_append]
  by_cases h : e.1 = u <;> simp [h]

section nest
variable {β : Type} (K : NestOps ι σ ρ β) (prog : ι → Prog σ ρ)

/-- an operation that is not inside a nested section: a flat operation (identical on both sides,
    holds nothing, every section either takes the outer lock or is independent of what it
    protects), or a nested operation that has not started vs its fusion -/
def NFresh : Item ι σ ρ → Item ι σ ρ → Prop :=
  Fresh K.is (K.fuse prog) (fun ic => ic.held = [] ∧ K.good ic.rem)
    (fun ic => ic.rem = K.nested ic.op ∧ ic.pc = 0 ∧ ic.held = [])

abbrev NTail := Pairs (NFresh K prog)

/-- the simulation relation: nobody is inside a nested section (`free`), or exactly one thread is —
    after step 1 (`ph1`: its `pre` has run on the concrete side only) or after the inner section
    (`ph2`: the fused operation has completed on the abstract side, `post` is still to run on the
    concrete side) -/
inductive NRel (c a : Cfg ι σ ρ) : Prop where
  | free (hst : c.st = a.st) (hlog : ∀ u, logOf a.log u = logOf c.log u)
      (hq : ∀ u, NTail K prog (c.thr u) (a.thr u))
  | ph1 (t : Nat) (i : ι) (b0 : β) (rc ra : List (Item ι σ ρ))
      (hi : K.is i = true) (he : K.early i b0 = none)
      (hst : c.st = K.L.set (K.pre i b0) a.st) (hb : K.L.get a.st = b0)
      (hlog : ∀ u, logOf a.log u = logOf c.log u)
      (hc : c.thr t = { op := i, rem := K.inner i b0, pc := 1, held := [(K.S, 1)] } :: rc)
      (ha : a.thr t = { op := i, rem := K.fuse prog i, pc := 0 } :: ra)
      (htail : NTail K prog rc ra)
      (hq : ∀ u, u ≠ t → NTail K prog (c.thr u) (a.thr u))
  | ph2 (t : Nat) (i : ι) (s1 : σ) (rc : List (Item ι σ ρ))
      (hi : K.is i = true)
      (hst : a.st = K.L.set (K.post i s1 (K.L.get c.st)) c.st)
      (hlog : ∀ u, logOf a.log u = logOf c.log u ++ (if t = u then [(t, i, K.res i)] else []))
      (hc : c.thr t = { op := i, rem := K.tail i s1, pc := 2, held := [(K.S, 1)] } :: rc)
      (htail : NTail K prog rc (a.thr t))
      (hq : ∀ u, u ≠ t → NTail K prog (c.thr u) (a.thr u))

/-- a flat step that does not take the outer lock commutes with every change of the protected part -/
theorem good_adv_indep {p : Prog σ ρ} (hg : K.good p) (hS : ∀ lk, p.acquires = some lk → lk.1 ≠ K.S) (s : σ) (x : β) :
    (p.adv (K.L.set x s)).1 = K.L.set x (p.adv s).1 ∧ (p.adv (K.L.set x s)).2 = (p.adv s).2 ∧
    K.L.get (p.adv s).1 = K.L.get s := by
  cases p with
  | done r => simp [Prog.adv]
  | sec lk upd next =>
    obtain ⟨h1, h2, h3⟩ := hg.1 (hS lk rfl) s x
    simp [Prog.adv, h1, h2, h3]
  | hold lk upd body => exact hg.elim
  | act upd next => exact hg.elim

theorem good_adv_good {p : Prog σ ρ} (hg : K.good p) (s : σ) : K.good (p.adv s).2.1 ∧ (p.adv s).2.2 = [] := by
  cases p with
  | done r => exact ⟨trivial, rfl⟩
  | sec lk upd next => exact ⟨hg.2 s, rfl⟩
  | hold lk upd body => exact hg.elim
  | act upd next => exact hg.elim

theorem skips_eq {c : Cfg ι σ ρ} {t : Nat} {it : Item ι σ ρ} {rest : List (Item ι σ ρ)} (h : c.thr t = it :: rest) :
    K.skips c t = (K.is it.op && ((it.pc == 0 && (K.early it.op (K.L.get c.st)).isNone) || it.pc == 2)) := by
  simp [NestOps.skips, h]

theorem fuse_nested {i : ι} (hi : K.is i = true) : K.fuse prog i = Prog.atomic (K.S, 1) (K.eff i) := by
  simp [NestOps.fuse, hi]

/-- while `tt` holds the outer lock, an enabled step of another thread does not take it -/
theorem not_outer_of_enabled {c : Cfg ι σ ρ} {t tt : Nat} {it : Item ι σ ρ} {rest : List (Item ι σ ρ)}
    (hen : enabled c t) (hth : c.thr t = it :: rest) (hh : (K.S, 1) ∈ c.holds tt) :
    ∀ lk, it.rem.acquires = some lk → lk.1 ≠ K.S := by
  intro lk hacq e
  have := hen it rest hth lk hacq tt (K.S, 1) hh
  simp [conflict, e] at this

theorem logOf_append (l d : List (Nat × ι × ρ)) (u : Nat) : logOf (l ++ d) u = logOf l u ++ logOf d u := by
  simp [logOf, List.filter_append]

/-- the same flat operation at the head of `t` steps on both sides, in states related by an `S` its step keeps -/
theorem flat_pair_step (S : σ → σ → Prop) {c a : Cfg ι σ ρ} {t : Nat} {it : Item ι σ ρ} {rc ra : List (Item ι σ ρ)}
    (hc : c.thr t = it :: rc) (ha : a.thr t = it :: ra) (hno : K.is it.op = false) (hheld : it.held = [])
    (hg : K.good it.rem) (htl : NTail K prog rc ra)
    (h1 : S (it.rem.adv c.st).1 (it.rem.adv a.st).1) (h2 : (it.rem.adv a.st).2 = (it.rem.adv c.st).2) :
    S (step c t).st (step a t).st ∧ ∃ d, (∀ u, u ≠ t → logOf d u = []) ∧ (step c t).log = c.log ++ d ∧
      (step a t).log = a.log ++ d ∧ NTail K prog ((step c t).thr t) ((step a t).thr t) ∧
      ∀ u, u ≠ t → (step c t).thr u = c.thr u ∧ (step a t).thr u = a.thr u := by
  obtain ⟨g1, g2⟩ := good_adv_good K hg c.st
  have oth : ∀ (qc qa : List (Item ι σ ρ)) u, u ≠ t → setThr c.thr t qc u = c.thr u ∧ setThr a.thr t qa u = a.thr u :=
    fun _ _ u hu => ⟨setThr_other _ _ hu, setThr_other _ _ hu⟩
  cases hd : (it.rem.adv c.st).2.1.isDone with
  | some r =>
    rw [step_complete hc hd, step_complete ha (h2 ▸ hd)]
    exact ⟨h1, [(t, it.op, r)], fun u hu => by simp [logOf, Ne.symm hu], rfl, rfl,
      by simpa [setThr_same] using htl, oth _ _⟩
  | none =>
    rw [step_continue hc hd, step_continue ha (h2 ▸ hd)]
    refine ⟨h1, [], fun _ _ => rfl, (List.append_nil _).symm, (List.append_nil _).symm, ?_, oth _ _⟩
    simp only [setThr_same, h2]
    exact ⟨.inl ⟨hno, rfl, by simp [hheld, g2], g1⟩, htl⟩

/-- the thread OTHER than the one inside a nested section (which holds the outer lock): it is idle
    on both sides, or the same flat operation is at its head on both sides and its next step does not
    take the outer lock -/
theorem other_flat {c a : Cfg ι σ ρ} {t tt : Nat} (hen : enabled c t)
    (hh : (K.S, 1) ∈ c.holds tt) (hqt : NTail K prog (c.thr t) (a.thr t)) :
    K.skips c t = false ∧
    ((c.thr t = [] ∧ a.thr t = []) ∨
     (∃ it rc ra, c.thr t = it :: rc ∧ a.thr t = it :: ra ∧ K.is it.op = false ∧ it.held = [] ∧ K.good it.rem ∧
        (∀ lk, it.rem.acquires = some lk → lk.1 ≠ K.S) ∧ NTail K prog rc ra)) := by
  cases hth : c.thr t with
  | nil =>
    rw [hth] at hqt
    exact ⟨by simp [NestOps.skips, hth], Or.inl ⟨rfl, pairs_nil_left hqt⟩⟩
  | cons ic rc =>
    rw [hth] at hqt
    obtain ⟨ia, ra, hta, hfresh, htl⟩ := pairs_cons_left hqt
    cases hfresh with
    | inr kf =>
      -- a nested operation would take the outer lock, which `tt` holds
      obtain ⟨_, ⟨hrem, _⟩, _⟩ := kf
      have hacq : ic.rem.acquires = some (K.S, 1) := by rw [hrem]; rfl
      exact absurd rfl (not_outer_of_enabled K hen hth hh _ hacq)
    | inl fl =>
      obtain ⟨hno, heq, hheld, hg⟩ := fl
      subst heq
      refine ⟨by rw [skips_eq K hth]; simp [hno], Or.inr ⟨ic, rc, ra, rfl, hta, hno, hheld, hg, ?_, htl⟩⟩
      exact not_outer_of_enabled K hen hth hh

theorem other_step (S : σ → σ → Prop) {c a : Cfg ι σ ρ} {t tt : Nat}
    (hS : ∀ p : Prog σ ρ, K.good p → (∀ lk, p.acquires = some lk → lk.1 ≠ K.S) →
      S (p.adv c.st).1 (p.adv a.st).1 ∧ (p.adv a.st).2 = (p.adv c.st).2)
    (hen : enabled c t) (hh : (K.S, 1) ∈ c.holds tt) (hqt : NTail K prog (c.thr t) (a.thr t)) (hst : S c.st a.st) :
    K.skips c t = false ∧ S (step c t).st (step a t).st ∧ ∃ d, (∀ u, u ≠ t → logOf d u = []) ∧
      (step c t).log = c.log ++ d ∧ (step a t).log = a.log ++ d ∧ NTail K prog ((step c t).thr t) ((step a t).thr t) ∧
      ∀ u, u ≠ t → (step c t).thr u = c.thr u ∧ (step a t).thr u = a.thr u := by
  obtain ⟨hsk, ⟨hcn, han⟩ | ⟨it, rc, ra, hth, hta, hno, hheld, hg, hl, htl⟩⟩ := other_flat K prog hen hh hqt
  · rw [step_nil hcn, step_nil han]
    exact ⟨hsk, hst, [], fun _ _ => rfl, (List.append_nil _).symm, (List.append_nil _).symm, hqt, fun _ _ => ⟨rfl, rfl⟩⟩
  · exact ⟨hsk, flat_pair_step K prog S hth hta hno hheld hg htl (hS _ hg hl).1 (hS _ hg hl).2⟩

theorem nrel_step (c a : Cfg ι σ ρ) (t : Nat) (h : NRel K prog c a) (hen : enabled c t) :
    NRel K prog (step c t) (if K.skips c t then a else step a t) := by
  cases h with
  | free hst hlog hq =>
    have hqt := hq t
    cases hth : c.thr t with
    | nil =>
      rw [hth] at hqt
      have hsk : K.skips c t = false := by simp [NestOps.skips, hth]
      rw [hsk, step_nil hth, step_nil (pairs_nil_left hqt)]
      exact .free hst hlog hq
    | cons ic rc =>
      rw [hth] at hqt
      obtain ⟨ia, ra, hta, hfresh, htl⟩ := pairs_cons_left hqt
      rcases hfresh with ⟨hno, rfl, hheld, hg⟩ | ⟨hyes, ⟨hrem, hpc, hheld⟩, rfl⟩
      · -- a flat operation: the same step on both sides
        have hsk : K.skips c t = false := by rw [skips_eq K hth, hno]; rfl
        rw [hsk, if_neg Bool.false_ne_true]
        obtain ⟨s1, d, _, cl, al, qt, oth⟩ :=
          flat_pair_step K prog Eq hth hta hno hheld hg htl (by rw [hst]) (by rw [hst])
        refine .free s1 (fun u => by rw [al, cl, logOf_append, logOf_append, hlog u]) fun u => ?_
        by_cases e : u = t
        · subst e; exact qt
        · rw [(oth u e).1, (oth u e).2]; exact hq u
      · have hadv : ic.rem.adv c.st = (K.L.set (K.pre ic.op (K.L.get c.st)) c.st,
            (match K.early ic.op (K.L.get c.st) with
              | some r => .done r
              | none => K.inner ic.op (K.L.get c.st)), [(K.S, 1)]) := by rw [hrem]; rfl
        cases he : K.early ic.op (K.L.get c.st) with
        | some r =>
          -- early return: both sides complete in this step
          have hsk : K.skips c t = false := by rw [skips_eq K hth, he, hpc]; simp
          rw [hsk, if_neg Bool.false_ne_true]; rw [he] at hadv
          have hea : K.eff ic.op a.st = (K.L.set (K.pre ic.op (K.L.get c.st)) c.st, r) := by
            rw [← hst]; simp [NestOps.eff, he]
          have hd' : (((K.fuse prog ic.op).adv a.st).2.1).isDone = some r := by
            rw [fuse_nested K prog hyes]; simp [Prog.atomic, Prog.adv, Prog.isDone, hea]
          have hc := step_complete hth (r := r) (by rw [hadv]; rfl)
          have ha := step_complete hta hd'
          rw [fuse_nested K prog hyes] at ha
          simp only [Prog.atomic, Prog.adv, hea] at ha
          rw [hc, ha, hadv]
          exact .free rfl (fun u => by simp only [logOf_snoc, hlog u]) fun u => setThr_rel htl fun _ => hq u
        | none =>
          -- step 1: the concrete side takes the outer lock and runs `pre`; the abstract side waits
          have hsk : K.skips c t = true := by rw [skips_eq K hth, he, hpc, hyes]; rfl
          rw [hsk, if_pos rfl]; rw [he] at hadv
          have hc := step_continue hth (by rw [hadv]; rfl)
          rw [hadv] at hc
          simp only [hpc, hheld, List.nil_append, Nat.zero_add] at hc
          refine .ph1 t ic.op (K.L.get c.st) rc ra hyes he (by rw [hc, hst]) (by rw [hst]) (fun u => by rw [hc]; exact hlog u)
            (by rw [hc]; simp [setThr_same]) hta htl fun u hu => ?_
          rw [hc]; simpa [setThr_other _ _ hu] using hq u
  | ph1 tt i b0 rc ra hi he hst hb hlog hc ha htail hq =>
    by_cases e : t = tt
    · -- the inner section: the fused operation runs now
      subst e
      have hsk : K.skips c t = false := by rw [skips_eq K hc]; simp
      rw [hsk, if_neg Bool.false_ne_true]
      have hc' := step_continue hc (by rfl : ((K.inner i b0).adv c.st).2.1.isDone = none)
      simp only [NestOps.inner, Prog.adv, List.append_nil] at hc'
      have hea : K.eff i a.st = (K.L.set (K.post i c.st (K.L.get (K.mid i b0 c.st))) (K.mid i b0 c.st), K.res i) := by
        simp only [NestOps.eff, hb, he, ← hst]
      rw [fuse_nested K prog hi] at ha
      have ha' := step_complete ha (r := K.res i) (by simp [Prog.atomic, Prog.adv, Prog.isDone, hea])
      simp only [Prog.atomic, Prog.adv, hea] at ha'
      rw [ha', hc']
      exact .ph2 t i c.st rc hi rfl (fun u => by simp only [logOf_snoc, hlog u]) (by simp [setThr_same])
        (by simpa [setThr_same] using htail) fun u hu => by simpa [setThr_other _ _ hu] using hq u hu
    · -- another thread: the concrete state stays the abstract one with the protected part changed
      obtain ⟨hsk, ⟨s1, sb⟩, d, _, cl, al, qt, oth⟩ := other_step K prog (tt := tt)
        (fun s s' => s = K.L.set (K.pre i b0) s' ∧ K.L.get s' = b0)
        (fun p hg hl => by
          obtain ⟨g1, g2, g3⟩ := good_adv_indep K hg hl a.st (K.pre i b0)
          rw [hst]; exact ⟨⟨g1, g3.trans hb⟩, g2.symm⟩)
        hen (by simp [Cfg.holds, hc]) (hq t e) ⟨hst, hb⟩
      have ett : tt ≠ t := fun x => e x.symm
      rw [hsk, if_neg Bool.false_ne_true]
      refine .ph1 tt i b0 rc ra hi he s1 sb (fun u => by rw [al, cl, logOf_append, logOf_append, hlog u])
        (by rw [(oth tt ett).1]; exact hc) (by rw [(oth tt ett).2]; exact ha) htail fun u hu => ?_
      by_cases e2 : u = t
      · subst e2; exact qt
      · rw [(oth u e2).1, (oth u e2).2]; exact hq u hu
  | ph2 tt i s1 rc hi hst hlog hc htail hq =>
    by_cases e : t = tt
    · -- step 3: `post` runs on the concrete side and the operation completes there
      subst e
      have hsk : K.skips c t = true := by rw [skips_eq K hc]; simp [hi]
      rw [hsk, if_pos rfl]
      have hc' := step_complete hc (by rfl : ((K.tail i s1).adv c.st).2.1.isDone = some (K.res i))
      simp only [NestOps.tail, Prog.adv] at hc'
      rw [hc']
      refine .free hst.symm (fun u => by rw [logOf_snoc]; exact hlog u) fun u => ?_
      by_cases e2 : u = t
      · subst e2; simpa [setThr_same] using htail
      · simpa [setThr_other _ _ e2] using hq u e2
    · -- another thread: the abstract state stays the concrete one with `post` already done
      obtain ⟨hsk, s1', d, hd0, cl, al, qt, oth⟩ := other_step K prog (tt := tt)
        (fun s s' => s' = K.L.set (K.post i s1 (K.L.get s)) s)
        (fun p hg hl => by
          obtain ⟨g1, g2, g3⟩ := good_adv_indep K hg hl c.st (K.post i s1 (K.L.get c.st))
          rw [hst, g3]; exact ⟨g1, g2⟩)
        hen (by simp [Cfg.holds, hc]) (hq t e) hst
      have ett : tt ≠ t := fun x => e x.symm
      rw [hsk, if_neg Bool.false_ne_true]
      refine .ph2 tt i s1 rc hi s1' (fun u => ?_) (by rw [(oth tt ett).1]; exact hc)
        (by rw [(oth tt ett).2]; exact htail) fun u hu => ?_
      · -- entries of `d` belong to thread `t ≠ tt`
        rw [al, cl, logOf_append, logOf_append, hlog u, List.append_assoc, List.append_assoc]
        by_cases e3 : tt = u
        · subst e3; simp [hd0 tt ett]
        · simp [e3]
      · by_cases e2 : u = t
        · subst e2; exact qt
        · rw [(oth u e2).1, (oth u e2).2]; exact hq u hu

theorem nrel_init (hK : K.describes prog) (ops : Nat → List ι)
    (hgood : ∀ t i, i ∈ ops t → K.is i = false → K.good (prog i)) (s0 : σ) :
    NRel K prog (init prog ops s0) (init (K.fuse prog) ops s0) := by
  refine .free rfl (fun _ => rfl) fun u => pairs_map _ _ _ fun i hi => ?_
  cases his : K.is i
  · exact .inl ⟨his, by simp [NestOps.fuse, his], rfl, hgood u i hi his⟩
  · exact .inr ⟨his, ⟨hK i his, rfl, rfl⟩, rfl⟩

/-- what the relation says when no thread is inside a nested section -/
theorem nrel_quiescent {c a : Cfg ι σ ρ} (h : NRel K prog c a) (hq : ∀ u, c.holds u = []) :
    c.st = a.st ∧ (∀ u, logOf c.log u = logOf a.log u) ∧ ∀ u, (c.thr u).map (·.op) = (a.thr u).map (·.op) := by
  cases h with
  | free hst hlog hqs => exact ⟨hst, fun u => (hlog u).symm, fun u => pairs_ops fresh_op _ _ (hqs u)⟩
  | ph1 t i b0 rc ra hi he hst hb hlog hc ha htail hqs =>
    have := hq t
    simp [Cfg.holds, hc] at this
  | ph2 t i s1 rc hi hst hlog hc htail hqs =>
    have := hq t
    simp [Cfg.holds, hc] at this

/-- … and at any moment: every thread has obtained, in the same order, a prefix of the results it
    obtains in the run of the fused operations (one result may be outstanding: its step 3) -/
theorem nrel_log_prefix {c a : Cfg ι σ ρ} (h : NRel K prog c a) (u : Nat) :
    ∃ d, logOf a.log u = logOf c.log u ++ d := by
  cases h with
  | free hst hlog hqs => exact ⟨[], by simp [hlog u]⟩
  | ph1 t i b0 rc ra hi he hst hb hlog hc ha htail hqs => exact ⟨[], by simp [hlog u]⟩
  | ph2 t i s1 rc hi hst hlog hc htail hqs => exact ⟨_, hlog u⟩

end nest

end MdkVerif.Locks
