import MdkVerif.Model.Welcome
import MdkVerif.Proofs.Welcome
import MdkVerif.Proofs.Refine
/-
  Proofs.WelcomeNid — the nostr group id (routing key of kind-445 events) in the invitation model:
  the invariant "no two records of one client carry the same nostr group id" (`NidInv`; for the memory
  backend together with the consistency of its by-id index), that `save_group` refuses a record whose id
  another record holds (`saveGroup_collision`), and that every storage write the invitation state machine
  and the modelled group traffic perform preserves the invariant.
-/
namespace MdkVerif.Welcome
open MdkVerif MdkVerif.Store

/-- no two records share a nostr group id; on the memory backend every record is what the by-id index
    answers for its id -/
structure NidInv (s : Store) : Prop where
  uniq : ∀ a b ga gb, findGroup s a = some ga → findGroup s b = some gb → ga.nid = gb.nid → a = b
  idx : s.backend = .mem → ∀ a ga, findGroup s a = some ga → alookup ga.nid s.byNid = some ga
  nodup : s.groups.Pairwise (fun x y => x.gid ≠ y.gid)

theorem nidInv_empty (b : Backend) : NidInv (Store.empty b) :=
  ⟨fun a _ ga _ h => by simp [findGroup, Store.empty] at h, fun _ a ga h => by simp [findGroup, Store.empty] at h,
   by simp [Store.empty]⟩

theorem nidInv_iff (s : Store) :
    NidInv s ↔ GInv s.groups ∧ (s.backend = .mem → ∀ g ∈ s.groups, alookup g.nid s.byNid = some g) := by
  constructor
  · intro h
    have fg : ∀ g ∈ s.groups, findGroup s g.gid = some g := fun g hg => (find?_beq_iff h.nodup g.gid g).2 ⟨hg, rfl⟩
    refine ⟨?_, fun hm g hg => h.idx hm g.gid g (fg g hg)⟩
    exact List.Pairwise.imp_of_mem
      (fun {a b} ha hb hne => ⟨hne, fun e => hne (h.uniq a.gid b.gid a b (fg a ha) (fg b hb) e)⟩) h.nodup
  · rintro ⟨hg, hi⟩
    refine ⟨fun a b ga gb ha hb e => ?_, fun hm a ga ha => hi hm ga (List.mem_of_find?_eq_some ha), hg.imp And.left⟩
    have := ginv_eq_of_nid hg (List.mem_of_find?_eq_some ha) (List.mem_of_find?_eq_some hb) e
    rw [← findGroup_gid ha, ← findGroup_gid hb, this]

theorem NidInv.of_eq {s s' : Store} (h : NidInv s) (h1 : s'.groups = s.groups) (h2 : s'.byNid = s.byNid)
    (h3 : s'.backend = s.backend) : NidInv s' := by
  have fg : ∀ a, findGroup s' a = findGroup s a := fun a => by simp [findGroup, h1]
  refine ⟨?_, ?_, h1 ▸ h.nodup⟩
  · intro a b ga gb ha hb; rw [fg] at ha hb; exact h.uniq a b ga gb ha hb
  · intro hm a ga ha; rw [fg] at ha; rw [h2]; exact h.idx (h3 ▸ hm) a ga ha

/-- the nostr group id `nid` is carried by the record of a group other than `gid` -/
def HeldByOther (s : Store) (nid gid : Nat) : Prop :=
  ∃ h y, findGroup s h = some y ∧ y.nid = nid ∧ h ≠ gid

/-- **the uniqueness rule of `save_group`, both backends**: a record whose nostr group id is carried by
    another group's record is refused (and the store is unchanged: `none`) -/
theorem saveGroup_collision (s : Store) (g : Group) (hinv : NidInv s) (hc : HeldByOther s g.nid g.gid) :
    saveGroup s g = none := by
  obtain ⟨h, y, hy, hn, hne⟩ := hc
  have hne' : y.gid ≠ g.gid := findGroup_gid hy ▸ hne
  cases hs : saveGroup s g with
  | none => rfl
  | some s' =>
    have acc := ((saveGroup_isSome s g).1 (by rw [hs]; rfl)).2.2
    cases hb : s.backend with
    | mem =>
      simp only [hb] at acc
      exact absurd (acc.2 y (hn ▸ hinv.idx hb h y hy)) hne'
    | sql =>
      simp only [hb] at acc
      have : s.groups.any (fun x => x.nid == g.nid && x.gid != g.gid) = true :=
        List.any_eq_true.2 ⟨y, List.mem_of_find?_eq_some hy, by simp [hn, hne']⟩
      rw [acc] at this; cases this

theorem saveGroup_byNid_sql (s s' : Store) (g : Group) (hb : s.backend = .sql) (h : saveGroup s g = some s') :
    s'.byNid = s.byNid := by
  rw [saveGroup_some_sql hb h]

theorem saveGroup_nidInv (s s' : Store) (g : Group) (hinv : NidInv s) (h : saveGroup s g = some s') : NidInv s' := by
  obtain ⟨hg, hi⟩ := (nidInv_iff s).1 hinv
  -- no other record carries g.nid
  have hfree : ∀ x ∈ s.groups, x.nid = g.nid → x.gid = g.gid := fun x hx hn =>
    Classical.byContradiction fun hne => by
      have := saveGroup_collision s g hinv ⟨x.gid, x, (find_gid_iff hg _ x).2 ⟨hx, rfl⟩, hn, hne⟩
      rw [this] at h; cases h
  obtain rfl := saveGroup_some h
  refine (nidInv_iff _).2 ⟨ginv_replaceGroup hg g hfree, fun hm x hx => ?_⟩
  have hm : s.backend = .mem := hm
  simp only [hm, memIdx]
  rcases (mem_replaceGroup hg g x).1 hx with rfl | ⟨hx', hne⟩
  · exact alookup_ainsert_self ..
  rw [alookup_ainsert_ne _ _ _ _ fun e => hne (hfree x hx' e)]
  -- the entry of `x` is still there: the only entry erased is that of the record replaced
  cases hold : findGroup s g.gid with
  | none => exact hi hm x hx'
  | some old =>
    simp only
    split
    · rw [alookup_aerase_ne _ _ _ fun e =>
        hne (ginv_eq_of_nid hg hx' (List.mem_of_find?_eq_some hold) e ▸ findGroup_gid hold)]
      exact hi hm x hx'
    · exact hi hm x hx'

theorem savePw_nidInv (s : Store) (p : PW) (hinv : NidInv s) : NidInv (savePw s p) :=
  hinv.of_eq rfl rfl rfl

/-- **routing**: under the invariant the store answers the nostr group id of every record with that record's
    group — `find_group_by_nostr_group_id`, the first step of `process_message`, cannot hand an event of group `a`
    to another group (memory: the by-id index; SQLite: the query by the UNIQUE column) -/
theorem nidInv_routes (s : Store) (hinv : NidInv s) (a : Nat) (g : Group) (h : findGroup s a = some g) :
    ∃ x, findGroupNostr s g.nid = some x ∧ x.gid = a := by
  unfold findGroupNostr
  cases hb : s.backend with
  | mem => exact ⟨g, hinv.idx hb a g h, findGroup_gid h⟩
  | sql =>
    exact ⟨g, (find_nid_iff ((nidInv_iff s).1 hinv).1 _ g).2 ⟨List.mem_of_find?_eq_some h, rfl⟩, findGroup_gid h⟩

theorem nidInv_kept : Kept (fun c => NidInv c.store) (fun _ => True) (fun _ => True) where
  pw p h := savePw_nidInv _ p h
  welcome h hs := by obtain rfl := saveWelcome_some hs; exact h.of_eq rfl rfl rfl
  relays h _ hs := by obtain rfl := replaceRelays_some hs; exact h.of_eq rfl rfl rfl
  group h _ hs := saveGroup_nidInv _ _ _ h hs
  mls _ h _ := h

theorem process_nidInv (c : Client) (wr : Nat) (m : Invite) (h : NidInv c.store) : NidInv (process c wr m).1.store :=
  process_kept nidInv_kept c wr m trivial trivial h

theorem accept_nidInv (c : Client) (m : Invite) (h : NidInv c.store) : NidInv (accept c m).1.store :=
  accept_kept nidInv_kept c m (fun _ _ => trivial) trivial h

theorem decline_nidInv (c : Client) (m : Invite) (h : NidInv c.store) : NidInv (decline c m).1.store :=
  decline_kept nidInv_kept c m (fun _ _ => trivial) h

/-- `exporter_secret` touches the secret cache only -/
theorem exporterSecret_frame (c : Client) (gid : Nat) :
    (exporterSecret c gid).1.mls = c.mls ∧ (exporterSecret c gid).1.store.groups = c.store.groups ∧
    (exporterSecret c gid).1.store.byNid = c.store.byNid ∧ (exporterSecret c gid).1.store.backend = c.store.backend := by
  unfold exporterSecret
  split
  · exact ⟨rfl, rfl, rfl, rfl⟩
  · split
    · exact ⟨rfl, rfl, rfl, rfl⟩
    · exact ⟨rfl, rfl, rfl, rfl⟩
    · split
      · exact ⟨rfl, rfl, rfl, rfl⟩
      · rename_i s1 hs1
        obtain rfl := saveSecret_some hs1
        exact ⟨rfl, rfl, rfl, rfl⟩

theorem exporterSecret_nidInv (c : Client) (gid : Nat) (h : NidInv c.store) : NidInv (exporterSecret c gid).1.store :=
  let ⟨_, hg, hb, hk⟩ := exporterSecret_frame c gid
  h.of_eq hg hb hk

theorem routeEvent_nidInv (c : Client) (nid : Nat) (h : NidInv c.store) : NidInv (routeEvent c nid).1.store := by
  unfold routeEvent
  split
  · exact h
  · split
    · exact h
    · exact exporterSecret_nidInv c _ h

theorem storeProbe_nidInv (c : Client) (gid seq : Nat) (h : NidInv c.store) : NidInv (storeProbe c gid seq).store := by
  unfold storeProbe
  split
  · exact h
  · simp only
    split
    · exact h
    · next s1 hs1 =>
      have h1 : NidInv s1 := by rw [(saveMessage_some hs1).2]; exact h.of_eq rfl rfl rfl
      split
      · exact h1
      · next s2 hs2 => exact saveGroup_nidInv _ _ _ h1 hs2

theorem deliverCommit_nidInv (c : Client) (k : Commit) (h : NidInv c.store) : NidInv (deliverCommit c k).1.store := by
  have hr := routeEvent_nidInv c k.nid h
  unfold deliverCommit
  generalize routeEvent c k.nid = p at hr
  obtain ⟨c1, _ | ⟨g, st, sec⟩⟩ := p
  · exact hr
  simp only
  by_cases e1 : g.gid ≠ k.gid
  · rw [if_pos e1]; exact hr
  by_cases e2 : sec ≠ some k.fromTok
  · rw [if_neg e1, if_pos e2]; exact hr
  by_cases e3 : st.tok ≠ k.fromTok
  · rw [if_neg e1, if_neg e2, if_pos e3]; exact hr
  rw [if_neg e1, if_neg e2, if_neg e3]
  split
  · split
    · exact hr
    · next hs1 => exact saveGroup_nidInv _ _ _ hr hs1
  · have h2 := exporterSecret_nidInv { c1 with mls := ainsert k.gid ⟨k.toTok, k.toEpoch, k.members⟩ c1.mls } k.gid hr
    split
    · exact h2
    · next hs1 => exact saveGroup_nidInv _ _ _ h2 hs1

theorem deliverApp_nidInv (c : Client) (gid nid tok seq : Nat) (h : NidInv c.store) :
    NidInv (deliverApp c gid nid tok seq).1.store := by
  have hr := routeEvent_nidInv c nid h
  unfold deliverApp
  split
  · rename_i c1 heq; rw [heq] at hr; exact hr
  · rename_i c1 g st sec heq
    rw [heq] at hr
    simp only at hr
    split
    · exact storeProbe_nidInv c1 gid seq hr
    · exact hr

end MdkVerif.Welcome
