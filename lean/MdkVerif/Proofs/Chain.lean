import MdkVerif.Model.Client
import MdkVerif.Proofs.Client
import MdkVerif.Proofs.Store
import MdkVerif.Proofs.Fork
import MdkVerif.Proofs.ForkInv
import MdkVerif.Props.C01Fork
/-
  MdkVerif.Proofs.Chain — lemmas for lifting the single-fork theorems of C01 to many clients and to
  chains of forks (`Props/C01Chain.lean`).

  `process_message` is walked through the outcome relations of Proofs/Client.lean (`Step1`, `OwnMsg`, `Local`);
  what the fork simulation knows comes from Proofs/Fork.lean (`RelG`, `CForm`).
-/
namespace MdkVerif.Chain
open MdkVerif MdkVerif.Client MdkVerif.Fork MdkVerif.Props.C01Fork
open MdkVerif.Store (alookup_ainsert_self alookup_ainsert_ne)

theorem forall_mem_pair {α : Type} {p : α → Prop} {a b : α} (ha : p a) (hb : p b) : ∀ x ∈ [a, b], p x := by
  intro x hx
  simp only [List.mem_cons, List.not_mem_nil, or_false] at hx
  rcases hx with rfl | rfl
  · exact ha
  · exact hb

/-- delivering a list of events, one after the other -/
def run (nx : Nat) (c : Cl) (l : List Ev) : Cl := l.foldl (fun c e => (deliver c e nx).1) c

@[simp] theorem run_nil (nx : Nat) (c : Cl) : run nx c [] = c := rfl
@[simp] theorem run_cons (nx : Nat) (c : Cl) (e : Ev) (l : List Ev) : run nx c (e :: l) = run nx (deliver c e nx).1 l := rfl
theorem run_append (nx : Nat) (c : Cl) (l1 l2 : List Ev) : run nx c (l1 ++ l2) = run nx (run nx c l1) l2 := by
  simp [run, List.foldl_append]

/-! ## §A  frame lemmas

  `Frame ep n c c'`: as far as the configuration of the client and the dedup record of event number
  `n` go, `c'` differs from `c` at most by re-markings of a rollback to epoch `ep` (`rbRec ep`, which
  never creates or deletes a record).  Delivering `e` is a `Frame (epochOf e.path) n` for every
  `n ≠ e.n`. -/

structure Frame (ep n : Nat) (c c' : Cl) : Prop where
  id : c'.id = c.id
  persistent : c'.persistent = c.persistent
  retention : c'.retention = c.retention
  maxPast : c'.maxPast = c.maxPast
  hasGroup : c'.hasGroup = c.hasGroup
  /-- every property of the record of `n` that survives a rollback re-marking survives the step (not an equation: whether,
      and how often, the step rolled back is not known; properties closed under `rbRec ep` compose over runs) -/
  recs : ∀ P : Option Rec → Prop, (∀ o, P o → P (o.map (rbRec ep))) → P (getRec c n) → P (getRec c' n)

theorem frame_refl (ep n : Nat) (c : Cl) : Frame ep n c c := ⟨rfl, rfl, rfl, rfl, rfl, fun _ _ h => h⟩

theorem Frame.trans {ep n : Nat} {a b c : Cl} (h1 : Frame ep n a b) (h2 : Frame ep n b c) : Frame ep n a c :=
  ⟨h2.id.trans h1.id, h2.persistent.trans h1.persistent, h2.retention.trans h1.retention,
   h2.maxPast.trans h1.maxPast, h2.hasGroup.trans h1.hasGroup, fun P hP h => h2.recs P hP (h1.recs P hP h)⟩

theorem frame_struct (ep n : Nat) (c c' : Cl) (h1 : c'.id = c.id) (h2 : c'.persistent = c.persistent)
    (h3 : c'.retention = c.retention) (h4 : c'.maxPast = c.maxPast) (h5 : c'.hasGroup = c.hasGroup)
    (h6 : c'.recs = c.recs) : Frame ep n c c' :=
  ⟨h1, h2, h3, h4, h5, fun P _ h => by simpa only [getRec, h6] using h⟩

theorem Frame.setRec {ep n : Nat} {c x : Cl} (h : Frame ep n c x) (m : Nat) (r : Rec) (hm : n ≠ m) :
    Frame ep n c (setRec x m r) :=
  h.trans ⟨rfl, rfl, rfl, rfl, rfl, fun P _ hp => by
    have : getRec (Client.setRec x m r) n = getRec x n := by
      simp only [getRec, Client.setRec]; exact alookup_ainsert_ne _ _ _ _ hm
    rw [this]; exact hp⟩

theorem Frame.recordFailure {ep n : Nat} {c x : Cl} (h : Frame ep n c x) (m : Nat) (b : Bool) (e : Option Nat) (hm : n ≠ m) :
    Frame ep n c (recordFailure x m b e) := h.setRec m _ hm

theorem frame_rollbackTo (n : Nat) (c c1 : Cl) (ep : Nat) (hr : rollbackTo c ep = some c1) : Frame ep n c c1 := by
  have hrec := rollbackTo_getRec hr n
  obtain ⟨_, _, _, _, _, _, rfl⟩ := rollbackTo_spec hr
  exact ⟨rfl, rfl, rfl, rfl, rfl, fun P hP h => by rw [hrec]; exact hP _ h⟩

theorem frame_setRec_struct (ep n : Nat) (c x : Cl) (m : Nat) (r : Rec) (hm : n ≠ m) (h1 : x.id = c.id)
    (h2 : x.persistent = c.persistent) (h3 : x.retention = c.retention) (h4 : x.maxPast = c.maxPast)
    (h5 : x.hasGroup = c.hasGroup) (h6 : x.recs = c.recs) : Frame ep n c (setRec x m r) :=
  (frame_struct ep n c x h1 h2 h3 h4 h5 h6).setRec m r hm

theorem frame_ownMessage (ep n : Nat) (c : Cl) (e : Ev) (hn : n ≠ e.n) : Frame ep n c (ownMessage c e).1 := by
  have hs := ownMessage_spec c e
  generalize ownMessage c e = r at hs ⊢
  cases hs with
  | same | echo => exact frame_struct ep n c _ rfl rfl rfl rfl rfl rfl
  | confirmed => exact frame_setRec_struct ep n c _ _ _ hn rfl rfl rfl rfl rfl rfl

/-- **frame of `process_message`**, every state, event and fuel: the configuration (`id`, `persistent`,
    `retention`, `maxPast`, `hasGroup`) never changes, and the dedup record of every OTHER event number
    is created by nothing and changed by nothing except the re-marking of a rollback to `e`'s epoch -/
theorem frame_deliverN (fuel nx : Nat) (c : Cl) (e : Ev) (n : Nat) (hn : n ≠ e.n) :
    Frame (epochOf e.path) n c (deliverN fuel nx c e).1 := by
  refine deliverN_induct (P := fun c r => Frame (epochOf e.path) n c r.1) nx e (fun c _ _ _ => frame_refl _ n c) ?_ fuel c
  intro c r _ hs
  have hw : Frame (epochOf e.path) n c (withSecret c) := frame_struct _ n c _ rfl rfl rfl rfl rfl rfl
  -- With the client a constructor application, an equation `x.id = c.id` is checked by reducing both sides.  For a
  -- variable `c` the unifier first tries to identify `x` with `c`, field by field through every layer of `{ · with … }`.
  obtain ⟨id, pers, ret, mp, hg, g, msgs, recs, mgr⟩ := c
  cases hs with
  | own => exact hw.trans (frame_ownMessage _ n _ e hn)
  | echoed => exact frame_struct _ n _ _ rfl rfl rfl rfl rfl rfl
  | retried _ _ _ _ hrb ih => exact hw.trans ((frame_rollbackTo n _ _ _ hrb).trans ih)
  | committed =>
    refine processCommit_cases (P := fun r => Frame _ n _ r.1) _ e _ _ ?_ (fun _ _ _ _ => ?_)
    all_goals exact frame_setRec_struct _ n _ _ _ _ hn rfl rfl rfl rfl rfl rfl
  | _ => exact frame_setRec_struct _ n _ _ _ _ hn rfl rfl rfl rfl rfl rfl

theorem frame_deliver (nx : Nat) (c : Cl) (e : Ev) (n : Nat) (hn : n ≠ e.n) :
    Frame (epochOf e.path) n c (deliver c e nx).1 := frame_deliverN 3 nx c e n hn

/-- the configuration part alone needs no side condition (take an event number that differs from `e.n`) -/
theorem deliver_config (nx : Nat) (c : Cl) (e : Ev) :
    (deliver c e nx).1.id = c.id ∧ (deliver c e nx).1.persistent = c.persistent ∧
    (deliver c e nx).1.retention = c.retention ∧ (deliver c e nx).1.maxPast = c.maxPast ∧
    (deliver c e nx).1.hasGroup = c.hasGroup := by
  have h := frame_deliver nx c e (e.n + 1) (by omega)
  exact ⟨h.id, h.persistent, h.retention, h.maxPast, h.hasGroup⟩

/-- an unseen event number stays unseen unless it is the delivered one -/
theorem deliver_unseen (nx : Nat) (c : Cl) (e : Ev) (n : Nat) (hn : n ≠ e.n) (h : getRec c n = none) :
    getRec (deliver c e nx).1 n = none :=
  (frame_deliver nx c e n hn).recs (· = none) (fun o ho => by rw [ho]; rfl) h

/-- an event whose creation state is not a prefix of the client's MLS path (created on a branch the client
    is not on, or ahead of the client) fails the outer layer: every stored exporter secret is the secret
    of a prefix of the client's path (`SecretsOK`) -/
theorem outerOpens_stale (g : GState) (e : Ev) (hs : SecretsOK g) (hst : ¬ e.path <+: g.path) : outerOpens g e = false := by
  have key : ∀ ep, (match alookup ep g.secrets with | some p => p == e.path | none => false) = false := by
    intro ep
    cases h : alookup ep g.secrets with
    | none => rfl
    | some q =>
      simp only [beq_eq_false_iff_ne, ne_eq]
      intro x
      exact hst (x ▸ (hs ep q h).2)
  unfold outerOpens
  simp only [Bool.or_eq_false_iff, List.any_eq_false, List.mem_range, Bool.and_eq_true, decide_eq_true_eq, not_and,
    Bool.not_eq_true]
  exact ⟨key _, fun x _ _ => key _⟩

/-- … so delivering it changes nothing (its record already blocks it), or only writes the event's OWN record, Failed
    (and stores the current epoch's exporter secret on the way, if the event is routed to an active group):
    not routed (no group, or another `h` tag than the id in force) → GroupNotFound; evicted → ExportSecret;
    otherwise the outer layer fails → Message -/
theorem stale_deliverN (fuel nx : Nat) (c : Cl) (e : Ev) (hs : SecretsOK (ensureSecret c.g))
    (hst : ¬ e.path <+: c.g.path) :
    ((deliverN fuel nx c e).1 = c ∧ ∃ r, getRec c e.n = some r ∧ (r.state = 3 ∨ r.state = 4) ∧
        (deliverN fuel nx c e).2 = if routes c e then .unprocessable else .previouslyFailed) ∨
    (routes c e = false ∧ deliverN fuel nx c e = (recordFailure c e.n false none, .err eGroupNotFound)) ∨
    (routes c e = true ∧ c.g.active = false ∧ deliverN fuel nx c e = (recordFailure c e.n true none, .err eExportSecret)) ∨
    (routes c e = true ∧ c.g.active = true ∧
      deliverN fuel nx c e = (recordFailure (withSecret c) e.n true none, .err eMessage)) := by
  refine deliverN_induct nx e (fuel := fuel) (c := c) (P := fun c r =>
    SecretsOK (ensureSecret c.g) → ¬ e.path <+: c.g.path →
    (r.1 = c ∧ ∃ r', getRec c e.n = some r' ∧ (r'.state = 3 ∨ r'.state = 4) ∧
        r.2 = if routes c e then .unprocessable else .previouslyFailed) ∨
    (routes c e = false ∧ r = (recordFailure c e.n false none, .err eGroupNotFound)) ∨
    (routes c e = true ∧ c.g.active = false ∧ r = (recordFailure c e.n true none, .err eExportSecret)) ∨
    (routes c e = true ∧ c.g.active = true ∧ r = (recordFailure (withSecret c) e.n true none, .err eMessage)))
    (fun c r hr h34 _ _ => Or.inl ⟨rfl, r, hr, h34, rfl⟩) ?_ hs hst
  intro c r _ hstep hs hst
  have closed : outerOpens (withSecret c).g e = false := outerOpens_stale _ e hs (by rw [withSecret_path]; exact hst)
  cases hstep with
  | unrouted hr => exact Or.inr (Or.inl ⟨hr, rfl⟩)
  | evicted hr ha => exact Or.inr (Or.inr (Or.inl ⟨hr, ha, rfl⟩))
  | «sealed» hr ha => exact Or.inr (Or.inr (Or.inr ⟨hr, ha, rfl⟩))
  | _ ho => exact absurd (ho.opens.symm.trans closed) (by decide)

/-- a record is fixed by every rollback re-marking to an epoch `≥ K` -/
def StableRec (K : Nat) (r : Rec) : Prop := ∀ ep, K ≤ ep → rbRec ep r = r

theorem StableRec.mono {K K' : Nat} {r : Rec} (h : StableRec K r) (hk : K ≤ K') : StableRec K' r :=
  fun ep hep => h ep (Nat.le_trans hk hep)

/-- a stable record of another event number is untouched -/
theorem deliver_keeps (nx : Nat) (c : Cl) (e : Ev) (n : Nat) (r : Rec) (hn : n ≠ e.n) (h : getRec c n = some r)
    (hs : rbRec (epochOf e.path) r = r) : getRec (deliver c e nx).1 n = some r :=
  (frame_deliver nx c e n hn).recs (· = some r) (fun o ho => by rw [ho]; simp [hs]) h

theorem run_persistent (nx : Nat) (l : List Ev) : ∀ c : Cl, (run nx c l).persistent = c.persistent := by
  induction l with
  | nil => intro c; rfl
  | cons e t ih => intro c; rw [run_cons, ih]; exact (deliver_config nx c e).2.1

theorem frame_run (nx : Nat) (ep n : Nat) (l : List Ev) : ∀ (c : Cl), (∀ e ∈ l, epochOf e.path = ep ∧ n ≠ e.n) →
    Frame ep n c (run nx c l) := by
  induction l with
  | nil => intro c _; exact frame_refl ep n c
  | cons e t ih =>
    intro c h
    obtain ⟨h1, h2⟩ := h e List.mem_cons_self
    rw [run_cons]
    exact (h1 ▸ frame_deliver nx c e n h2).trans (ih _ (fun x hx => h x (List.mem_cons_of_mem _ hx)))

/-! ## §B  the child state as a function of the parent group state -/

/-- the group state after applying commit `a` to the parent group state `g` (`Fork.childG` without the client) -/
def childOfG (mp : Nat) (g : GState) (a : Ev) : GState := syncRec (ensureSecret (mergeCommit mp (ensureSecret g) a))

theorem childG_eq (c : Cl) (a : Ev) : childG c a = childOfG c.maxPast c.g a := rfl

theorem childOfG_wc (mp : Nat) (g : GState) (X : List Nat) (a : Ev) : childOfG mp (wc g X) a = wc (childOfG mp g a) X := by
  unfold childOfG; rw [ensureSecret_wc, mergeCommit_wc, ensureSecret_wc, syncRec_wc]

/-- the winners of a chain of forks applied one after the other -/
def chainG (mp : Nat) (g : GState) (ws : List Ev) : GState := ws.foldl (childOfG mp) g

@[simp] theorem chainG_nil (mp : Nat) (g : GState) : chainG mp g [] = g := rfl
@[simp] theorem chainG_cons (mp : Nat) (g : GState) (w : Ev) (ws : List Ev) :
    chainG mp g (w :: ws) = chainG mp (childOfG mp g w) ws := rfl

theorem chainG_wc (mp : Nat) (X : List Nat) (ws : List Ev) : ∀ g, chainG mp (wc g X) ws = wc (chainG mp g ws) X := by
  induction ws with
  | nil => intro g; rfl
  | cons w ws ih => intro g; rw [chainG_cons, chainG_cons, childOfG_wc, ih]

/-- stored exporter secrets after `exporter_secret()` in a state with path `p` -/
def secretsAfter (p : Path) (S : List (Nat × Path)) : List (Nat × Path) :=
  match alookup (epochOf p) S with
  | some _ => S
  | none => ainsert (epochOf p) p S

theorem ensureSecret_eq (g : GState) : ensureSecret g = { g with secrets := secretsAfter g.path g.secrets } := by
  unfold ensureSecret secretsAfter
  split <;> rename_i h <;> simp [h]

/-- every field of the child state of a commit, as a function of the parent's path, members, group data
    (name, description, admins, relays, nostr group id), (ensured) secrets, retained past states, last-message
    pointer, consumed list and activity flag -/
theorem childOfG_commit (mp : Nat) (g : GState) (a : Ev) (b : Body) (sw : List Nat) (hk : a.kind = .commit b sw) :
    childOfG mp g a =
      { path := g.path ++ [a.cipher], members := membersAfter b sw g.members,
        admins := (dataAfter b (dataOf g)).admins, name := (dataAfter b (dataOf g)).name,
        desc := (dataAfter b (dataOf g)).desc, relays := (dataAfter b (dataOf g)).relays,
        nid := (dataAfter b (dataOf g)).nid,
        secrets := secretsAfter (g.path ++ [a.cipher]) (secretsAfter g.path g.secrets),
        pending := none, props := [], consumed := g.consumed, past := (g.path :: g.past).take mp,
        recEpoch := epochOf (g.path ++ [a.cipher]), recName := (dataAfter b (dataOf g)).name,
        recAdmins := (dataAfter b (dataOf g)).admins, recDesc := (dataAfter b (dataOf g)).desc,
        recRelays := (dataAfter b (dataOf g)).relays, recNid := (dataAfter b (dataOf g)).nid,
        last := g.last, active := g.active } := by
  unfold childOfG mergeCommit
  rw [hk]
  simp only [ensureSecret_eq, syncRec]
  cases b <;> simp [applyBody, membersAfter, dataAfter, dataOf]

/-- what two parent states must share for a commit to give the same child (up to consumed ratchet
    generations): NOT the pending commit, the queued proposals or the stored record -/
structure SameParent (g1 g2 : GState) : Prop where
  path : g1.path = g2.path
  members : g1.members = g2.members
  data : dataOf g1 = dataOf g2
  secrets : (ensureSecret g1).secrets = (ensureSecret g2).secrets
  past : g1.past = g2.past
  last : g1.last = g2.last
  active : g1.active = g2.active

theorem SameParent.refl (g : GState) : SameParent g g := ⟨rfl, rfl, rfl, rfl, rfl, rfl, rfl⟩

theorem SameParent.symm {g1 g2 : GState} (h : SameParent g1 g2) : SameParent g2 g1 :=
  ⟨h.path.symm, h.members.symm, h.data.symm, h.secrets.symm, h.past.symm, h.last.symm, h.active.symm⟩

/-- what equality up to the consumed list says field by field -/
theorem wc_fields {g1 g2 : GState} (h : wc g1 [] = wc g2 []) :
    g1.path = g2.path ∧ g1.members = g2.members ∧ dataOf g1 = dataOf g2 ∧
    g1.recEpoch = g2.recEpoch ∧ g1.recName = g2.recName ∧ g1.recAdmins = g2.recAdmins ∧
    g1.recDesc = g2.recDesc ∧ g1.recRelays = g2.recRelays ∧ g1.recNid = g2.recNid ∧
    g1.pending = g2.pending ∧ g1.props = g2.props ∧ g1.secrets = g2.secrets ∧ g1.past = g2.past ∧
    g1.last = g2.last ∧ g1.active = g2.active := by
  have f : ∀ {α : Type} (π : GState → α), π (wc g1 []) = π (wc g2 []) := fun π => congrArg π h
  exact ⟨f GState.path, f GState.members, f dataOf, f GState.recEpoch, f GState.recName,
    f GState.recAdmins, f GState.recDesc, f GState.recRelays, f GState.recNid, f GState.pending, f GState.props,
    f GState.secrets, f GState.past, f GState.last, f GState.active⟩

theorem SameParent.core_eq {g1 g2 : GState} (h : SameParent g1 g2) :
    (g1.path, g1.members, dataOf g1) = (g2.path, g2.members, dataOf g2) := by rw [h.path, h.members, h.data]

theorem sameParent_of_wc {g1 g2 : GState} (h : wc g1 [] = wc g2 []) : SameParent g1 g2 := by
  obtain ⟨h1, h2, h3, _, _, _, _, _, _, _, _, h5, h6, h7, h8⟩ := wc_fields h
  exact ⟨h1, h2, h3, by simp only [ensureSecret_eq, h1, h5], h6, h7, h8⟩

theorem childOfG_congr (mp : Nat) (g1 g2 : GState) (a : Ev) (b : Body) (sw : List Nat) (hk : a.kind = .commit b sw)
    (h : SameParent g1 g2) : wc (childOfG mp g1 a) [] = wc (childOfG mp g2 a) [] := by
  have s := h.secrets
  simp only [ensureSecret_eq] at s
  rw [childOfG_commit mp g1 a b sw hk, childOfG_commit mp g2 a b sw hk]
  simp only [wc, s]
  simp only [h.path, h.members, h.data, h.past, h.last, h.active]

/-- the core of a group state: MLS state (path, hence epoch), members, and the group data (name, description,
    admins, relays, nostr group id) -/
abbrev Core := Path × List Nat × GData

def core (g : GState) : Core := (g.path, g.members, dataOf g)

/-- a commit applied to the core -/
def coreStep (k : Core) (a : Ev) : Core :=
  match a.kind with
  | .commit b sw => (k.1 ++ [a.cipher], membersAfter b sw k.2.1, dataAfter b k.2.2)
  | _ => k

@[simp] theorem core_wc (g : GState) (X : List Nat) : core (wc g X) = core g := rfl

theorem core_childOfG (mp : Nat) (g : GState) (a : Ev) : core (childOfG mp g a) = coreStep (core g) a := by
  cases hk : a.kind with
  | commit b sw => rw [childOfG_commit mp g a b sw hk]; simp [core, coreStep, hk, dataOf]
  | app m t k => simp [childOfG, mergeCommit, hk, core, coreStep, syncRec, dataOf]
  | leave => simp [childOfG, mergeCommit, hk, core, coreStep, syncRec, dataOf]

theorem core_chainG (mp : Nat) (ws : List Ev) : ∀ g, core (chainG mp g ws) = ws.foldl coreStep (core g) := by
  induction ws with
  | nil => intro g; rfl
  | cons w ws ih => intro g; rw [chainG_cons, ih, core_childOfG]; rfl

theorem foldl_coreStep_path (ws : List Ev) (hk : ∀ w ∈ ws, ∃ b sw, w.kind = .commit b sw) :
    ∀ k : Core, (ws.foldl coreStep k).1 = k.1 ++ ws.map (·.cipher) := by
  induction ws with
  | nil => intro k; simp
  | cons w ws ih =>
    intro k
    obtain ⟨b, sw, hw⟩ := hk w List.mem_cons_self
    rw [List.foldl_cons, ih (fun x hx => hk x (List.mem_cons_of_mem _ hx))]
    simp [coreStep, hw]

/-- whatever the parent's record says, the child's is in step (`childOfG` ends in `syncRec`) -/
theorem childOfG_synced (mp : Nat) (g : GState) (a : Ev) : Synced (childOfG mp g a) := synced_syncRec _

theorem secretsOK_wc (g : GState) (X : List Nat) (h : SecretsOK g) : SecretsOK (wc g X) := h

theorem synced_wc (g : GState) (X : List Nat) (h : Synced g) : Synced (wc g X) := h

theorem secretsOK_childOfG (mp : Nat) (g : GState) (a : Ev) (h : SecretsOK g) : SecretsOK (childOfG mp g a) :=
  secOK_syncRec _ (secOK_ensure _ (secOK_merge _ _ _ (secOK_ensure _ h)))

/-! ## §C  stale events may be interleaved

  An event created on a branch the client is not on (its creation path is neither a prefix of the fork's
  parent path nor a child of the parent by one of the fork's commits) is refused by the outer layer
  wherever it is delivered during the fork (`stale_deliverN`): it only writes its own record.  The
  simulation relation of the fork does not look at that record, so the fork theorems hold for delivery
  lists that interleave such events freely. -/

/-- `e` is stale at the fork `T` of the client `c` -/
structure StaleAt (c : Cl) (T : List Ev) (e : Ev) : Prop where
  num : ∀ a ∈ T, e.n ≠ a.n
  parent : ¬ e.path <+: c.g.path
  child : ∀ a ∈ T, e.path ≠ c.g.path ++ [a.cipher]

/-- what a refused stale delivery does to the client -/
structure Quiet (n : Nat) (c c' : Cl) : Prop where
  id : c'.id = c.id
  persistent : c'.persistent = c.persistent
  retention : c'.retention = c.retention
  maxPast : c'.maxPast = c.maxPast
  hasGroup : c'.hasGroup = c.hasGroup
  g : c'.g = c.g ∨ c'.g = ensureSecret c.g
  mgr : c'.mgr = c.mgr
  msgs : c'.msgs = c.msgs
  recs : ∀ m, m ≠ n → getRec c' m = getRec c m

theorem quiet_refl (n : Nat) (c : Cl) : Quiet n c c := ⟨rfl, rfl, rfl, rfl, rfl, Or.inl rfl, rfl, rfl, fun _ _ => rfl⟩

theorem quiet_withSecret (n : Nat) (c : Cl) : Quiet n c (withSecret c) :=
  ⟨rfl, rfl, rfl, rfl, rfl, Or.inr rfl, rfl, rfl, fun _ _ => rfl⟩

theorem Quiet.recordFailure {n : Nat} {c x : Cl} (h : Quiet n c x) (b : Bool) (ep : Option Nat) :
    Quiet n c (recordFailure x n b ep) :=
  ⟨h.id, h.persistent, h.retention, h.maxPast, h.hasGroup, h.g, h.mgr, h.msgs,
   fun m hm => (alookup_ainsert_ne _ _ _ _ hm).trans (h.recs m hm)⟩

theorem quiet_stale (fuel nx : Nat) (c : Cl) (e : Ev) (hs : SecretsOK (ensureSecret c.g))
    (hst : ¬ e.path <+: c.g.path) : Quiet e.n c (deliverN fuel nx c e).1 := by
  rcases stale_deliverN fuel nx c e hs hst with h | h | h | h
  · rw [h.1]; exact quiet_refl _ c
  · rw [h.2]; exact (quiet_refl _ c).recordFailure false none
  · rw [h.2.2]; exact (quiet_refl _ c).recordFailure true none
  · rw [h.2.2]; exact (quiet_withSecret _ c).recordFailure true none

theorem Quiet.consumed {n : Nat} {c c' : Cl} (h : Quiet n c c') : c'.g.consumed = c.g.consumed := by
  rcases h.g with x | x
  · rw [x]
  · rw [x]; exact ensureSecret_consumed c.g

theorem Quiet.frame {n : Nat} {c c' : Cl} (h : Quiet n c c') (ep m : Nat) (hm : m ≠ n) : Frame ep m c c' :=
  ⟨h.id, h.persistent, h.retention, h.maxPast, h.hasGroup, fun P _ hp => by rw [h.recs m hm]; exact hp⟩

theorem pform_quiet {c0 c c' : Cl} {n : Nat} (hf : PForm c0 c) (h : Quiet n c c') : PForm c0 c' := by
  refine ⟨h.id.trans hf.id, h.retention.trans hf.ret, h.maxPast.trans hf.mp, h.hasGroup.trans hf.hg, ?_, ?_⟩
  · rw [h.consumed]
    rcases h.g with x | x
    · rw [x]; exact hf.g
    · rw [x, ensureSecret_idem]; exact hf.g
  · rw [h.mgr]; exact hf.mgr

theorem cform_quiet {c0 c c' : Cl} {a : Ev} {n : Nat} (hb : Base c0) (ha : Com c0 a) (hf : CForm c0 a c) (h : Quiet n c c') :
    CForm c0 a c' := by
  have hst : ensureSecret c.g = c.g := by
    rw [hf.g, ensureSecret_wc, (childG_stable c0 hb a ha).1]
  have hg : c'.g = c.g := by
    rcases h.g with x | x
    · exact x
    · rw [x, hst]
  refine ⟨h.id.trans hf.id, h.retention.trans hf.ret, h.maxPast.trans hf.mp, h.hasGroup.trans hf.hg, ?_, ?_⟩
  · rw [hg]; exact hf.g
  · rw [h.mgr, hg]; exact hf.mgr

/-- the client's stored secrets (with the current one ensured) follow its path, in both shapes of the fork -/
theorem pform_secrets {c0 c : Cl} (hs0 : SecretsOK c0.g) (hf : PForm c0 c) :
    SecretsOK (ensureSecret c.g) ∧ c.g.path = c0.g.path := by
  refine ⟨?_, (pform_g hf).1⟩
  rw [hf.g]
  exact secretsOK_wc _ _ (secretsOK_ensure _ hs0)

theorem cform_secrets {c0 c : Cl} {a : Ev} (hb : Base c0) (hs0 : SecretsOK c0.g) (ha : Com c0 a) (hf : CForm c0 a c) :
    SecretsOK (ensureSecret c.g) ∧ c.g.path = c0.g.path ++ [a.cipher] := by
  have hst : ensureSecret c.g = c.g := by
    rw [hf.g, ensureSecret_wc, (childG_stable c0 hb a ha).1]
  refine ⟨?_, by rw [hf.g]; exact (childG_facts c0 hb a ha).1⟩
  rw [hst, hf.g]
  exact secretsOK_wc _ _ (secretsOK_childOfG _ _ _ hs0)

theorem not_prefix_child {p q : Path} {x : Nat} (h1 : ¬ q <+: p) (h2 : q ≠ p ++ [x]) : ¬ q <+: p ++ [x] := by
  intro h
  rcases List.prefix_concat_iff.mp h with y | y
  · exact h2 y
  · exact h1 y

/-- a stale delivery keeps the simulation relation -/
theorem relG_stale (c0 : Cl) (hb : Base c0) (hs0 : SecretsOK c0.g) (O S : List Ev) (hS : SibsG c0 O S) (c : Cl)
    (st : FState) (nx : Nat) (h : RelG c0 O S c st) (e : Ev) (hst : StaleAt c0 (O ++ S) e) :
    RelG c0 O S (deliver c e nx).1 st ∧ Quiet e.n c (deliver c e nx).1 := by
  have hq : Quiet e.n c (deliver c e nx).1 := by
    cases hap : st.applied with
    | none =>
      obtain ⟨h1, h2⟩ := pform_secrets hs0 (h.par hap)
      exact quiet_stale 3 nx c e h1 (by rw [h2]; exact hst.parent)
    | some ka =>
      obtain ⟨a, haT, _, hcf, _⟩ := h.chi ka hap
      obtain ⟨h1, h2⟩ := cform_secrets hb hs0 (hS.com a haT) hcf
      exact quiet_stale 3 nx c e h1 (by rw [h2]; exact not_prefix_child hst.parent (hst.child a haT))
  have hrec : ∀ e' ∈ O ++ S, getRec (deliver c e nx).1 e'.n = getRec c e'.n :=
    fun e' he' => hq.recs e'.n (fun x => hst.num e' he' x.symm)
  refine ⟨⟨?_, fun hap => pform_quiet (h.par hap) hq, ?_, ?_, ?_, ?_⟩, hq⟩
  · intro x hx
    rw [hq.consumed] at hx
    rcases h.cons x hx with y | ⟨e', he', hc, hn⟩
    · exact Or.inl y
    · exact Or.inr ⟨e', he', hc, by rw [hrec e' (List.mem_append_right _ he')]; exact hn⟩
  · intro k hk
    obtain ⟨a, haT, hka, hcf, hra⟩ := h.chi k hk
    exact ⟨a, haT, hka, cform_quiet hb (hS.com a haT) hcf hq, by rw [hrec a haT]; exact hra⟩
  · intro e' he' hb'
    rw [hrec e' he']; exact h.blk e' he' hb'
  · intro e' he' hb' hna
    rw [hrec e' (List.mem_append_right _ he')]; exact h.fresh e' he' hb' hna
  · intro o ho hb' hna
    rw [hrec o (List.mem_append_left _ ho)]; exact h.ownf o ho hb' hna

/-- a stale delivery keeps the simulation relation (bystander) -/
theorem rel_stale (c0 : Cl) (hb : Base c0) (hs0 : SecretsOK c0.g) (S : List Ev) (hS : Sibs c0 S) (c : Cl) (st : FState)
    (nx : Nat) (h : Rel c0 S c st) (e : Ev) (hst : StaleAt c0 S e) :
    Rel c0 S (deliver c e nx).1 st ∧ Quiet e.n c (deliver c e nx).1 :=
  (relG_stale c0 hb hs0 [] S hS.toG c st nx h.toG e hst).imp_left RelG.toRel

/-- a stale delivery keeps the simulation relation (committer) -/
theorem rel2_stale (c0 : Cl) (hb : Base c0) (hs0 : SecretsOK c0.g) (o : Ev) (S : List Ev) (hS : Sibs2 c0 o S) (c : Cl)
    (st : FState) (nx : Nat) (h : Rel2 c0 o S c st) (e : Ev) (hst : StaleAt c0 (o :: S) e) :
    Rel2 c0 o S (deliver c e nx).1 st ∧ Quiet e.n c (deliver c e nx).1 :=
  (relG_stale c0 hb hs0 [o] S hS.toG c st nx h.toG e hst).imp_left RelG.toRel2

/-- the keys of the fork's commits in a mixed delivery list, in order -/
def sibKeys (T l : List Ev) : List Key := (l.filter (fun e => decide (e ∈ T))).map key

theorem sibKeys_cons_mem {T : List Ev} {e : Ev} (l : List Ev) (h : e ∈ T) : sibKeys T (e :: l) = key e :: sibKeys T l := by
  simp [sibKeys, h]
theorem sibKeys_cons_not {T : List Ev} {e : Ev} (l : List Ev) (h : e ∉ T) : sibKeys T (e :: l) = sibKeys T l := by
  simp [sibKeys, h]

theorem mem_sibKeys {T l : List Ev} {k : Key} : k ∈ sibKeys T l ↔ ∃ e ∈ l, e ∈ T ∧ key e = k := by
  simp [sibKeys, and_assoc]

theorem relG_run_mixed (c0 : Cl) (hb : Base c0) (hs0 : SecretsOK c0.g) (O S : List Ev) (hS : SibsG c0 O S) (nx : Nat)
    (l : List Ev) : ∀ (c : Cl) (st : FState), RelG c0 O S c st → (∀ e ∈ l, e ∈ O ++ S ∨ StaleAt c0 (O ++ S) e) →
      RelG c0 O S (run nx c l) ((sibKeys (O ++ S) l).foldl (fstep (O.map key)) st) ∧
      ∀ n, (∀ e ∈ l, n ≠ e.n) → Frame (epochOf c0.g.path) n c (run nx c l) := by
  induction l with
  | nil => intro c st h _; exact ⟨h, fun n _ => frame_refl _ n c⟩
  | cons e t ih =>
    intro c st h hl
    have hl' : ∀ x ∈ t, x ∈ O ++ S ∨ StaleAt c0 (O ++ S) x := fun x hx => hl x (List.mem_cons_of_mem _ hx)
    rw [run_cons]
    by_cases he : e ∈ O ++ S
    · rw [sibKeys_cons_mem t he]
      obtain ⟨h1, h2⟩ := ih _ _ (relG_step c0 hb O S hS c st nx h e he) hl'
      refine ⟨h1, fun n hn => Frame.trans ?_ (h2 n (fun x hx => hn x (List.mem_cons_of_mem _ hx)))⟩
      have := frame_deliver nx c e n (hn e List.mem_cons_self)
      rw [(hS.com e he).path] at this
      exact this
    · rw [sibKeys_cons_not t he]
      obtain ⟨hr, hq⟩ := relG_stale c0 hb hs0 O S hS c st nx h e ((hl e List.mem_cons_self).resolve_left he)
      obtain ⟨h1, h2⟩ := ih _ _ hr hl'
      exact ⟨h1, fun n hn => (hq.frame _ n (hn e List.mem_cons_self)).trans (h2 n (fun x hx => hn x (List.mem_cons_of_mem _ hx)))⟩

/-- `Fork.fork_run` for delivery lists that interleave stale events, with the frame on the other records -/
theorem fork_run_mixed (c0 : Cl) (hb : Base c0) (hs0 : SecretsOK c0.g) (O S : List Ev) (hS : SibsG c0 O S) (nx : Nat)
    (l : List Ev) (hl : ∀ e ∈ l, e ∈ O ++ S ∨ StaleAt c0 (O ++ S) e) (hne : ∃ e ∈ l, e ∈ O ++ S) :
    ∃ w ∈ l, w ∈ O ++ S ∧ (∀ e ∈ l, e ∈ O ++ S → e = w ∨ klt (key w) (key e) = true) ∧ CForm c0 w (run nx c0 l) ∧
      getRec (run nx c0 l) w.n = some (rec2 c0) ∧
      (∀ e ∈ l, e ∈ O ++ S → e ≠ w → e ∉ O → ∃ r, getRec (run nx c0 l) e.n = some r ∧ BlockedRec c0 r) ∧
      ConsOK c0 S (run nx c0 l) ∧ ∀ n, (∀ e ∈ l, n ≠ e.n) → Frame (epochOf c0.g.path) n c0 (run nx c0 l) := by
  obtain ⟨hrel, hframe⟩ := relG_run_mixed c0 hb hs0 O S hS nx l c0 ⟨none, []⟩ (relG_init c0 hb O S hS) hl
  have hkne : sibKeys (O ++ S) l ≠ [] := by
    obtain ⟨e, he, heT⟩ := hne
    exact List.ne_nil_of_mem (mem_sibKeys.mpr ⟨e, he, heT, rfl⟩)
  obtain ⟨w, hwT, hwK, hmin, hcf, hrw, hblk⟩ := relG_winner hS _ hkne hrel
  obtain ⟨e0, he0, he0T, hk0⟩ := mem_sibKeys.mp hwK
  have hw : w ∈ l := hS.inj e0 he0T w hwT (.inr hk0) ▸ he0
  exact ⟨w, hw, hwT,
    fun e he heT => (hmin _ (mem_sibKeys.mpr ⟨e, he, heT, rfl⟩)).imp_left (fun x => hS.inj e heT w hwT (.inr x.symm)),
    hcf, hrw, fun e he heT hne' hno => hblk e heT (mem_sibKeys.mpr ⟨e, he, heT, rfl⟩) hne' hno, hrel.cons, hframe⟩

/-! ## §D  one fork level, any role -/

/-- a client at the parent state of a fork whose set of competing commits is `T`: a bystander (all of
    `T` are foreign siblings) or one of the committers (its own staged commit `o` is in `T`, applied on
    relay echo) -/
inductive AtFork (c : Cl) (T : List Ev) : Prop where
  | bystander (hg : c.hasGroup = true) (ha : c.g.active = true) (hr : 1 ≤ c.retention) (hsec : SecretsOK c.g)
      (hm : NoForkSnapshot c) (hn : c.g.recNid = c.g.nid) (hS : Siblings c T)
  | committer (o : Ev) (S : List Ev) (hg : c.hasGroup = true) (ha : c.g.active = true) (hr : 1 ≤ c.retention)
      (hsec : SecretsOK c.g) (hm : NoForkSnapshot c) (hn : c.g.recNid = c.g.nid) (ho : OwnCommit c o) (hS : Siblings c S)
      (hd : ∀ e ∈ S, e.n ≠ o.n ∧ (e.ts, e.idnum) ≠ (o.ts, o.idnum)) (hT : ∀ e, e ∈ T ↔ e ∈ o :: S)

/-- `w` is the MIP-03 minimum of `S` -/
def IsMin (w : Ev) (S : List Ev) : Prop := w ∈ S ∧ ∀ e ∈ S, e = w ∨ klt (key w) (key e) = true

theorem isMin_unique {w w' : Ev} {S : List Ev} (h : IsMin w S) (h' : IsMin w' S) : w = w' := by
  rcases h.2 w' h'.1 with x | x
  · exact x.symm
  · rcases h'.2 w h.1 with y | y
    · exact y
    · rw [klt_asymm x] at y; cases y

/-- `l` is a delivery list over `S` (any order, any repetition) that contains every element of `S` -/
def Covers (S l : List Ev) : Prop := (∀ e ∈ l, e ∈ S) ∧ (∀ e ∈ S, e ∈ l)

/-- everything the simulation knows after a delivery list `l` — commits of the fork `T` and stale
    events, in any order — ended on `w` -/
structure LevelDone (c : Cl) (T l : List Ev) (w : Ev) (c' : Cl) : Prop where
  base : Base c
  paths : ∀ e ∈ T, e.path = c.g.path
  com : Com c w
  form : CForm c w c'
  wrec : getRec c' w.n = some (rec2 c)
  blk : ∀ e ∈ l, e ∈ T → e ≠ w → e.sender ≠ c.id → ∃ r, getRec c' e.n = some r ∧ BlockedRec c r
  cons : ∀ x ∈ c'.g.consumed, x ∈ c.g.consumed ∨ ∃ e ∈ T, e.cipher = x
  frame : ∀ n, (∀ e ∈ l, n ≠ e.n) → Frame (epochOf c.g.path) n c c'

theorem atFork_paths {c : Cl} {T : List Ev} (h : AtFork c T) : ∀ e ∈ T, e.path = c.g.path := by
  cases h with
  | bystander _ _ _ _ _ _ hS => exact hS.path
  | committer o S _ _ _ _ _ _ ho hS _ hT =>
    intro e he
    rcases List.mem_cons.mp ((hT e).mp he) with rfl | x
    · exact ho.path
    · exact hS.path e x

theorem atFork_kind {c : Cl} {T : List Ev} (h : AtFork c T) : ∀ e ∈ T, ∃ b sw, e.kind = .commit b sw := by
  cases h with
  | bystander _ _ _ _ _ _ hS => intro e he; obtain ⟨b, sw, hk, _⟩ := hS.kind e he; exact ⟨b, sw, hk⟩
  | committer o S _ _ _ _ _ _ ho hS _ hT =>
    intro e he
    rcases List.mem_cons.mp ((hT e).mp he) with rfl | x
    · exact ho.kind
    · obtain ⟨b, sw, hk, _⟩ := hS.kind e x; exact ⟨b, sw, hk⟩

theorem atFork_secrets {c : Cl} {T : List Ev} (h : AtFork c T) : SecretsOK c.g := by
  cases h with
  | bystander _ _ _ hsec _ _ _ => exact hsec
  | committer _ _ _ _ _ hsec _ _ _ _ _ _ => exact hsec

theorem staleAt_congr {c : Cl} {T T' : List Ev} {e : Ev} (h : ∀ x, x ∈ T ↔ x ∈ T') (hs : StaleAt c T e) : StaleAt c T' e :=
  ⟨fun a ha => hs.num a ((h a).mpr ha), hs.parent, fun a ha => hs.child a ((h a).mpr ha)⟩

/-- **one level**: the single-fork theorems for either role, for delivery lists that interleave stale
    events, with the full shape of the final state -/
theorem fork_level_mixed (c : Cl) (T l : List Ev) (nx : Nat) (hat : AtFork c T)
    (hl : ∀ e ∈ l, e ∈ T ∨ StaleAt c T e) (hne : ∃ e ∈ l, e ∈ T) :
    ∃ w ∈ l, w ∈ T ∧ (∀ e ∈ l, e ∈ T → e = w ∨ klt (key w) (key e) = true) ∧ LevelDone c T l w (run nx c l) := by
  have hpaths := atFork_paths hat
  have hsec0 := atFork_secrets hat
  have hcons : ∀ {S : List Ev}, (∀ e ∈ S, e ∈ T) → ConsOK c S (run nx c l) →
      ∀ x ∈ (run nx c l).g.consumed, x ∈ c.g.consumed ∨ ∃ e ∈ T, e.cipher = x := fun hST h x hx =>
    (h x hx).imp_right fun ⟨e', he', hc, _⟩ => ⟨e', hST e' he', hc⟩
  cases hat with
  | bystander hg ha hr hsec hm hn hS =>
    have hb := base_of c hg ha hr hsec hm
    have hSs := (sibs_of c T hn hS).toG
    obtain ⟨w, hw, hwT, hmin, hcf, hrw, hblk, hco, hframe⟩ := fork_run_mixed c hb hsec0 [] T hSs nx l hl hne
    exact ⟨w, hw, hwT, hmin, hb, hpaths, hSs.com w hwT, hcf, hrw,
      fun e he heT hne' _ => hblk e he heT hne' List.not_mem_nil, hcons (fun _ h => h) hco, hframe⟩
  | committer o S hg ha hr hsec hm hn ho hS hd hT =>
    have hb := base_of c hg ha hr hsec hm
    have hSs := (sibs2_of c o S hn ho hS hd).toG
    obtain ⟨w, hw, hwT, hmin, hcf, hrw, hblk, hco, hframe⟩ := fork_run_mixed c hb hsec0 [o] S hSs nx l
      (fun e he => (hl e he).imp (hT e).mp (staleAt_congr hT))
      (by obtain ⟨e, he, heT⟩ := hne; exact ⟨e, he, (hT e).mp heT⟩)
    refine ⟨w, hw, (hT w).mpr hwT, fun e he heT => hmin e he ((hT e).mp heT), hb, hpaths, hSs.com w hwT, hcf, hrw,
      fun e he heT hne' hfor => hblk e he ((hT e).mp heT) hne' ?_,
      hcons (fun e he => (hT e).mpr (List.mem_cons_of_mem _ he)) hco, hframe⟩
    exact fun x => hfor (List.mem_singleton.mp x ▸ ho.own)

/-- the same for delivery lists over the fork's commits only -/
theorem fork_level (c : Cl) (T l : List Ev) (nx : Nat) (hat : AtFork c T) (hl : ∀ e ∈ l, e ∈ T) (hne : l ≠ []) :
    ∃ w ∈ l, (∀ e ∈ l, e = w ∨ klt (key w) (key e) = true) ∧ LevelDone c T l w (run nx c l) := by
  obtain ⟨x, hx⟩ := List.exists_mem_of_ne_nil l hne
  obtain ⟨w, hw, _, hmin, hd⟩ := fork_level_mixed c T l nx hat (fun e he => Or.inl (hl e he)) ⟨x, hx, hl x hx⟩
  exact ⟨w, hw, fun e he => hmin e he (hl e he), hd⟩

theorem fork_level_min (c : Cl) (T l : List Ev) (nx : Nat) (hat : AtFork c T) (hl : ∀ e ∈ l, e ∈ T ∨ StaleAt c T e)
    (hcov : ∀ e ∈ T, e ∈ l) {w : Ev} (hmin : IsMin w T) : LevelDone c T l w (run nx c l) := by
  obtain ⟨w', _, hw'T, hmin', hd⟩ := fork_level_mixed c T l nx hat hl ⟨w, hcov w hmin.1, hmin.1⟩
  exact isMin_unique hmin ⟨hw'T, fun e he => hmin' e (hcov e he) he⟩ ▸ hd

theorem fork_level_covers (c : Cl) (T l : List Ev) (nx : Nat) (hat : AtFork c T) (hl : Covers T l) (hne : T ≠ []) :
    ∃ w, IsMin w T ∧ LevelDone c T l w (run nx c l) := by
  obtain ⟨x, hx⟩ := List.exists_mem_of_ne_nil T hne
  obtain ⟨w, hw, hm, hd⟩ := fork_level c T l nx hat hl.1 (List.ne_nil_of_mem (hl.2 x hx))
  exact ⟨w, ⟨hl.1 w hw, fun e he => hm e (hl.2 e he)⟩, hd⟩

/-- no snapshot of the current or a later epoch (`HInv.below`; stronger than `NoForkSnapshot`, and what
    makes `NoForkSnapshot` hold again one epoch later) -/
def Below (c : Cl) : Prop := ∀ s ∈ c.mgr, s.epoch < epochOf c.g.path

theorem Below.noFork {c : Cl} (h : Below c) : NoForkSnapshot c := fun s hs => Nat.ne_of_lt (h s hs)

theorem cform_path {c c' : Cl} {w : Ev} (hb : Base c) (hw : Com c w) (hf : CForm c w c') :
    c'.g.path = c.g.path ++ [w.cipher] := by rw [hf.g]; exact (childG_facts c hb w hw).1

theorem cform_g {c c' : Cl} {w : Ev} (hf : CForm c w c') : wc c'.g [] = wc (childOfG c.maxPast c.g w) [] := by
  rw [hf.g, wc_wc, childG_eq]

theorem cform_core {c c' : Cl} {w : Ev} (hf : CForm c w c') : core c'.g = coreStep (core c.g) w := by
  have h1 : core (wc c'.g []) = core (wc (childOfG c.maxPast c.g w) []) := by rw [cform_g hf]
  rw [core_wc, core_wc, core_childOfG] at h1
  exact h1

theorem cform_synced {c c' : Cl} {w : Ev} (hf : CForm c w c') : Synced c'.g := by
  rw [hf.g]
  exact synced_wc _ _ (childOfG_synced c.maxPast c.g w)

theorem cform_keptId {c c' : Cl} {w : Ev} (hw : Com c w) (hf : CForm c w c') : c'.g.recNid = c.g.recNid := by
  rw [hf.g]; exact childG_recNid c w hw

theorem cform_secretsOK {c c' : Cl} {w : Ev} (hf : CForm c w c') (hs : SecretsOK c.g) : SecretsOK c'.g := by
  rw [hf.g]; exact secretsOK_wc _ _ (secretsOK_childOfG _ _ _ hs)

theorem cform_below {c c' : Cl} {w : Ev} (hb : Base c) (hw : Com c w) (hf : CForm c w c') (hbel : Below c) : Below c' := by
  obtain ⟨k, hk⟩ := hf.mgr
  intro s hs
  rw [cform_path hb hw hf, epochOf_snoc]
  rw [hk] at hs
  rcases List.mem_append.mp hs with x | x
  · exact Nat.lt_succ_of_lt (hbel s (List.mem_of_mem_drop x))
  · simp at x; subst x; exact Nat.lt_succ_self _

namespace LevelDone
variable {c c' : Cl} {T l : List Ev} {w : Ev}

theorem path (h : LevelDone c T l w c') : c'.g.path = c.g.path ++ [w.cipher] := cform_path h.base h.com h.form

theorem g (h : LevelDone c T l w c') : wc c'.g [] = wc (childOfG c.maxPast c.g w) [] := cform_g h.form

theorem epoch (h : LevelDone c T l w c') : epochOf c'.g.path = epochOf c.g.path + 1 := by
  rw [h.path, epochOf_snoc]

/-- path, members and the whole group data after the level: the winner's commit applied to the parent's core -/
theorem core (h : LevelDone c T l w c') : Chain.core c'.g = coreStep (Chain.core c.g) w := cform_core h.form

theorem active (h : LevelDone c T l w c') : c'.g.active = true := cform_active c h.base w c' h.form

/-- the stored record is in step with the MLS state again (in particular the id in force is the extension's) -/
theorem synced (h : LevelDone c T l w c') : Synced c'.g := cform_synced h.form

theorem recNid (h : LevelDone c T l w c') : c'.g.recNid = c'.g.nid := h.synced.2.2.2.2.2

/-- the id in force did not move (no commit of the level rotates it) -/
theorem keptId (h : LevelDone c T l w c') : c'.g.recNid = c.g.recNid := cform_keptId h.com h.form

theorem secrets (h : LevelDone c T l w c') (hs : SecretsOK c.g) : SecretsOK c'.g := cform_secretsOK h.form hs

theorem below (h : LevelDone c T l w c') (hb : Below c) : Below c' := cform_below h.base h.com h.form hb

end LevelDone

theorem rec2_stable (c : Cl) : StableRec (epochOf c.g.path + 1) (rec2 c) := by
  intro ep hep
  have : ¬ epochOf c.g.path + 1 > ep := by omega
  simp [rbRec, rbRec1, rbRec2, rec2, this]

theorem blocked_stable (c : Cl) (r : Rec) (h : BlockedRec c r) : StableRec (epochOf c.g.path + 1) r := by
  intro ep hep
  obtain ⟨_, h2, h3⟩ := h
  have : ¬ epochOf c.g.path + 1 > ep := by omega
  have e1 : rbRec1 ep r = r := by simp [rbRec1, h2, h3, this]
  simp [rbRec, e1, rbRec2, h3]

/-! ## §E  chains of forks -/
/-- one level of a chain: the MIP-03 winner and the set of competing commits -/
abbrev Level := Ev × List Ev

/-- all events of a list of levels -/
def evs (Ls : List Level) : List Ev := Ls.flatMap (·.2)

@[simp] theorem evs_nil : evs [] = [] := rfl
@[simp] theorem evs_cons (L : Level) (Ls : List Level) : evs (L :: Ls) = L.2 ++ evs Ls := rfl

/-- the conditions on the commits of one level that do not mention the client's state, only the CORE `k` of the
    state they were created in (path, members, group data): created in the state with path `k.1`, by others,
    each by an admin of THAT state or as a pure self-update, non-zero timestamps, pairwise distinct event numbers /
    MIP-03 keys / ciphertexts, published under the nostr group id of that state, none of them rotating the id,
    none of them removing the receiver `id` -/
structure LevelEv (id : Nat) (k : Core) (S : List Ev) : Prop where
  path : ∀ e ∈ S, e.path = k.1
  kind : ∀ e ∈ S, ∃ b sw, e.kind = .commit b sw ∧ (k.2.2.admins.contains e.sender || isPureSelfUpdate b sw) = true
  foreign : ∀ e ∈ S, e.sender ≠ id
  ts : ∀ e ∈ S, e.ts ≠ 0
  distinct : ∀ e1 ∈ S, ∀ e2 ∈ S, e1 ≠ e2 → e1.n ≠ e2.n ∧ (e1.ts, e1.idnum) ≠ (e2.ts, e2.idnum) ∧ e1.cipher ≠ e2.cipher
  tag : ∀ e ∈ S, e.tag = k.2.2.nid
  keepsId : ∀ e ∈ S, ∀ d sw, e.kind = .commit (.setData d) sw → d.nid = k.2.2.nid
  keepsMe : ∀ e ∈ S, ∀ b sw, e.kind = .commit b sw → removesMe id b sw = false

/-- a chain of forks starting in the state with core `k`: every level's commits were created in the
    state reached by the MIP-03 winners of the levels before it (`coreStep`: the admins that authorise a level
    and the id its events are tagged with are those the winners before it left); event numbers and
    ciphertexts are distinct across levels (within a level: `LevelEv.distinct`) -/
def ChainEv (id : Nat) : Core → List Level → Prop
  | _, [] => True
  | k, L :: rest => LevelEv id k L.2 ∧ IsMin L.1 L.2 ∧
      (∀ e1 ∈ L.2, ∀ e2 ∈ evs rest, e1.n ≠ e2.n ∧ e1.cipher ≠ e2.cipher) ∧
      ChainEv id (coreStep k L.1) rest

/-- a level-by-level schedule: one delivery list per level, each over its level and containing all of it -/
def LevelWise : List Level → List (List Ev) → Prop
  | [], [] => True
  | L :: Ls, l :: ls => Covers L.2 l ∧ LevelWise Ls ls
  | _, _ => False

/-- `e` was created in a state that is neither a prefix of `p` nor a child of `p` by a commit of `S`
    (an event of a branch that lost at an earlier level, for instance) -/
def StalePath (p : Path) (S : List Ev) (e : Ev) : Prop := ¬ e.path <+: p ∧ ∀ a ∈ S, e.path ≠ p ++ [a.cipher]

/-- a level-by-level schedule that interleaves stale events freely: the list of level k holds every
    commit of the level, and apart from them only events that are stale for that level and whose event
    numbers differ from those of `all` (the chain's events) -/
def LevelWiseS (all : List Ev) : Path → List Level → List (List Ev) → Prop
  | _, [], [] => True
  | p, L :: Ls, l :: ls =>
      (∀ e ∈ l, e ∈ L.2 ∨ (StalePath p L.2 e ∧ ∀ a ∈ all, e.n ≠ a.n)) ∧ (∀ e ∈ L.2, e ∈ l) ∧
      LevelWiseS all (p ++ [L.1.cipher]) Ls ls
  | _, _, _ => False

theorem levelWiseS_of_levelWise (all : List Ev) : ∀ (Ls : List Level) (ls : List (List Ev)) (p : Path),
    LevelWise Ls ls → LevelWiseS all p Ls ls := by
  intro Ls
  induction Ls with
  | nil => intro ls p h; cases ls with
    | nil => trivial
    | cons l ls => cases h
  | cons L rest ih =>
    intro ls p h
    cases ls with
    | nil => cases h
    | cons l ls => exact ⟨fun e he => Or.inl (h.1.1 e he), h.1.2, ih ls _ h.2⟩

/-- every delivered event of such a schedule is a chain event or has a number of its own -/
theorem levelWiseS_delivered (all : List Ev) : ∀ (Ls : List Level) (ls : List (List Ev)) (p : Path),
    LevelWiseS all p Ls ls → ∀ e ∈ ls.flatten, e ∈ evs Ls ∨ ∀ a ∈ all, e.n ≠ a.n := by
  intro Ls
  induction Ls with
  | nil => intro ls p h e he; cases ls with
    | nil => cases he
    | cons l ls => cases h
  | cons L rest ih =>
    intro ls p h e he
    cases ls with
    | nil => cases h
    | cons l ls =>
      obtain ⟨h1, _, h3⟩ := h
      rw [List.flatten_cons] at he
      rcases List.mem_append.mp he with x | x
      · rcases h1 e x with y | y
        · exact Or.inl (by simp [y])
        · exact Or.inr y.2
      · rcases ih ls _ h3 e x with y | y
        · exact Or.inl (by simp [y])
        · exact Or.inr y

theorem siblings_of_levelEv (c : Cl) (S : List Ev) (hn : c.g.recNid = c.g.nid) (h : LevelEv c.id (core c.g) S)
    (hu : ∀ e ∈ S, getRec c e.n = none ∧ e.cipher ∉ c.g.consumed) : Siblings c S where
  path := h.path
  kind := h.kind
  foreign := h.foreign
  ts := h.ts
  distinct := h.distinct
  unseen := fun e he => (hu e he).1
  unconsumed := fun e he => (hu e he).2
  tag := fun e he => (h.tag e he).trans hn.symm
  keepsId := fun e he d sw hk => (h.keepsId e he d sw hk).trans hn.symm
  keepsMe := h.keepsMe

/-- the per-client hypotheses of a chain: group present and active (not evicted), retention, stored secrets
    following the path, no snapshot of the current or a later epoch, the id in force is the extension's -/
structure Ready (c : Cl) : Prop where
  hasGroup : c.hasGroup = true
  act : c.g.active = true
  ret : 1 ≤ c.retention
  sec : SecretsOK c.g
  below : Below c
  nid : c.g.recNid = c.g.nid

/-- what a client has done after a level-by-level schedule over the chain `Ls` that delivered the list `dl` -/
structure ChainDone (c : Cl) (Ls : List Level) (dl : List Ev) (c' : Cl) : Prop where
  path : c'.g.path = c.g.path ++ Ls.map (·.1.cipher)
  g : wc c'.g [] = wc (chainG c.maxPast c.g (Ls.map (·.1))) []
  win : ∀ L ∈ Ls, (getRec c' L.1.n).map (·.state) = some 2
  lose : ∀ L ∈ Ls, ∀ e ∈ L.2, e ≠ L.1 → e.sender ≠ c.id → ∃ r, getRec c' e.n = some r ∧ (r.state = 3 ∨ r.state = 4)
  id : c'.id = c.id
  persistent : c'.persistent = c.persistent
  retention : c'.retention = c.retention
  maxPast : c'.maxPast = c.maxPast
  ready : Ready c'
  keep : ∀ n r, getRec c n = some r → StableRec (epochOf c.g.path) r → (∀ e ∈ dl, n ≠ e.n) → getRec c' n = some r
  unseen : ∀ n, getRec c n = none → (∀ e ∈ dl, n ≠ e.n) → getRec c' n = none
  cons : ∀ x ∈ c'.g.consumed, x ∈ c.g.consumed ∨ ∃ e ∈ evs Ls, e.cipher = x

theorem chainDone_nil (c : Cl) (h : Ready c) : ChainDone c [] [] c where
  path := by simp
  g := rfl
  win := fun L hL => by cases hL
  lose := fun L hL => by cases hL
  id := rfl
  persistent := rfl
  retention := rfl
  maxPast := rfl
  ready := h
  keep := fun _ _ h _ _ => h
  unseen := fun _ h _ => h
  cons := fun x hx => Or.inl hx

/-- one level (any role, stale events interleaved) followed by a chain the client is a bystander of.  The final state is a
    variable `c2` with `hc2`, so that each caller brings its own `run … (l ++ lr)` into the two-run shape once. -/
theorem chain_step (nx : Nat) (c : Cl) (w : Ev) (T l : List Ev) (rest : List Level) (lr : List Ev) (c2 : Cl)
    (hat : AtFork c T) (hbelow : Below c) (hmin : IsMin w T)
    (hl : ∀ e ∈ l, e ∈ T ∨ StaleAt c T e) (hcov : ∀ e ∈ T, e ∈ l)
    (hN1 : ∀ e1 ∈ l, ∀ e2 ∈ evs rest, e1.n ≠ e2.n) (hN2 : ∀ e1 ∈ T, ∀ e2 ∈ lr, e1.n ≠ e2.n)
    (hC : ∀ e1 ∈ T, ∀ e2 ∈ evs rest, e1.cipher ≠ e2.cipher)
    (hchain : ChainEv c.id (coreStep (core c.g) w) rest)
    (hu : ∀ e ∈ evs rest, getRec c e.n = none ∧ e.cipher ∉ c.g.consumed)
    (hc2 : c2 = run nx (run nx c l) lr)
    (ih : ∀ c1 : Cl, Ready c1 → c1.g.path = c.g.path ++ [w.cipher] → ChainEv c1.id (core c1.g) rest →
      (∀ e ∈ evs rest, getRec c1 e.n = none ∧ e.cipher ∉ c1.g.consumed) → ChainDone c1 rest lr (run nx c1 lr)) :
    ChainDone c ((w, T) :: rest) (l ++ lr) c2 := by
  have hd := fork_level_min c T l nx hat hl hcov hmin
  have hsec : SecretsOK c.g := atFork_secrets hat
  have hready1 : Ready (run nx c l) :=
    ⟨hd.form.hg, hd.active, by rw [hd.form.ret]; exact hd.base.ret, hd.secrets hsec, hd.below hbelow, hd.recNid⟩
  have hu1 : ∀ e ∈ evs rest, getRec (run nx c l) e.n = none ∧ e.cipher ∉ (run nx c l).g.consumed := by
    intro e he
    constructor
    · exact (hd.frame e.n (fun x hx => (hN1 x hx e he).symm)).recs (· = none) (fun o ho => by rw [ho]; rfl) (hu e he).1
    · intro hx
      rcases hd.cons _ hx with y | ⟨e', he', y⟩
      · exact (hu e he).2 y
      · exact hC e' he' e he y
  have hch1 : ChainEv (run nx c l).id (core (run nx c l).g) rest := by
    rw [hd.form.id, hd.core]; exact hchain
  have hI := ih (run nx c l) hready1 hd.path hch1 hu1
  rw [← hc2] at hI
  have hep1 : epochOf (run nx c l).g.path = epochOf c.g.path + 1 := hd.epoch
  refine ⟨?_, ?_, ?_, ?_, hI.id.trans hd.form.id, hI.persistent.trans (run_persistent nx l c),
    hI.retention.trans hd.form.ret, hI.maxPast.trans hd.form.mp, hI.ready, ?_, ?_, ?_⟩
  · rw [hI.path, hd.path]; simp
  · rw [hI.g, hd.form.mp]
    simp only [List.map_cons, chainG_cons]
    rw [← chainG_wc, ← chainG_wc, hd.g]
  · intro L hL
    rcases List.mem_cons.mp hL with rfl | hL'
    · have := hI.keep w.n (rec2 c) hd.wrec (by rw [hep1]; exact rec2_stable c) (fun e he => hN2 w hmin.1 e he)
      show (getRec c2 w.n).map (·.state) = some 2
      rw [this]; rfl
    · exact hI.win L hL'
  · intro L hL e he hne' hfor
    rcases List.mem_cons.mp hL with rfl | hL'
    · obtain ⟨r, hr, hbr⟩ := hd.blk e (hcov e he) he hne' hfor
      have := hI.keep e.n r hr (by rw [hep1]; exact blocked_stable c r hbr) (fun e' he' => hN2 e he e' he')
      exact ⟨r, this, hbr.1⟩
    · exact hI.lose L hL' e he hne' (by rw [hd.form.id]; exact hfor)
  · intro n r hr hst hn
    have hnl : ∀ e ∈ l, n ≠ e.n := fun e he => hn e (List.mem_append_left _ he)
    have h1 : getRec (run nx c l) n = some r :=
      (hd.frame n hnl).recs (· = some r) (fun o ho => by rw [ho]; simp [hst _ (Nat.le_refl _)]) hr
    exact hI.keep n r h1 (hst.mono (by omega)) (fun e he => hn e (List.mem_append_right _ he))
  · intro n hr hn
    have hnl : ∀ e ∈ l, n ≠ e.n := fun e he => hn e (List.mem_append_left _ he)
    have h1 : getRec (run nx c l) n = none :=
      (hd.frame n hnl).recs (· = none) (fun o ho => by rw [ho]; rfl) hr
    exact hI.unseen n h1 (fun e he => hn e (List.mem_append_right _ he))
  · intro x hx
    rcases hI.cons x hx with y | ⟨e, he, y⟩
    · rcases hd.cons x y with z | ⟨e, he, z⟩
      · exact Or.inl z
      · exact Or.inr ⟨e, by simp [he], z⟩
    · exact Or.inr ⟨e, by simp [he], y⟩

/-- the number conditions of `chain_step` from a `LevelWiseS` schedule -/
theorem step_numbers (all : List Ev) (T l : List Ev) (p : Path) (rest : List Level) (ls : List (List Ev)) (p' : Path)
    (hT : ∀ e ∈ T, e ∈ all) (hrest : ∀ e ∈ evs rest, e ∈ all)
    (hl : ∀ e ∈ l, e ∈ T ∨ (StalePath p T e ∧ ∀ a ∈ all, e.n ≠ a.n))
    (hcross : ∀ e1 ∈ T, ∀ e2 ∈ evs rest, e1.n ≠ e2.n ∧ e1.cipher ≠ e2.cipher)
    (hw : LevelWiseS all p' rest ls) :
    (∀ e1 ∈ l, ∀ e2 ∈ evs rest, e1.n ≠ e2.n) ∧ (∀ e1 ∈ T, ∀ e2 ∈ ls.flatten, e1.n ≠ e2.n) := by
  constructor
  · intro e1 h1 e2 h2
    rcases hl e1 h1 with x | x
    · exact (hcross e1 x e2 h2).1
    · exact x.2 e2 (hrest e2 h2)
  · intro e1 h1 e2 h2
    rcases levelWiseS_delivered all rest ls p' hw e2 h2 with x | x
    · exact (hcross e1 h1 e2 x).1
    · exact (x e1 (hT e1 h1)).symm

theorem staleAt_of_path {c : Cl} {T : List Ev} {e : Ev} {all : List Ev} (hT : ∀ a ∈ T, a ∈ all)
    (h : StalePath c.g.path T e ∧ ∀ a ∈ all, e.n ≠ a.n) : StaleAt c T e :=
  ⟨fun a ha => h.2 a (hT a ha), h.1.1, h.1.2⟩

/-- **chain of forks, bystander, stale events interleaved**: induction over the levels -/
theorem chain_rest_mixed (nx : Nat) (all : List Ev) (Ls : List Level) : ∀ (c : Cl) (ls : List (List Ev)), Ready c →
    ChainEv c.id (core c.g) Ls → (∀ e ∈ evs Ls, e ∈ all) →
    (∀ e ∈ evs Ls, getRec c e.n = none ∧ e.cipher ∉ c.g.consumed) →
    LevelWiseS all c.g.path Ls ls → ChainDone c Ls ls.flatten (run nx c ls.flatten) := by
  induction Ls with
  | nil =>
    intro c ls hr _ _ _ hw
    cases ls with
    | nil => exact chainDone_nil c hr
    | cons l ls => cases hw
  | cons L rest ih =>
    intro c ls hr hch hall hu hw
    cases ls with
    | nil => cases hw
    | cons l ls =>
      obtain ⟨w, T⟩ := L
      obtain ⟨hlev, hmin, hcross, hch'⟩ := hch
      obtain ⟨hl, hcov, hw'⟩ := hw
      have hTall : ∀ e ∈ T, e ∈ all := fun e he => hall e (by simp [he])
      have hrall : ∀ e ∈ evs rest, e ∈ all := fun e he => hall e (by simp [he])
      have hS : Siblings c T := siblings_of_levelEv c T hr.nid hlev (fun e he => hu e (by simp [he]))
      obtain ⟨hN1, hN2⟩ := step_numbers all T l c.g.path rest ls _ hTall hrall hl hcross hw'
      rw [List.flatten_cons]
      refine chain_step nx c w T l rest ls.flatten _ (.bystander hr.hasGroup hr.act hr.ret hr.sec hr.below.noFork hr.nid hS) hr.below
        hmin (fun e he => (hl e he).imp id (staleAt_of_path hTall)) hcov hN1 hN2 (fun e1 h1 e2 h2 => (hcross e1 h1 e2 h2).2)
        hch' (fun e he => hu e (by simp [he])) (by simp [run_append]) ?_
      intro c1 hr1 hp1 hch1 hu1
      exact ih c1 ls hr1 hch1 hrall hu1 (hp1 ▸ hw')

/-- **chain of forks, bystander** (delivery lists over the levels' commits only) -/
theorem chain_rest (nx : Nat) (Ls : List Level) (c : Cl) (ls : List (List Ev)) (hr : Ready c)
    (hch : ChainEv c.id (core c.g) Ls) (hu : ∀ e ∈ evs Ls, getRec c e.n = none ∧ e.cipher ∉ c.g.consumed)
    (hw : LevelWise Ls ls) : ChainDone c Ls ls.flatten (run nx c ls.flatten) :=
  chain_rest_mixed nx (evs Ls) Ls c ls hr hch (fun _ h => h) hu (levelWiseS_of_levelWise _ Ls ls _ hw)

/-- **chain of forks, first level in any role** (bystander or committer), later levels as a bystander,
    stale events interleaved -/
theorem chain_run_mixed (nx : Nat) (all : List Ev) (c : Cl) (w : Ev) (T l : List Ev) (rest : List Level) (ls : List (List Ev))
    (hat : AtFork c T) (hbelow : Below c) (hmin : IsMin w T)
    (hl : ∀ e ∈ l, e ∈ T ∨ (StalePath c.g.path T e ∧ ∀ a ∈ all, e.n ≠ a.n)) (hcov : ∀ e ∈ T, e ∈ l)
    (hall : ∀ e ∈ T ++ evs rest, e ∈ all)
    (hcross : ∀ e1 ∈ T, ∀ e2 ∈ evs rest, e1.n ≠ e2.n ∧ e1.cipher ≠ e2.cipher)
    (hchain : ChainEv c.id (coreStep (core c.g) w) rest)
    (hu : ∀ e ∈ evs rest, getRec c e.n = none ∧ e.cipher ∉ c.g.consumed)
    (hw : LevelWiseS all (c.g.path ++ [w.cipher]) rest ls) :
    ChainDone c ((w, T) :: rest) (l ++ ls.flatten) (run nx c (l ++ ls.flatten)) := by
  have hTall : ∀ e ∈ T, e ∈ all := fun e he => hall e (List.mem_append_left _ he)
  have hrall : ∀ e ∈ evs rest, e ∈ all := fun e he => hall e (List.mem_append_right _ he)
  obtain ⟨hN1, hN2⟩ := step_numbers all T l c.g.path rest ls _ hTall hrall hl hcross hw
  exact chain_step nx c w T l rest ls.flatten _ hat hbelow hmin (fun e he => (hl e he).imp id (staleAt_of_path hTall)) hcov
    hN1 hN2 (fun e1 h1 e2 h2 => (hcross e1 h1 e2 h2).2) hchain hu (run_append nx c l _)
    (fun c1 hr1 hp1 hch1 hu1 => chain_rest_mixed nx all rest c1 ls hr1 hch1 hrall hu1 (hp1 ▸ hw))

theorem chain_run (nx : Nat) (c : Cl) (w : Ev) (T l : List Ev) (rest : List Level) (ls : List (List Ev))
    (hat : AtFork c T) (hbelow : Below c) (hmin : IsMin w T) (hcov : Covers T l)
    (hcross : ∀ e1 ∈ T, ∀ e2 ∈ evs rest, e1.n ≠ e2.n ∧ e1.cipher ≠ e2.cipher)
    (hchain : ChainEv c.id (coreStep (core c.g) w) rest)
    (hu : ∀ e ∈ evs rest, getRec c e.n = none ∧ e.cipher ∉ c.g.consumed)
    (hw : LevelWise rest ls) :
    ChainDone c ((w, T) :: rest) (l ++ ls.flatten) (run nx c (l ++ ls.flatten)) :=
  chain_run_mixed nx (T ++ evs rest) c w T l rest ls hat hbelow hmin (fun e he => Or.inl (hcov.1 e he)) hcov.2
    (fun _ h => h) hcross hchain hu (levelWiseS_of_levelWise _ rest ls _ hw)

/-! ## §F  a rollback over two epochs

  The client follows a loser `a` of a fork and a child `a'` of `a`, then receives the better sibling `b`:
  the snapshot taken when `a` was applied is still retained (retention ≥ 2), `is_better_candidate` compares
  `b` with `a`, `rollback_to_epoch` restores the parent state and drops BOTH snapshots, both records are
  invalidated, and `b` is applied. -/

theorem alookup_secretsAfter_ne (p : Path) (S : List (Nat × Path)) (k : Nat) (h : k ≠ epochOf p) :
    alookup k (secretsAfter p S) = alookup k S := by
  unfold secretsAfter
  split
  · rfl
  · exact alookup_ainsert_ne _ _ _ _ h

/-- two epochs down, the outer layer still opens an event of the grandparent state -/
theorem outerOpens_grandchild (c0 c1 : Cl) (hb : Base c0) (a a' e : Ev) (ha : Com c0 a)
    (hc1 : c1.g = wc (childG c0 a) c1.g.consumed) (hk' : ∃ b sw, a'.kind = .commit b sw) (hp : e.path = c0.g.path) :
    outerOpens (childG c1 a') e = true := by
  obtain ⟨b', sw', hk'⟩ := hk'
  obtain ⟨h1, _, h3, _⟩ := childG_facts c0 hb a ha
  have hp1 : c1.g.path = c0.g.path ++ [a.cipher] := by rw [hc1]; exact h1
  have hs1 : alookup (epochOf c0.g.path) c1.g.secrets = some c0.g.path := by rw [hc1]; exact h3
  have hsec : alookup (epochOf c0.g.path) (childG c1 a').secrets = some c0.g.path := by
    rw [childG_eq, childOfG_commit _ _ _ _ _ hk']
    simp only
    rw [alookup_secretsAfter_ne _ _ _ (by rw [hp1]; simp [epochOf] <;> omega),
      alookup_secretsAfter_ne _ _ _ (by rw [hp1]; simp [epochOf] <;> omega)]
    exact hs1
  have hpath : (childG c1 a').path = c0.g.path ++ [a.cipher] ++ [a'.cipher] := by
    rw [childG_eq, childOfG_commit _ _ _ _ _ hk', hp1]
  simp only [outerOpens, hpath, Bool.or_eq_true, List.any_eq_true]
  right
  refine ⟨1, by simp, ?_⟩
  have e2 : epochOf (c0.g.path ++ [a.cipher, a'.cipher]) - 2 = epochOf c0.g.path := by simp [epochOf]; omega
  have e3 : 2 ≤ epochOf (c0.g.path ++ [a.cipher, a'.cipher]) := by simp [epochOf]; omega
  simp only [hp]
  simp
  refine ⟨e3, ?_⟩
  rw [e2, hsec]
  simp

/-- two snapshots taken in a row with retention `r ≥ 2`: both are still in the queue -/
theorem drop_two (Q : List Snap) (s1 s2 : Snap) (r : Nat) (hr : 2 ≤ r) :
    ∃ k, ((Q ++ [s1]).drop ((Q ++ [s1]).length - r) ++ [s2]).drop (((Q ++ [s1]).drop ((Q ++ [s1]).length - r) ++ [s2]).length - r)
      = Q.drop k ++ s1 :: [s2] := by
  have h1 : (Q ++ [s1]).length - r ≤ Q.length := by simp only [List.length_append, List.length_singleton]; omega
  rw [List.drop_append_of_le_length h1]
  generalize (Q ++ [s1]).length - r = d1
  have h2 : (Q.drop d1 ++ ([s1] ++ [s2])).length - r ≤ (Q.drop d1).length := by
    simp only [List.length_append, List.length_singleton]; omega
  refine ⟨d1 + ((Q.drop d1 ++ ([s1] ++ [s2])).length - r), ?_⟩
  rw [List.append_assoc, List.drop_append_of_le_length h2, List.drop_drop]
  rfl

/-- the child `a'` of the sibling `a`: conditions on the event (created in `a`'s state, authorised by the admins
    `a` leaves, foreign, tagged with the id in force, neither rotating the id nor removing the receiver), and on
    the client's state at the fork (unseen, unconsumed) -/
structure ChildOf (c : Cl) (a a' : Ev) : Prop where
  path : a'.path = c.g.path ++ [a.cipher]
  kind : ∃ b sw, a'.kind = .commit b sw ∧
    ((coreStep (core c.g) a).2.2.admins.contains a'.sender || isPureSelfUpdate b sw) = true
  foreign : a'.sender ≠ c.id
  ts : a'.ts ≠ 0
  unseen : getRec c a'.n = none
  unconsumed : a'.cipher ∉ c.g.consumed
  tag : a'.tag = c.g.recNid
  keepsId : ∀ d sw, a'.kind = .commit (.setData d) sw → d.nid = c.g.recNid
  keepsMe : ∀ b sw, a'.kind = .commit b sw → removesMe c.id b sw = false

/-- **rollback over two epochs** -/
theorem depth2_core (c : Cl) (a b a' : Ev) (nx : Nat)
    (hg : c.hasGroup = true) (hact : c.g.active = true) (hr : 2 ≤ c.retention) (hsec : SecretsOK c.g) (hbelow : Below c)
    (hnid : c.g.recNid = c.g.nid)
    (hS : Siblings c [a, b]) (hab : a ≠ b) (hlt : klt (key b) (key a) = true)
    (hc : ChildOf c a a') (hn : a'.n ≠ a.n ∧ a'.n ≠ b.n) (hci : a'.cipher ≠ a.cipher) :
    CForm c b (run nx c [a, a', b]) ∧ getRec (run nx c [a, a', b]) b.n = some (rec2 c) ∧
    (getRec (run nx c [a, a', b]) a.n).map (·.state) = some 4 ∧
    (getRec (run nx c [a, a', b]) a'.n).map (·.state) = some 4 := by
  have hb : Base c := base_of c hg hact (by omega) hsec hbelow.noFork
  have hSs := sibs_of c [a, b] hnid hS
  have haS : a ∈ [a, b] := by simp
  have hbS : b ∈ [a, b] := by simp
  have sa := hSs.sib a haS
  have sb := hSs.sib b hbS
  obtain ⟨hnab, _, hcab⟩ := hS.distinct a haS b hbS hab
  -- step 1: `a` at the parent state
  obtain ⟨retry1, hd1⟩ := deliverN_once 3 nx c a
  obtain ⟨hcf1, hrecs1, hcons1, hm1⟩ := apply_parent c hb retry1 nx c a (pform_init c hb) sa (hS.unseen a haS) (hS.unconsumed a haS)
  generalize hc1 : (deliverOnce retry1 nx c a).1 = c1 at hcf1 hrecs1 hcons1 hm1
  have hp1 : c1.g.path = c.g.path ++ [a.cipher] := cform_path hb sa.com hcf1
  have hsec1 : SecretsOK c1.g := cform_secretsOK hcf1 hsec
  have hbel1 : Below c1 := cform_below hb sa.com hcf1 hbelow
  have hact1 : c1.g.active = true := cform_active c hb a c1 hcf1
  have hb1 : Base c1 := base_of c1 hcf1.hg hact1 (by rw [hcf1.ret]; omega) hsec1 hbel1.noFork
  have hkept1 : c1.g.recNid = c.g.recNid := cform_keptId sa.com hcf1
  have hnid1 : c1.g.recNid = c1.g.nid := (cform_synced hcf1).2.2.2.2.2
  -- step 2: the child `a'` at `a`'s state
  obtain ⟨bk, swk, hkk, hadm⟩ := hc.kind
  have hadm1 : c1.g.admins = (coreStep (core c.g) a).2.2.admins := by
    have := congrArg (fun k : Core => k.2.2.admins) (cform_core hcf1)
    exact this
  have sa' : Sib c1 a' :=
    ⟨by rw [hp1]; exact hc.path, ⟨bk, swk, hkk, by rw [isAdmin, hadm1]; exact hadm⟩,
     by rw [hcf1.id]; simpa using hc.foreign, hc.ts,
     by rw [hcons1]; intro x; rcases List.mem_cons.mp x with y | y
        · exact hci y
        · exact hc.unconsumed y,
     by rw [hkept1]; exact hc.tag,
     fun b' sw' hk' => keeps_nid c1 hnid1 b' (fun d hd => by rw [hkept1]; exact hc.keepsId d sw' (by rw [hk', hd])),
     fun b' sw' hk' => by rw [hcf1.id]; exact hc.keepsMe b' sw' hk'⟩
  have hr1 : getRec c1 a'.n = none := by
    simp only [getRec, hrecs1]; rw [alookup_ainsert_ne _ _ _ _ hn.1]; exact hc.unseen
  obtain ⟨retry2, hd2⟩ := deliverN_once 3 nx c1 a'
  obtain ⟨hcf2, hrecs2, hcons2, hm2⟩ := apply_parent c1 hb1 retry2 nx c1 a' (pform_init c1 hb1) sa' hr1 sa'.cipher
  generalize hc2 : (deliverOnce retry2 nx c1 a').1 = c2 at hcf2 hrecs2 hcons2 hm2
  -- the snapshot queue of c2: … ++ [snapshot of the parent (applied: a), snapshot of a's state (applied: a')]
  rw [hcf1.ret, hm1] at hm2
  obtain ⟨k, hk⟩ := drop_two c.mgr (snapOf c a (a.cipher :: c.g.consumed)) (snapOf c1 a' (a'.cipher :: c1.g.consumed)) c.retention hr
  rw [hk] at hm2
  have hX : ∀ x ∈ c.mgr.drop k, x.epoch ≠ epochOf c.g.path := drop_no_epoch c hb k
  -- step 3: the better sibling `b`
  have hr2 : getRec c2 b.n = none := by
    simp only [getRec, hrecs2, hrecs1]
    rw [alookup_ainsert_ne _ _ _ _ (Ne.symm hn.2), alookup_ainsert_ne _ _ _ _ (Ne.symm hnab)]
    exact hS.unseen b hbS
  have hst2 := (childG_stable c1 hb1 a' sa'.com).1
  have hw2 : withSecret c2 = c2 := withSecret_eq c2 (by rw [hcf2.g, ensureSecret_wc, hst2])
  have hp2 : c2.g.path = c.g.path ++ [a.cipher] ++ [a'.cipher] := by rw [cform_path hb1 sa'.com hcf2, hp1]
  obtain ⟨bb, swb, hkb⟩ := sb.com.kind
  have hbetter : isBetter c2 (epochOf c.g.path) b = true := by
    rw [isBetter_mid c2 _ _ _ _ b hm2 hX rfl sa.ts]; exact hlt
  obtain ⟨c3, hrb, hg3, hmgr3, hid3, hret3, hmp3, hhg3, hrec3⟩ := rollback_mid c2 _ _ _ _ hm2 hX rfl
  have hpf3 : PForm c c3 := by
    refine ⟨by rw [hid3, hcf2.id, hcf1.id], by rw [hret3, hcf2.ret, hcf1.ret], by rw [hmp3, hcf2.mp, hcf1.mp],
      by rw [hhg3]; exact hcf2.hg, ?_, ⟨_, hmgr3⟩⟩
    rw [hg3]
    simp only [snapOf, wc_consumed]
    rw [ensureSecret_wc]
    show wc (ensureSecret (ensureSecret c.g)) _ = _
    rw [ensureSecret_idem]; rfl
  have hcons3 : c3.g.consumed = a.cipher :: c.g.consumed := by rw [hg3]; rfl
  have hr3 : getRec c3 b.n = none := by rw [hrec3, hr2]; rfl
  obtain ⟨retry3, hd3⟩ := deliverN_once 2 nx c3 b
  obtain ⟨hcf4, hrecs4, _, _⟩ := apply_parent c hb retry3 nx c3 b hpf3 sb hr3
    (by rw [hcons3]; intro x; rcases List.mem_cons.mp x with y | y
        · exact hcab y.symm
        · exact hS.unconsumed b hbS y)
  have hfinal : run nx c [a, a', b] = (deliverOnce retry3 nx c3 b).1 := by
    show (deliver (deliver (deliver c a nx).1 a' nx).1 b nx).1 = _
    have e1 : (deliver c a nx).1 = c1 := by rw [deliver, hd1, hc1]
    have e2 : (deliver c1 a' nx).1 = c2 := by rw [deliver, hd2, hc2]
    rw [e1, e2]
    show (deliverOnce (fun x => some (deliverN 2 nx x b)) nx c2 b).1 = _
    rw [deliverOnce_norec _ _ _ _ hr2,
      step1_commit_wrong _ nx c2 b bb swb (cform_routes c1 a' c2 b hcf2 sa'.com (by rw [hkept1]; exact sb.tag))
        (cform_active c1 hb1 a' c2 hcf2)
        (by rw [hw2, hcf2.g, outerOpens_wc]
            exact outerOpens_grandchild c c1 hb a a' b sa.com hcf1.g sa'.com.kind sb.path) hkb
        (by rw [sb.path, hp2]; simp [epochOf]),
      hw2, sb.path]
    simp only [wrongEpochCommit, hbetter, if_true, hrb, hd3]
  rw [hfinal]
  refine ⟨hcf4, by simp only [getRec, hrecs4]; exact alookup_ainsert_self _ _ _, ?_, ?_⟩
  · have e : getRec (deliverOnce retry3 nx c3 b).1 a.n = (getRec c2 a.n).map (rbRec (epochOf c.g.path)) := by
      simp only [getRec, hrecs4]; rw [alookup_ainsert_ne _ _ _ _ hnab]; exact hrec3 a.n
    have e2 : getRec c2 a.n = some (rec2 c) := by
      simp only [getRec, hrecs2, hrecs1]
      rw [alookup_ainsert_ne _ _ _ _ (Ne.symm hn.1), alookup_ainsert_self]
    rw [e, e2]
    simp [rbRec, rbRec1, rbRec2, rec2]
  · have e : getRec (deliverOnce retry3 nx c3 b).1 a'.n = (getRec c2 a'.n).map (rbRec (epochOf c.g.path)) := by
      simp only [getRec, hrecs4]; rw [alookup_ainsert_ne _ _ _ _ hn.2]; exact hrec3 a'.n
    have e2 : getRec c2 a'.n = some (rec2 c1) := by
      simp only [getRec, hrecs2]; exact alookup_ainsert_self _ _ _
    rw [e, e2]
    have : epochOf c.g.path < epochOf c1.g.path + 1 := by rw [hp1, epochOf_snoc]; omega
    simp [rbRec, rbRec1, rbRec2, rec2, this]

/-! ## §G  the consumed ratchet generations

  `consumed` after a delivery ⊆ old `consumed` ∪ {e.cipher} — NOT for every state: a rollback restores the
  list saved in a snapshot, which for an arbitrary state is arbitrary (`Props.C01Chain.consumed_frame_needs_inv`).
  It holds for every state whose snapshots hold sub-lists of the current list, oldest first (`ConsMono`),
  which every operation preserves (so every reachable state satisfies it). -/

structure ConsMono (c : Cl) : Prop where
  below : ∀ s ∈ c.mgr, ∀ x ∈ s.saved.consumed, x ∈ c.g.consumed
  sorted : c.mgr.Pairwise (fun a b => ∀ x ∈ a.saved.consumed, x ∈ b.saved.consumed)

/-- the invariant is kept and the consumed list grew by at most `x` -/
structure CStep (x : Nat) (c c' : Cl) : Prop where
  inv : ConsMono c'
  sub : ∀ y ∈ c'.g.consumed, y ∈ c.g.consumed ∨ y = x

theorem cstep_refl (x : Nat) (c : Cl) (h : ConsMono c) : CStep x c c := ⟨h, fun _ hy => Or.inl hy⟩

theorem CStep.trans {x : Nat} {a b c : Cl} (h1 : CStep x a b) (h2 : CStep x b c) : CStep x a c :=
  ⟨h2.inv, fun y hy => by
    rcases h2.sub y hy with z | z
    · exact h1.sub y z
    · exact Or.inr z⟩

/-- same snapshots, consumed list grown by at most `x` -/
theorem cstep_grow (x : Nat) (c c' : Cl) (h : ConsMono c) (hm : c'.mgr = c.mgr)
    (h1 : ∀ y ∈ c.g.consumed, y ∈ c'.g.consumed) (h2 : ∀ y ∈ c'.g.consumed, y ∈ c.g.consumed ∨ y = x) : CStep x c c' :=
  ⟨⟨fun s hs y hy => h1 y (h.below s (hm ▸ hs) y hy), hm ▸ h.sorted⟩, h2⟩

theorem cstep_same (x : Nat) (c c' : Cl) (h : ConsMono c) (hm : c'.mgr = c.mgr) (hg : c'.g.consumed = c.g.consumed) :
    CStep x c c' :=
  cstep_grow x c c' h hm (fun _ hy => hg ▸ hy) (fun _ hy => Or.inl (hg ▸ hy))

/-- snapshot the current state, then continue with the same consumed list -/
theorem cstep_mgrCreate_then (x : Nat) (c : Cl) (ep : Nat) (e : Ev) (c' : Cl) (h : ConsMono c)
    (hm : c'.mgr = (mgrCreate c ep e).mgr) (hg : c'.g.consumed = c.g.consumed) : CStep x c c' := by
  refine ⟨⟨?_, ?_⟩, fun y hy => Or.inl (hg ▸ hy)⟩
  · rw [hm, hg]
    exact mgrCreate_saved (Q := fun g => ∀ y ∈ g.consumed, y ∈ c.g.consumed) ep e (fun _ hy => hy) h.below
  · rw [hm]
    exact mgrCreate_sorted ep e h.sorted h.below

theorem cstep_rollbackTo (x : Nat) (c c1 : Cl) (ep : Nat) (h : ConsMono c) (hr : rollbackTo c ep = some c1) : CStep x c c1 := by
  obtain ⟨h1, s, hs, _, hg, h3⟩ := rollbackTo_sorted h.sorted hr
  exact ⟨⟨fun t ht => hg ▸ h3 t ht, h1⟩, fun y hy => Or.inl (h.below s hs y (hg ▸ hy))⟩

theorem cstep_ownMessage (x : Nat) (c : Cl) (e : Ev) (h : ConsMono c) : CStep x c (ownMessage c e).1 := by
  have hs := ownMessage_spec c e
  generalize ownMessage c e = r at hs ⊢
  cases hs <;> exact cstep_same x c _ h rfl rfl

theorem cstep_consume (x : Nat) (c : Cl) (h : ConsMono c) : CStep x c (consume c x) :=
  cstep_grow x c _ h rfl (fun _ hy => List.mem_cons_of_mem _ hy) (fun y hy => by
    rcases List.mem_cons.mp hy with z | z
    · exact Or.inr z
    · exact Or.inl z)

/-- **frame of `process_message` on the consumed ratchet generations**: for every state whose snapshots
    are consistent (`ConsMono`), every event and every fuel, the consumed list grows by at most the
    event's ciphertext, and the invariant is kept -/
theorem cstep_deliverN (fuel nx : Nat) (c : Cl) (e : Ev) (h : ConsMono c) : CStep e.cipher c (deliverN fuel nx c e).1 := by
  refine deliverN_induct (P := fun c r => ConsMono c → CStep e.cipher c r.1) nx e (fun c _ _ _ h => cstep_refl _ c h) ?_ fuel c h
  intro c r _ hs h
  have hw : CStep e.cipher c (withSecret c) := cstep_same _ c _ h rfl (ensureSecret_consumed c.g)
  have hc := hw.trans (cstep_consume e.cipher _ hw.inv)
  cases hs with
  | unrouted | evicted => exact cstep_same _ c _ h rfl rfl
  | «sealed» | refused | echoed => exact cstep_same _ c _ h rfl (ensureSecret_consumed c.g)
  | own => exact hw.trans (cstep_ownMessage _ _ e hw.inv)
  | retried _ _ _ _ hrb ih =>
    have hr := cstep_rollbackTo e.cipher _ _ _ hw.inv hrb
    exact hw.trans (hr.trans (ih hr.inv))
  | mergedOwn =>
    refine hw.trans (cstep_mgrCreate_then _ (withSecret c) (epochOf (withSecret c).g.path) e _ hw.inv rfl ?_)
    exact (ensureSecret_consumed _).trans (mergeCommit_consumed _ _ _)
  | committed =>
    refine hc.trans (processCommit_cases (P := fun r => CStep _ _ r.1) _ e _ _ (cstep_same _ _ _ hc.inv rfl rfl) ?_)
    intro g r hg _
    refine cstep_mgrCreate_then _ _ _ e _ hc.inv rfl ?_
    rcases hg with rfl | rfl
    · exact mergeCommit_consumed _ _ _
    · exact (ensureSecret_consumed _).trans (mergeCommit_consumed _ _ _)
  | autoCommitted => exact hc.trans (cstep_same _ _ _ hc.inv rfl (ensureSecret_consumed _))
  | queued => exact hc.trans (cstep_same _ _ _ hc.inv rfl rfl)
  | stored => exact hc.trans (cstep_same _ _ _ hc.inv rfl (updLast_consumed _ _ _))

theorem consMono_init (id : Nat) (p : Bool) (r : Nat) (ms as : List Nat) (name : Nat) : ConsMono (initCl id p r ms as name) where
  below := by intro s hs; simp [initCl] at hs
  sorted := by simp [initCl]

theorem consMono_of (c c' : Cl) (h : ConsMono c) (hm : c'.mgr = c.mgr) (hg : c'.g.consumed = c.g.consumed) : ConsMono c' :=
  (cstep_same 0 c c' h hm hg).inv

theorem consMono_local {c : Cl} {r : Cl × Res} (h : ConsMono c) (hl : Local c r) : ConsMono r.1 := by
  cases hl with
  | refused | skipped => exact h
  | sent => exact consMono_of c _ h rfl ((updLast_consumed _ _ _).trans (ensureSecret_consumed _))
  | staged | left => exact consMono_of c _ h rfl (ensureSecret_consumed _)
  | merged => exact consMono_of c _ h rfl (mergeCommit_consumed _ _ _)
  | resynced | cleared => exact consMono_of c _ h rfl rfl
  | restarted =>
    refine ⟨fun s hs => ?_, List.Pairwise.map _ (fun _ _ hab => hab) h.sorted⟩
    obtain ⟨t, ht, rfl⟩ := List.mem_map.mp hs
    exact h.below t ht

/-- a joiner starts with an empty snapshot queue -/
theorem consMono_join (c : Cl) (g : GState) (h : ConsMono c) : ConsMono (join c g) := by
  unfold join
  split
  · exact h
  · exact ⟨fun s hs => absurd hs (List.not_mem_nil), List.Pairwise.nil⟩

/-! ## decidable forms of the event conditions (for closed examples) -/

instance (w : Ev) (S : List Ev) : Decidable (IsMin w S) := by unfold IsMin; infer_instance
instance (S l : List Ev) : Decidable (Covers S l) := by unfold Covers; infer_instance

instance decLevelWise : ∀ (Ls : List Level) (ls : List (List Ev)), Decidable (LevelWise Ls ls)
  | [], [] => isTrue trivial
  | [], _ :: _ => isFalse (fun h => h)
  | _ :: _, [] => isFalse (fun h => h)
  | L :: Ls, l :: ls => by
    unfold LevelWise
    exact @instDecidableAnd _ _ _ (decLevelWise Ls ls)

instance (p : Path) (S : List Ev) (e : Ev) : Decidable (StalePath p S e) := by unfold StalePath; infer_instance

instance decLevelWiseS (all : List Ev) : ∀ (p : Path) (Ls : List Level) (ls : List (List Ev)), Decidable (LevelWiseS all p Ls ls)
  | _, [], [] => isTrue trivial
  | _, [], _ :: _ => isFalse (fun h => h)
  | _, _ :: _, [] => isFalse (fun h => h)
  | p, L :: Ls, l :: ls => by
    unfold LevelWiseS
    have := decLevelWiseS all (p ++ [L.1.cipher]) Ls ls
    infer_instance

instance (id : Nat) (k : Core) (S : List Ev) : Decidable (LevelEv id k S) :=
  decidable_of_iff
    ((∀ e ∈ S, e.path = k.1 ∧ authCommit k.2.2.admins e = true ∧ e.sender ≠ id ∧ e.ts ≠ 0 ∧ e.tag = k.2.2.nid ∧
        keepsIdB k.2.2.nid e = true ∧ keepsMeB id e = true) ∧
      ∀ e1 ∈ S, ∀ e2 ∈ S, e1 ≠ e2 → e1.n ≠ e2.n ∧ (e1.ts, e1.idnum) ≠ (e2.ts, e2.idnum) ∧ e1.cipher ≠ e2.cipher)
    ⟨fun ⟨h, hd⟩ => ⟨fun e he => (h e he).1, fun e he => authCommit_iff.mp (h e he).2.1, fun e he => (h e he).2.2.1,
        fun e he => (h e he).2.2.2.1, hd, fun e he => (h e he).2.2.2.2.1, fun e he => keepsIdB_iff.mp (h e he).2.2.2.2.2.1,
        fun e he => keepsMeB_iff.mp (h e he).2.2.2.2.2.2⟩,
     fun h => ⟨fun e he => ⟨h.path e he, authCommit_iff.mpr (h.kind e he), h.foreign e he, h.ts e he, h.tag e he,
        keepsIdB_iff.mpr (h.keepsId e he), keepsMeB_iff.mpr (h.keepsMe e he)⟩, h.distinct⟩⟩

instance decChainEv (id : Nat) : ∀ (k : Core) (Ls : List Level), Decidable (ChainEv id k Ls)
  | _, [] => isTrue trivial
  | k, L :: rest => by
    unfold ChainEv
    have := decChainEv id (coreStep k L.1) rest
    infer_instance

end MdkVerif.Chain
