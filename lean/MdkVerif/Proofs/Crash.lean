import MdkVerif.Model.Crash
import MdkVerif.Model.CrashSeq
/-
  Lemmas for C12, in the order of its three models.  `Crash`: a bracketed call (BEGIN … COMMIT, SAVEPOINT …
  RELEASE) leaves the committed contents alone until its closing statement.  `CrashCore`: what handing an event over
  again does, before and after OpenMLS decrypted it (`Retry`).  `CrashSeq`: its generic retry is a `Retry` too.
-/
namespace MdkVerif.Crash
variable {δ : Type}

theorem run_append (d : Db δ) (a b : List (Stmt δ)) : run d (a ++ b) = run (run d a) b := by
  simp [run, List.foldl_append]

theorem run_reads (d : Db δ) (n : Nat) : run d (List.replicate n .read) = d := by
  induction n with
  | zero => rfl
  | succ n ih => simp only [List.replicate_succ, run, List.foldl_cons, step] at ih ⊢; exact ih

/-- inside an open transaction data statements only touch the working copy -/
theorem run_execs_open (c w : δ) (n : Nat) (body : List (δ → δ)) :
    run { committed := c, work := some w, depth := n } (body.map .exec) =
      { committed := c, work := some (effect body w), depth := n } := by
  induction body generalizing w with
  | nil => rfl
  | cons f fs ih => simp only [List.map_cons, run, List.foldl_cons, step, effect] at ih ⊢; exact ih (f w)

theorem complete_bracket (opn cls : Stmt δ) (d0 : δ) (reads : Nat) (body : List (δ → δ))
    (hopen : step (Db.fresh d0) opn = { committed := d0, work := some d0, depth := 1 })
    (hclose : ∀ w, step { committed := d0, work := some w, depth := 1 } cls = { committed := w, work := none, depth := 0 }) :
    complete (List.replicate reads Stmt.read ++ ([opn] ++ body.map .exec ++ [cls])) d0 = effect body d0 := by
  simp only [complete, run_append, run_reads]
  simp only [run, List.foldl_cons, List.foldl_nil, hopen]
  have := run_execs_open d0 d0 1 body
  simp only [run] at this
  rw [this, hclose]

theorem open_prefix_committed (opn : Stmt δ) (d0 : δ) (reads : Nat) (body : List (δ → δ))
    (hopen : step (Db.fresh d0) opn = { committed := d0, work := some d0, depth := 1 }) (k : Nat) :
    (run (Db.fresh d0) ((List.replicate reads Stmt.read ++ opn :: body.map .exec).take k)).committed = d0 := by
  rw [List.take_append, run_append, List.take_replicate, run_reads]
  cases k - (List.replicate reads (Stmt.read : Stmt δ)).length with
  | zero => rfl
  | succ j =>
    rw [List.take_succ_cons, run, List.foldl_cons, hopen, ← List.map_take]
    exact congrArg Db.committed (run_execs_open d0 d0 1 _)

theorem bracket_atomic (opn cls : Stmt δ) (d0 : δ) (reads : Nat) (body : List (δ → δ))
    (hopen : step (Db.fresh d0) opn = { committed := d0, work := some d0, depth := 1 })
    (hclose : ∀ w, step { committed := d0, work := some w, depth := 1 } cls = { committed := w, work := none, depth := 0 })
    (k : Nat) :
    let call := List.replicate reads Stmt.read ++ ([opn] ++ body.map .exec ++ [cls])
    crashAt k call d0 = d0 ∨ (crashAt k call d0 = effect body d0 ∧ call.length ≤ k) := by
  intro call
  by_cases h : call.length ≤ k
  · exact .inr ⟨by rw [crashAt, List.take_of_length_le h]; exact complete_bracket opn cls d0 reads body hopen hclose, h⟩
  · -- the closing statement was not executed
    have e : call = (List.replicate reads Stmt.read ++ opn :: body.map .exec) ++ [cls] := by simp [call]
    have hl : k ≤ (List.replicate reads Stmt.read ++ opn :: body.map .exec).length := by
      rw [e, List.length_append] at h; simp only [List.length_singleton] at h; omega
    exact .inl (by rw [crashAt, e, List.take_append_of_le_length hl]; exact open_prefix_committed opn d0 reads body hopen k)

end MdkVerif.Crash

theorem MdkVerif.beq_false_of_apply_ne {α β : Type} [BEq α] [LawfulBEq α] (f : α → β) {x y : α} (h : f x ≠ f y) :
    (x == y) = false :=
  beq_eq_false_iff_ne.mpr fun e => h (congrArg f e)

namespace MdkVerif.CrashCore

theorem saveSecret_noop {d : Db} (h : d.mlsE ∈ d.secrets) : applyW d .saveSecret = d := by
  simp [applyW, h]

theorem saveSecret_has (d : Db) : (applyW d .saveSecret).mlsE ∈ (applyW d .saveSecret).secrets := by
  by_cases h : d.mlsE ∈ d.secrets
  · rw [saveSecret_noop h]; exact h
  · simp [applyW, h]

theorem saveSecret_idem (d : Db) : applyW (applyW d .saveSecret) .saveSecret = applyW d .saveSecret :=
  saveSecret_noop (saveSecret_has d)

/-- What the retry of a remote event is, at the core level and in `Model.CrashSeq`, seen through what the
    application observes (`o`): before the decryption the retry `r` is the call `ws` again; once OpenMLS has
    decrypted the ciphertext it is refused and at most the dedup record changes, which `o` does not show. -/
structure Retry (o r : Db → Db) (ws : List W) : Prop where
  undecrypted : ∀ d, d.pm = 0 → d.consumed = false → r d = run d ws
  consumed : ∀ d, d.consumed = true → o (r d) = o d
  savePm : ∀ d st, o (applyW d (.savePm st)) = o d

namespace Retry
variable {o r : Db → Db} {ws : List W} (R : Retry o r ws)
include R

theorem zero {d : Db} (h1 : d.pm = 0) (h2 : d.consumed = false) : (o (r d) == o (run d ws)) = true := by
  rw [R.undecrypted d h1 h2]; exact beq_self_eq_true _

/-- the exporter secret saved lazily before the decryption is saved again, to no effect, by the retry -/
theorem one {d : Db} {rest : List W} (hw : ws = .saveSecret :: rest) (h1 : d.pm = 0) (h2 : d.consumed = false) :
    (o (r (applyW d .saveSecret)) == o (run d ws)) = true := by
  rw [R.undecrypted (applyW d .saveSecret) h1 h2, hw]
  show (o (run (applyW (applyW d .saveSecret) .saveSecret) rest) == _) = true
  rw [saveSecret_idem]; exact beq_self_eq_true _

theorem past {d : Db} {k : Nat} (hk : ws.length ≤ k) (h : (run d ws).consumed = true) :
    (o (r (run d (ws.take k))) == o (run d ws)) = true := by
  rw [List.take_of_length_le hk, R.consumed _ h]; exact beq_self_eq_true _

theorem run_savePm (d : Db) (l : List W) (st : Nat) : o (run d (l ++ [.savePm st])) = o (run d l) := by
  rw [run, List.foldl_append]; exact R.savePm _ st

end Retry

theorem retry_core {kind : Kind} (hk : kind = .application ∨ kind = .commit) {ws : List W} (hw : writes kind = ws) :
    Retry obs (retry kind) ws where
  undecrypted d h1 h2 := by subst hw; rcases hk with rfl | rfl <;> simp [retry, complete, h1, h2]
  consumed d h := by
    rcases hk with rfl | rfl <;> simp only [retry, if_pos h]
    · split <;> rfl
    · split
      · rfl
      · split <;> rfl
  savePm _ _ := rfl

end MdkVerif.CrashCore

theorem MdkVerif.CrashSeq.retry_message (ws : List CrashCore.W) :
    CrashCore.Retry obsG (fun d => (retryG .message ws d).1) ws where
  undecrypted d h1 h2 := by simp [retryG, h1, h2]
  consumed d h := by
    simp only [retryG, if_pos h]
    split
    · rfl
    · split <;> rfl
  savePm _ _ := rfl
