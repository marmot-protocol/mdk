import MdkVerif.Model.Client
import MdkVerif.Model.Proposal
import MdkVerif.Proofs.Client
/- Model.Proposal: how `process_message`, `process_proposal` and the commit builders end (`Step1P`, `Proposed`, `StagedP`,
   with rule induction over the re-processing); the invariant "only members' own requests to leave are queued" over all
   client operations; agreement with Model.Client -/
namespace MdkVerif.Proposal
open MdkVerif MdkVerif.Client

@[simp] theorem ensureSecret_xq (g : GState) : (ensureSecret g).xq = g.xq := by
  unfold ensureSecret; split <;> simp
@[simp] theorem withSecret_xq (c : Cl) : (withSecret c).g.xq = c.g.xq := ensureSecret_xq c.g
theorem updLast_store (g : GState) (m t : Nat) :
    (updLast g m t).xq = g.xq ∧ (updLast g m t).props = g.props ∧ (updLast g m t).pending = g.pending := by
  obtain ⟨l, hl⟩ := updLast_last g m t; rw [hl]; exact ⟨rfl, rfl, rfl⟩

theorem applyX_nil (m : List Nat) : applyX m [] = m := by
  simp [applyX, xTargets, xAdds]

/-- a merged commit empties the store and the pending commit; anything else leaves the state alone -/
theorem mergeCommitP_store (mp : Nat) (g : GState) (e : Ev) :
    ((mergeCommitP mp g e).xq = [] ∧ (mergeCommitP mp g e).props = [] ∧ (mergeCommitP mp g e).pending = none) ∨
    mergeCommitP mp g e = g := by
  unfold mergeCommitP mergeCommit
  cases e.kind <;> simp

@[simp] theorem mergeCommitP_active (mp : Nat) (g : GState) (e : Ev) : (mergeCommitP mp g e).active = g.active := by
  unfold mergeCommitP mergeCommit
  cases e.kind with
  | commit b sw => cases b <;> simp [applyBody]
  | app a b c => simp
  | leave => simp

theorem mergeCommitP_eq (mp : Nat) (g : GState) (e : Ev) (h : e.sweptX = []) : mergeCommitP mp g e = mergeCommit mp g e := by
  unfold mergeCommitP
  cases hk : e.kind <;> simp [h, applyX_nil]

/-- a member's own leave reaching an admin that can build the commit: the leave is stored, then a commit referencing the
    whole store is staged as event `nx` -/
def autoCommitP (nx : Nat) (c : Cl) (e : Ev) : Cl × Res :=
  let g1 := storeProp c.g e.sender (.remove e.sender)
  let ne := autoCommitEv c g1 nx
  (setRec { c with g := ensureSecret { g1 with pending := some ne } } e.n
    { state := 1, epoch := some (epochOf c.g.path), hasGroup := true, mid := none }, .proposalCommitted ne)

/-- How `process_proposal` ends: nothing stored; the proposal stored; stored and then `Unprocessable` (the code before
    repair 0339cde, `checksFirst = false`); or, for a member's own leave at an admin with no commit pending and no queued
    removal of itself, stored and committed. -/
inductive Proposed (nx : Nat) (c : Cl) (e : Ev) (p : PK) : Cl × Res → Prop
  | ignored : (∀ t, p ≠ .remove t) → (∀ w, p ≠ .add w) →
      Proposed nx c e p (setRec c e.n { state := 1, epoch := some (epochOf c.g.path), hasGroup := true, mid := none }, .ignored)
  | stored : Proposed nx c e p (setRec { c with g := storeProp c.g e.sender p } e.n
      { state := 1, epoch := some (epochOf c.g.path), hasGroup := true, mid := none }, .pending)
  | failed : checksFirst = false → Proposed nx c e p (failUnprocessable { c with g := storeProp c.g e.sender p } e)
  | autoCommitted : p = .remove e.sender → isAdmin c.g c.id = true → c.g.pending = none →
      storeRemoves (storeProp c.g e.sender p) c.id = false → Proposed nx c e p (autoCommitP nx c e)

theorem storeProp_pending (g : GState) (s : Nat) (p : PK) : (storeProp g s p).pending = g.pending := by
  cases p with
  | remove t => exact ite_elim (P := fun g' : GState => g'.pending = g.pending) (fun _ => rfl) (fun _ => rfl)
  | _ => rfl

theorem processProposal_spec (nx : Nat) (c : Cl) (e : Ev) (p : PK) : Proposed nx c e p (processProposal nx c e p) := by
  unfold processProposal
  cases p with
  | update | gce | other => exact .ignored (fun _ h => nomatch h) (fun _ h => nomatch h)
  | add w => exact .stored
  | remove t =>
    dsimp only
    refine ite_elim (fun h => ?_) (fun _ => .stored)
    refine ite_elim (fun _ => ite_elim (fun _ => .stored) (fun h => .failed (by simpa using h))) (fun hb => ?_)
    obtain ⟨rfl, ha⟩ : t = e.sender ∧ isAdmin c.g c.id = true := by simpa using h
    have hb : (storeProp c.g e.sender (.remove e.sender)).pending = none ∧
        storeRemoves (storeProp c.g e.sender (.remove e.sender)) c.id = false := by simpa using hb
    exact .autoCommitted rfl ha (storeProp_pending .. ▸ hb.1) hb.2

/-- `OwnCommitPending`: the echo `e` of the own pending commit `p` — snapshot, merge `p` with what it references,
    ProcessedCommit -/
def mergeOwnP (c : Cl) (e p : Ev) : Cl × Res :=
  let c1 := mgrCreate c (epochOf c.g.path) e
  let g2 := syncRec (ensureSecret (mergeCommitP c.maxPast c1.g p))
  (setRec { c1 with g := g2 } e.n { state := 2, epoch := some (epochOf g2.path), hasGroup := true, mid := none }, .commit)

/-- `Client.Step1` with the proposal store: one constructor per outcome of `step1P`.  The outcomes from `echoed` on are those
    of an event that is not a proposal. -/
inductive Step1P (R : Cl → Cl × Res → Prop) (nx : Nat) (x : PEv) (c : Cl) : Cl × Res → Prop
  | unrouted : routes c x.e = false → Step1P R nx x c (recordFailure c x.e.n false none, .err eGroupNotFound)
  | evicted : routes c x.e = true → c.g.active = false → Step1P R nx x c (recordFailure c x.e.n true none, .err eExportSecret)
  | sealed : routes c x.e = true → c.g.active = true → outerOpens (withSecret c).g x.e = false →
      Step1P R nx x c (recordFailure (withSecret c) x.e.n true none, .err eMessage)
  | refused : Opens c x.e → Step1P R nx x c (failUnprocessable (withSecret c) x.e)
  | own : Opens c x.e → x.e.sender = c.id →
      ((∃ mid ts tok, x.e.kind = .app mid ts tok) ∨ epochOf x.e.path = epochOf c.g.path) →
      Step1P R nx x c (ownMessage (withSecret c) x.e)
  | proposed {p} : Opens c x.e → propKind x = some p → epochOf x.e.path = epochOf c.g.path → x.e.sender ≠ c.id →
      x.e.cipher ∉ c.g.consumed → Step1P R nx x c (processProposal nx (consume (withSecret c) x.e.cipher) x.e p)
  | echoed {b sw} : Opens c x.e → propKind x = none → x.e.kind = .commit b sw → epochOf x.e.path ≠ epochOf c.g.path →
      Step1P R nx x c (returnOwnCommit (withSecret c))
  | retried {b sw c₁ r} : Opens c x.e → propKind x = none → x.e.kind = .commit b sw → epochOf x.e.path ≠ epochOf c.g.path →
      isBetter c (epochOf x.e.path) x.e = true → rollbackTo (withSecret c) (epochOf x.e.path) = some c₁ → R c₁ r →
      Step1P R nx x c r
  | mergedOwn {b sw p} : Opens c x.e → propKind x = none → x.e.kind = .commit b sw → epochOf x.e.path = epochOf c.g.path →
      x.e.sender = c.id → c.g.pending = some p → Step1P R nx x c (mergeOwnP (withSecret c) x.e p)
  | unheld {b sw} : Opens c x.e → propKind x = none → x.e.kind = .commit b sw → epochOf x.e.path = epochOf c.g.path →
      x.e.sender ≠ c.id → x.e.cipher ∉ c.g.consumed → holdsRefs (withSecret c).g sw x.e.sweptX = false →
      Step1P R nx x c (failUnprocessable (consume (withSecret c) x.e.cipher) x.e)
  | committed {b sw} : Opens c x.e → propKind x = none → x.e.kind = .commit b sw → epochOf x.e.path = epochOf c.g.path →
      x.e.sender ≠ c.id → x.e.cipher ∉ c.g.consumed → holdsRefs (withSecret c).g sw x.e.sweptX = true →
      Step1P R nx x c (processCommitP (consume (withSecret c) x.e.cipher) x.e b sw)
  | stored {mid ts tok} : Opens c x.e → propKind x = none → x.e.kind = .app mid ts tok → epochOf x.e.path ≤ epochOf c.g.path →
      (epochOf x.e.path = epochOf c.g.path ∨ x.e.path ∈ c.g.past) → x.e.sender ≠ c.id → x.e.cipher ∉ c.g.consumed →
      Step1P R nx x c (storeApp (consume (withSecret c) x.e.cipher) x.e mid ts tok)

theorem step1P_spec {R : Cl → Cl × Res → Prop} (retry : Cl → Option (Cl × Res)) (hR : ∀ c₁ r, retry c₁ = some r → R c₁ r)
    (nx : Nat) (c : Cl) (x : PEv) : Step1P R nx x c (step1P retry nx c x) := by
  unfold step1P
  dsimp only
  refine ite_elim (fun h => .unrouted (by simpa using h)) (fun hr => ?_)
  refine ite_elim (fun h => .evicted (by simpa using hr) (by simpa using h)) (fun ha => ?_)
  refine ite_elim (fun h => .sealed (by simpa using hr) (by simpa using ha) (by simpa using h)) (fun hop => ?_)
  have ho : Opens c x.e := ⟨by simpa using hr, by simpa using ha, by simpa using hop⟩
  cases hp : propKind x with
  | some p =>
    dsimp only
    refine ite_elim (fun _ => .refused ho) (fun heq => ?_)
    refine ite_elim (fun hs => .own ho (by simpa using hs) (.inr (by simpa using heq))) (fun hs => ?_)
    refine ite_elim (fun _ => .refused ho) (fun hc => ?_)
    exact .proposed ho hp (by simpa using heq) (by simpa using hs) (by simpa using hc)
  | none =>
    dsimp only
    cases hk : x.e.kind with
    | commit b sw =>
      dsimp only
      refine ite_elim (fun hne => ?_) (fun heq => ?_)
      · have hne : epochOf x.e.path ≠ epochOf c.g.path := by simpa using hne
        exact wrongEpochCommit_cases _ _ _ _ (notBetterResult_cases _ _ (.echoed ho hp hk hne) (.refused ho))
          (fun c₁ r hb hrb hrt => .retried ho hp hk hne hb hrb (hR c₁ r hrt))
      · have heq : epochOf x.e.path = epochOf c.g.path := by simpa using heq
        refine ite_elim (fun hs => ?_) (fun hs => ?_)
        · have hs : x.e.sender = c.id := by simpa using hs
          cases hpc : (withSecret c).g.pending with
          | none => exact .own ho hs (.inr heq)
          | some pc => exact .mergedOwn ho hp hk heq hs (by simpa using hpc)
        · have hs : x.e.sender ≠ c.id := by simpa using hs
          refine ite_elim (fun _ => .refused ho) (fun hc => ?_)
          have hc : x.e.cipher ∉ c.g.consumed := by simpa using hc
          exact ite_elim (fun hh => .unheld ho hp hk heq hs hc (by simpa using hh))
            (fun hh => .committed ho hp hk heq hs hc (by simpa using hh))
    | leave => exact .refused ho
    | app mid ts tok =>
      dsimp only
      refine ite_elim (fun _ => .refused ho) (fun hle => ?_)
      refine ite_elim (fun _ => .refused ho) (fun hpast => ?_)
      refine ite_elim (fun hs => .own ho (by simpa using hs) (.inl ⟨_, _, _, hk⟩)) (fun hs => ?_)
      refine ite_elim (fun _ => .refused ho) (fun hc => ?_)
      have hle : epochOf x.e.path ≤ epochOf c.g.path := by simpa using hle
      refine .stored ho hp hk hle ?_ (by simpa using hs) (by simpa using hc)
      by_cases hlt : epochOf x.e.path < epochOf c.g.path
      · exact Or.inr (by simpa [hlt] using hpast)
      · exact Or.inl (by omega)

theorem deliverOnceP_cases {P : Cl × Res → Prop} (retry : Cl → Option (Cl × Res)) (nx : Nat) (c : Cl) (x : PEv)
    (blocked : ∀ r, getRec c x.e.n = some r → r.state = 3 ∨ r.state = 4 →
      P (c, if routes c x.e then .unprocessable else .previouslyFailed))
    (step : (∀ r, getRec c x.e.n = some r → r.state ≠ 3 ∧ r.state ≠ 4) → P (step1P retry nx c x)) :
    P (deliverOnceP retry nx c x) := by
  unfold deliverOnceP
  cases hr : getRec c x.e.n with
  | none => exact step (fun r h => by rw [hr] at h; cases h)
  | some r =>
    refine ite_elim (fun h => blocked r hr (by simpa using h)) (fun h => step ?_)
    intro r' hr'
    rw [hr] at hr'; cases hr'
    simpa using h

theorem deliverNP_induct {P : Cl → Cl × Res → Prop} (nx : Nat) (x : PEv)
    (blocked : ∀ c r, getRec c x.e.n = some r → r.state = 3 ∨ r.state = 4 →
      P c (c, if routes c x.e then .unprocessable else .previouslyFailed))
    (step : ∀ c r, (∀ r, getRec c x.e.n = some r → r.state ≠ 3 ∧ r.state ≠ 4) → Step1P P nx x c r → P c r)
    (fuel : Nat) (c : Cl) : P c (deliverNP fuel nx c x) := by
  induction fuel generalizing c with
  | zero =>
    exact deliverOnceP_cases _ nx c x (blocked c) (fun h => step c _ h (step1P_spec _ (fun _ _ h => by cases h) nx c x))
  | succ f ih =>
    exact deliverOnceP_cases _ nx c x (blocked c)
      (fun h => step c _ h (step1P_spec _ (fun c₁ r h => by cases h; exact ih c₁) nx c x))

/-! ### "only members' own requests to leave are queued" -/

/-- `L`: the members that have asked to leave (sent a Remove proposal for their own leaf).  Nothing but leaves of such
    members is queued, and a staged own commit references nothing else -/
def SelfOnly (L : Nat → Prop) (g : GState) : Prop :=
  g.xq = [] ∧ (∀ m ∈ g.props, L m) ∧
  ∀ e, g.pending = some e → e.sweptX = [] ∧ ∀ b sw, e.kind = .commit b sw → ∀ m ∈ sw, L m

/-- … now and in every state a rollback can restore -/
def PropsSelfOnly (L : Nat → Prop) (c : Cl) : Prop := SelfOnly L c.g ∧ ∀ s ∈ c.mgr, SelfOnly L s.saved

variable {L : Nat → Prop}

theorem selfOnly_of_eq (g g' : GState) (h : SelfOnly L g)
    (h1 : g'.xq = g.xq) (h2 : g'.props = g.props) (h3 : g'.pending = g.pending) : SelfOnly L g' := by
  unfold SelfOnly at *; rw [h1, h2, h3]; exact h

theorem selfOnly_ensureSecret (g : GState) (h : SelfOnly L g) : SelfOnly L (ensureSecret g) :=
  selfOnly_of_eq g _ h (by simp) (by simp) (by simp)

theorem selfOnly_syncRec (g : GState) (h : SelfOnly L g) : SelfOnly L (syncRec g) :=
  selfOnly_of_eq g _ h rfl rfl rfl

theorem selfOnly_updLast (g : GState) (m t : Nat) (h : SelfOnly L g) : SelfOnly L (updLast g m t) :=
  selfOnly_of_eq g _ h (updLast_store g m t).1 (updLast_store g m t).2.1 (updLast_store g m t).2.2

theorem selfOnly_cleared (g : GState) (h1 : g.xq = []) (h2 : g.props = []) (h3 : g.pending = none) : SelfOnly L g := by
  refine ⟨h1, ?_, ?_⟩
  · intro m hm; rw [h2] at hm; cases hm
  · intro e he; rw [h3] at he; cases he

theorem selfOnly_mergeCommitP (mp : Nat) (g : GState) (e : Ev) (h : SelfOnly L g) :
    SelfOnly L (mergeCommitP mp g e) := by
  rcases mergeCommitP_store mp g e with ⟨h1, h2, h3⟩ | h0
  · exact selfOnly_cleared _ h1 h2 h3
  · rw [h0]; exact h

theorem pso_setRec {L : Nat → Prop} (c : Cl) (n : Nat) (r : Rec) (h : PropsSelfOnly L c) : PropsSelfOnly L (setRec c n r) := h
theorem pso_recordFailure {L : Nat → Prop} (c : Cl) (n : Nat) (b : Bool) (e : Option Nat) (h : PropsSelfOnly L c) :
    PropsSelfOnly L (recordFailure c n b e) := h
theorem pso_failUnprocessable {L : Nat → Prop} (c : Cl) (e : Ev) (h : PropsSelfOnly L c) : PropsSelfOnly L (failUnprocessable c e).1 := h

theorem pso_mgrCreate (c : Cl) (ep : Nat) (e : Ev) (h : PropsSelfOnly L c) : PropsSelfOnly L (mgrCreate c ep e) :=
  ⟨h.1, mgrCreate_saved ep e h.1 h.2⟩

theorem pso_ownMessage (c : Cl) (e : Ev) (h : PropsSelfOnly L c) : PropsSelfOnly L (ownMessage c e).1 := by
  have hs := ownMessage_spec c e
  generalize ownMessage c e = r at hs
  cases hs with
  | same | confirmed => exact h
  | echo => exact ⟨selfOnly_syncRec c.g h.1, h.2⟩

theorem pso_processCommitP (c : Cl) (e : Ev) (b : Body) (sw : List Nat) (h : PropsSelfOnly L c) :
    PropsSelfOnly L (processCommitP c e b sw).1 := by
  let P := fun r : Cl × Res => PropsSelfOnly L r.1
  have hm := (pso_mgrCreate c (epochOf c.g.path) e h).2
  have hmerge : SelfOnly L (mergeCommitP c.maxPast c.g e) := selfOnly_mergeCommitP _ _ _ h.1
  unfold processCommitP
  refine ite_elim (P := P) (fun _ => h) (fun _ => ite_elim (P := P) (fun _ => ?_)
    (fun _ => ⟨selfOnly_syncRec _ (selfOnly_ensureSecret _ hmerge), hm⟩))
  -- eviction: the commit is merged, the store is kept
  exact ⟨⟨h.1.1, h.1.2.1, hmerge.2.2⟩, hm⟩

/-- a proposal that mdk's own API can have produced, or that `process_proposal` does not store as somebody else's request:
    NOT a Remove of another member, NOT an Add -/
def Honest (x : PEv) : Prop := ∀ p, x.prop = some p → (∀ t, p = .remove t → t = x.e.sender) ∧ ∀ w, p ≠ .add w

/-- … and a Remove of the sender itself comes from somebody who has asked to leave -/
def LeaverIn (L : Nat → Prop) (x : PEv) : Prop := propKind x = some (.remove x.e.sender) → L x.e.sender

theorem selfOnly_storeProp (g : GState) (s : Nat) (p : PK) (h : SelfOnly L g)
    (hp : (∀ t, p = .remove t → t = s ∧ L s) ∧ ∀ w, p ≠ .add w) : SelfOnly L (storeProp g s p) := by
  cases p with
  | add w => exact absurd rfl (hp.2 w)
  | remove t =>
    obtain ⟨rfl, hs⟩ := hp.1 t rfl
    simp only [storeProp, beq_self_eq_true, if_true]
    refine ⟨h.1, fun m hm => ?_, h.2.2⟩
    rcases List.mem_cons.mp (show m ∈ t :: g.props by simpa using hm) with rfl | hm'
    · exact hs
    · exact h.2.1 m hm'
  | _ => exact h

theorem pso_processProposal (nx : Nat) (c : Cl) (e : Ev) (p : PK) (h : PropsSelfOnly L c)
    (hh : (∀ t, p = .remove t → t = e.sender ∧ L e.sender) ∧ ∀ w, p ≠ .add w) : PropsSelfOnly L (processProposal nx c e p).1 := by
  have hst := selfOnly_storeProp c.g e.sender p h.1 hh
  have hs := processProposal_spec nx c e p
  generalize processProposal nx c e p = r at hs
  cases hs with
  | ignored => exact h
  | stored | failed => exact ⟨hst, h.2⟩
  | autoCommitted hp =>
    subst hp
    -- the staged commit references exactly the store, which holds nothing but such leaves
    refine ⟨selfOnly_ensureSecret _ ⟨hst.1, hst.2.1, fun e' he' => ?_⟩, h.2⟩
    obtain rfl := Option.some.inj he'
    refine ⟨hst.1, fun b sw hk m hm => ?_⟩
    cases hk
    exact hst.2.1 m hm

theorem propKind_honest (x : PEv) (p : PK) (hx : Honest x) (hl : LeaverIn L x) (hp : propKind x = some p) :
    (∀ t, p = .remove t → t = x.e.sender ∧ L x.e.sender) ∧ ∀ w, p ≠ .add w := by
  have key : (∀ t, p = .remove t → t = x.e.sender) ∧ ∀ w, p ≠ .add w := by
    unfold propKind at hp
    cases hpr : x.prop with
    | some q => rw [hpr] at hp; obtain rfl : q = p := Option.some.inj hp; exact hx q hpr
    | none =>
      rw [hpr] at hp
      cases hk : x.e.kind with
      | leave => rw [hk] at hp; cases hp; exact ⟨fun t ht => by cases ht; rfl, fun w hw => nomatch hw⟩
      | app a b c' => rw [hk] at hp; cases hp
      | commit b sw => rw [hk] at hp; cases hp
  refine ⟨fun t ht => ?_, key.2⟩
  obtain rfl := key.1 t ht
  exact ⟨rfl, hl (ht ▸ hp)⟩

theorem pso_deliverNP (fuel nx : Nat) (c : Cl) (x : PEv) (h : PropsSelfOnly L c) (hx : Honest x) (hl : LeaverIn L x) :
    PropsSelfOnly L (deliverNP fuel nx c x).1 := by
  refine deliverNP_induct (P := fun c r => PropsSelfOnly L c → PropsSelfOnly L r.1) nx x (fun _ _ _ _ h => h) ?_ fuel c h
  intro c r _ hs h
  have hw : PropsSelfOnly L (withSecret c) := ⟨selfOnly_ensureSecret c.g h.1, h.2⟩
  -- consuming a ratchet generation does not touch the store
  have hc : PropsSelfOnly L (consume (withSecret c) x.e.cipher) := hw
  cases hs with
  | unrouted | evicted => exact h
  | «sealed» | refused => exact hw
  | own => exact pso_ownMessage _ _ hw
  | proposed _ hp => exact pso_processProposal nx _ _ _ hc (propKind_honest x _ hx hl hp)
  | echoed => exact ⟨selfOnly_syncRec _ hw.1, hw.2⟩
  | retried _ _ _ _ _ hrb ih => exact ih (rollbackTo_saved hw.2 hrb)
  | mergedOwn =>
    exact ⟨selfOnly_syncRec _ (selfOnly_ensureSecret _ (selfOnly_mergeCommitP _ _ _ hw.1)), (pso_mgrCreate _ _ _ hw).2⟩
  | unheld => exact hc
  | committed => exact pso_processCommitP _ _ _ _ hc
  | stored => exact ⟨selfOnly_updLast _ _ _ hc.1, hc.2⟩

theorem pso_send (c : Cl) (n ts idn mid mts tok : Nat) (h : PropsSelfOnly L c) : PropsSelfOnly L (send c n ts idn mid mts tok).1 := by
  let P := fun r : Cl × Res => PropsSelfOnly L r.1
  unfold send
  exact ite_elim (P := P) (fun _ => h) (fun _ => ite_elim (P := P) (fun _ => h) (fun _ => ite_elim (P := P) (fun _ => h)
    (fun _ => ⟨selfOnly_updLast _ _ _ (selfOnly_ensureSecret _ h.1), h.2⟩)))

theorem pso_sendP (c : Cl) (n ts idn mid mts tok : Nat) (h : PropsSelfOnly L c) : PropsSelfOnly L (sendP c n ts idn mid mts tok).1 := by
  let P := fun r : Cl × Res => PropsSelfOnly L r.1
  unfold sendP
  exact ite_elim (P := P) (fun _ => h) (fun _ => ite_elim (P := P) (fun _ => h) (fun _ => ite_elim (P := P) (fun _ => h)
    (fun _ => pso_send c n ts idn mid mts tok h)))

/-- the commit a builder of `Model.Proposal` stages: the body `b` and, by reference, the whole store -/
def stagedEv (c : Cl) (n ts idn : Nat) (b : Body) : Ev :=
  { n := n, ts := ts, idnum := idn, cipher := n, sender := c.id, path := (ensureSecret c.g).path,
    kind := .commit b (ensureSecret c.g).props, tag := (ensureSecret c.g).recNid, sweptX := (ensureSecret c.g).xq }

/-- How `self_update`, `update_group_data`, `remove_members` and `add_members` end over `Model.Proposal`: refused with the
    client as it was; or the commit is staged and published; or staged and, because a Welcome came out where none is
    expected, the call fails with the commit left pending. -/
inductive StagedP (c : Cl) (n ts idn : Nat) (b : Body) : Cl × Res → Prop
  | refused (k : Nat) : StagedP c n ts idn b (c, .err k)
  | blocked : c.g.active = true → c.g.pending = none → storeRemoves c.g c.id = false →
      StagedP c n ts idn b ({ c with g := { ensureSecret c.g with pending := some (stagedEv c n ts idn b) } }, .err eGroup)
  | staged : c.g.active = true → c.g.pending = none → storeRemoves c.g c.id = false →
      StagedP c n ts idn b (setRec { c with g := { ensureSecret c.g with pending := some (stagedEv c n ts idn b) } } n
        { state := 2, epoch := some (epochOf (ensureSecret c.g).path), hasGroup := true, mid := none }, .ev (stagedEv c n ts idn b))

theorem stageCommitP_spec (c : Cl) (n ts idn : Nat) (b : Body) (na : Bool) : StagedP c n ts idn b (stageCommitP c n ts idn b na) := by
  unfold stageCommitP
  refine ite_elim (fun _ => .refused _) (fun _ => ite_elim (fun _ => .refused _) (fun ha => ite_elim (fun _ => .refused _) (fun _ =>
    ite_elim (fun _ => .refused _) (fun hp => ?_))))
  have ha : c.g.active = true := by simpa using ha
  have hp : c.g.pending = none ∧ storeRemoves c.g c.id = false := by simpa using hp
  exact ite_elim (fun _ => .blocked ha hp.1 hp.2) (fun _ => .staged ha hp.1 hp.2)

theorem updateDataP_spec (c : Cl) (n ts idn : Nat) (u : DataUpd) :
    StagedP c n ts idn (.setData (applyUpd (dataOf c.g) u)) (updateDataP c n ts idn u) := by
  unfold updateDataP
  exact ite_elim (fun _ => .refused _) (fun _ => ite_elim (fun _ => .refused _) (fun _ => stageCommitP_spec ..))

theorem removeMembersP_spec (c : Cl) (n ts idn : Nat) (who : List Nat) :
    StagedP c n ts idn (.removeLeavers (who.filter (fun m => c.g.members.contains m))) (removeMembersP c n ts idn who) := by
  unfold removeMembersP
  exact ite_elim (fun _ => .refused _) (fun _ => ite_elim (fun _ => .refused _) (fun _ => ite_elim (fun _ => .refused _) (fun _ =>
    ite_elim (fun _ => .refused _) (fun _ => stageCommitP_spec ..))))

theorem addMembersP_spec (c : Cl) (n ts idn : Nat) (who : List Nat) : StagedP c n ts idn (.addMembers who) (addMembersP c n ts idn who) := by
  unfold addMembersP
  exact ite_elim (fun _ => .refused _) (fun _ => ite_elim (fun _ => .refused _) (fun _ => ite_elim (fun _ => .refused _) (fun _ =>
    ite_elim (fun _ => .refused _) (fun _ => ite_elim (fun _ => .refused _) (fun _ => stageCommitP_spec ..)))))

/-- what a commit staged by the client's own operation references: exactly the queued leaves, nothing foreign -/
theorem staged_ev {c : Cl} {n ts idn : Nat} {b : Body} {r : Cl × Res} {e : Ev} (h : PropsSelfOnly L c)
    (hs : StagedP c n ts idn b r) (hr : r.2 = .ev e) : e.kind = .commit b c.g.props ∧ e.sweptX = [] ∧ ∀ m ∈ c.g.props, L m := by
  cases hs with
  | refused | blocked => cases hr
  | staged => cases hr; exact ⟨by simp [stagedEv], by simpa [stagedEv] using h.1.1, h.1.2.1⟩

theorem pso_staged {c : Cl} {n ts idn : Nat} {b : Body} {r : Cl × Res} (h : PropsSelfOnly L c)
    (hs : StagedP c n ts idn b r) : PropsSelfOnly L r.1 := by
  have he := selfOnly_ensureSecret c.g h.1
  have hst : SelfOnly L { ensureSecret c.g with pending := some (stagedEv c n ts idn b) } := by
    refine ⟨he.1, he.2.1, fun e' he' => ?_⟩
    obtain rfl := Option.some.inj he'
    exact ⟨he.1, fun b' sw hk m hm => by cases hk; exact he.2.1 m hm⟩
  cases hs with
  | refused => exact h
  | blocked | staged => exact ⟨hst, h.2⟩

theorem pso_leave (c : Cl) (n ts idn : Nat) (h : PropsSelfOnly L c) (hl : L c.id) : PropsSelfOnly L (leave c n ts idn).1 := by
  let P := fun r : Cl × Res => PropsSelfOnly L r.1
  have he := selfOnly_ensureSecret c.g h.1
  unfold leave
  refine ite_elim (P := P) (fun _ => h) (fun _ => ite_elim (P := P) (fun _ => h) (fun _ => ite_elim (P := P) (fun _ => h) (fun _ => ?_)))
  refine ⟨⟨he.1, fun m (hm : m ∈ (c.id :: (ensureSecret c.g).props).eraseDups) => ?_, he.2.2⟩, h.2⟩
  rcases List.mem_cons.mp (List.mem_eraseDups.mp hm) with rfl | hm'
  · exact hl
  · exact he.2.1 m hm'

theorem pso_mergeP (c : Cl) (h : PropsSelfOnly L c) : PropsSelfOnly L (mergeP c).1 := by
  unfold mergeP
  split
  · exact h
  · split
    · exact h
    · split
      · exact ⟨selfOnly_syncRec _ (selfOnly_mergeCommitP _ _ _ h.1), h.2⟩
      · exact ⟨selfOnly_syncRec _ h.1, h.2⟩

theorem pso_clear (c : Cl) (h : PropsSelfOnly L c) : PropsSelfOnly L (clear c).1 := by
  unfold clear
  split
  · exact h
  · refine ⟨⟨h.1.1, h.1.2.1, ?_⟩, h.2⟩
    intro e he; cases he

theorem pso_restart (c : Cl) (h : PropsSelfOnly L c) : PropsSelfOnly L (restart c).1 := by
  unfold restart
  split
  · refine ⟨h.1, ?_⟩
    intro s hs
    simp only [List.mem_map] at hs
    obtain ⟨s0, hs0, rfl⟩ := hs
    exact h.2 s0 hs0
  · exact h

theorem pso_join (c : Cl) (g : GState) (h : PropsSelfOnly L c) (hg : SelfOnly L g) : PropsSelfOnly L (join c g) := by
  unfold join
  split
  · exact h
  · exact ⟨hg, by intro s hs; cases hs⟩

theorem pso_init (id : Nat) (p : Bool) (r : Nat) (ms as : List Nat) (name : Nat) : PropsSelfOnly L (initCl id p r ms as name) :=
  ⟨selfOnly_cleared _ rfl rfl rfl, by intro s hs; cases hs⟩

/-! ### agreement with `Model.Client`: on events that reference no queued proposal and are not proposals, and at clients
    whose staged commits reference nothing foreign, `Model.Proposal` IS `Model.Client` -/

/-- staged own commits — now and in every state a rollback can restore — reference nothing foreign -/
def PendClean (c : Cl) : Prop :=
  (∀ e, c.g.pending = some e → e.sweptX = []) ∧ ∀ s ∈ c.mgr, ∀ e, s.saved.pending = some e → e.sweptX = []

/-- an application message, or a commit that references no queued proposal and does not remove the receiver `me` -/
def OldKind (me : Nat) (e : Ev) : Prop :=
  e.sweptX = [] ∧ match e.kind with
    | .app _ _ _ => True
    | .commit b sw => sw = [] ∧ removesMe me b [] = false
    | .leave => False

theorem pendClean_withSecret (c : Cl) (h : PendClean c) : PendClean (withSecret c) :=
  ⟨by intro e he; exact h.1 e (by simpa [withSecret] using he), h.2⟩

theorem pendClean_rollbackTo (c c1 : Cl) (ep : Nat) (h : PendClean c) (hr : rollbackTo c ep = some c1) : PendClean c1 ∧ c1.id = c.id := by
  refine ⟨rollbackTo_saved (Q := fun g => ∀ e, g.pending = some e → e.sweptX = []) h.2 hr, ?_⟩
  obtain ⟨_, _, _, _, _, _, rfl⟩ := rollbackTo_spec hr
  rfl

theorem wrongEpochCommit_congr (r1 r2 : Cl → Option (Cl × Res)) (c : Cl) (e : Ev) (ee : Nat)
    (h : ∀ c1, rollbackTo c ee = some c1 → r1 c1 = r2 c1) : wrongEpochCommit r1 c e ee = wrongEpochCommit r2 c e ee := by
  unfold wrongEpochCommit
  split
  · split
    · rename_i c1 hr
      rw [h c1 hr]
    · rfl
  · rfl

theorem processCommitP_eq (c : Cl) (e : Ev) (b : Body) (hx : e.sweptX = []) (hme : removesMe c.id b [] = false) :
    processCommitP c e b [] = processCommit c e b [] := by
  unfold processCommitP processCommit
  have h1 : isPureSelfUpdateP b [] e.sweptX = isPureSelfUpdate b [] := by simp [isPureSelfUpdateP, hx]
  have h2 : removesMeP c.id b [] e.sweptX = false := by simp [removesMeP, hx, hme, xTargets]
  have h3 : ∀ g, mergeCommitP c.maxPast g e = mergeCommit c.maxPast g e := fun g => mergeCommitP_eq _ g e hx
  simp only [h1, h2, h3, hme]
  rfl

theorem processProposal_leave_nonadmin (nx : Nat) (c : Cl) (e : Ev) (ha : isAdmin c.g c.id = false) :
    processProposal nx c e (.remove e.sender) = queueLeave c e := by
  simp [processProposal, storeProp, ha, queueLeave]

/-- Where the two models take the same step.  An application message: always.  A member's leave: at a receiver that is not
    an admin (an admin's automatic commit is built differently).  A commit: when it references nothing queued and does not
    remove the receiver, staged commits (here and in the snapshots) reference nothing foreign, and the re-processing agrees. -/
theorem step1P_eq_step1 (r1 r2 : Cl → Option (Cl × Res)) (nx : Nat) (c : Cl) (e : Ev)
    (hc : ∀ b sw, e.kind = .commit b sw → sw = [] ∧ e.sweptX = [] ∧ removesMe c.id b [] = false ∧ PendClean c ∧
      ∀ c1, PendClean c1 → c1.id = c.id → r1 c1 = r2 c1)
    (hl : e.kind = .leave → isAdmin c.g c.id = false) : step1P r1 nx c { e := e } = step1 r2 nx c e := by
  unfold step1P step1
  dsimp only [propKind]
  refine ite_congr rfl (fun _ => rfl) (fun _ => ?_)
  refine ite_congr rfl (fun _ => rfl) (fun _ => ?_)
  refine ite_congr rfl (fun _ => rfl) (fun _ => ?_)
  cases hk : e.kind with
  | app m t k => rfl
  | leave =>
    dsimp only
    refine ite_congr rfl (fun _ => rfl) (fun _ => ?_)
    refine ite_congr rfl (fun _ => rfl) (fun _ => ?_)
    refine ite_congr rfl (fun _ => rfl) (fun _ => ?_)
    have ha : isAdmin (withSecret c).g (withSecret c).id = false := by simpa [isAdmin] using hl hk
    exact (processProposal_leave_nonadmin nx (consume (withSecret c) e.cipher) e ha).trans (if_neg (ha ▸ Bool.false_ne_true)).symm
  | commit b sw =>
    obtain ⟨rfl, hx, hme, hpc, hr⟩ := hc b sw hk
    have hw := pendClean_withSecret c hpc
    dsimp only
    refine ite_congr rfl (fun _ => ?_) (fun _ => ?_)
    · apply wrongEpochCommit_congr
      intro c1 h1
      obtain ⟨hp1, hid1⟩ := pendClean_rollbackTo _ c1 _ hw h1
      exact hr c1 hp1 hid1
    · refine ite_congr rfl (fun _ => ?_) (fun _ => ite_congr rfl (fun _ => rfl) (fun _ => ?_))
      · cases hp : (withSecret c).g.pending with
        | none => rfl
        | some pc => simp only [mgrCreate, mergeCommitP_eq _ _ pc (hw.1 pc hp)]
      · have hh : holdsRefs (withSecret c).g [] e.sweptX = true := by simp [holdsRefs, hx]
        simp only [hh, Bool.not_true, Bool.false_eq_true, if_false]
        exact processCommitP_eq _ e b hx hme

/-- the local operations: with nothing foreign queued (and no own removal queued) they are `Model.Client`'s -/
theorem stageCommitP_agrees (c : Cl) (n ts idn : Nat) (b : Body) (na : Bool) (hx : c.g.xq = []) (hs : c.g.props.contains c.id = false) :
    stageCommitP c n ts idn b na = stageCommit c n ts idn b na := by
  have hs' : c.id ∉ c.g.props := by simpa using hs
  have hsr : storeRemoves c.g c.id = false := by simp [storeRemoves, hs', hx, xTargets]
  have hw : welcomeRefused b [] = false := by simp [welcomeRefused, xAdds]
  unfold stageCommitP stageCommit
  simp only [hsr, Bool.or_false, ensureSecret_xq, hx, hw, Bool.false_eq_true, if_false]

theorem sendP_agrees (c : Cl) (n ts idn mid mts tok : Nat) (hx : c.g.xq = []) : sendP c n ts idn mid mts tok = send c n ts idn mid mts tok := by
  -- `sendP` repeats the checks of `send`, the last one over both parts of the store
  have he : storeEmpty c.g = c.g.props.isEmpty := by simp [storeEmpty, hx]
  unfold sendP
  rw [he]
  let P := fun r => r = send c n ts idn mid mts tok
  refine ite_elim (P := P) (fun h => ?_) (fun h1 => ite_elim (P := P) (fun h => ?_) (fun h2 => ite_elim (P := P) (fun h => ?_) (fun _ => rfl)))
  · show _ = send ..; unfold send; rw [if_pos h]
  · show _ = send ..; unfold send; rw [if_neg h1, if_pos h]
  · show _ = send ..; unfold send; rw [if_neg h1, if_neg h2, if_pos h]

theorem mergeP_agrees (c : Cl) (h : PendClean c) : mergeP c = merge c := by
  unfold mergeP merge
  split
  · rfl
  · split
    · rfl
    · cases hp : c.g.pending with
      | none => rfl
      | some p => simp only [mergeCommitP_eq _ _ p (h.1 p hp)]

/-! ### `Proposal(UpdateGroupResult)` comes out of `process_proposal` only -/

theorem ownMessage_res (c : Cl) (e ne : Ev) : (ownMessage c e).2 ≠ .proposalCommitted ne := by
  have hs := ownMessage_spec c e
  generalize ownMessage c e = r at hs
  cases hs with
  | same h => rcases h with rfl | rfl <;> exact fun h => nomatch h
  | confirmed | echo => exact fun h => nomatch h

theorem processCommitP_res (c : Cl) (e : Ev) (b : Body) (sw : List Nat) (ne : Ev) : (processCommitP c e b sw).2 ≠ .proposalCommitted ne := by
  unfold processCommitP
  exact ite_elim (P := fun r : Cl × Res => r.2 ≠ .proposalCommitted ne) (fun _ h => nomatch h)
    (fun _ => ite_elim (P := fun r : Cl × Res => r.2 ≠ .proposalCommitted ne) (fun _ h => nomatch h) (fun _ h => nomatch h))

end MdkVerif.Proposal
