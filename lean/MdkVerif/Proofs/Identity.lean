import MdkVerif.Model.Identity
import MdkVerif.Proofs.Lru
/-
  Proofs about Model.Identity: the decision logic for every shape that looks at and compares both the Update proposals
  and the update path (`Shape.Compares`); for `provedShape` under the names Props/C05.lean transports to the
  regenerated `codeShape`.
-/
namespace MdkVerif.Identity

theorem lookup_eq (l : Leaf) (t : Tree) : lookup l t = Lru.lookup l t := by
  induction t with
  | nil => rfl
  | cons kc t ih => rw [lookup, Lru.lookup, ih]

theorem lookup_blank_eq (l : Leaf) (t : Tree) : lookup l (blank l t) = none := by
  rw [lookup_eq]; exact Lru.lookup_erase_self l t

theorem lookup_blank_ne {l k : Leaf} (t : Tree) (h : l ≠ k) : lookup l (blank k t) = lookup l t := by
  rw [lookup_eq, lookup_eq]; exact Lru.lookup_erase_ne k l t h

theorem lookup_setLeaf_eq (l : Leaf) (c : Cred) (t : Tree) : lookup l (setLeaf l c t) = some c := by
  simp [setLeaf, lookup]

theorem lookup_setLeaf_ne {l k : Leaf} (c : Cred) (t : Tree) (h : l ≠ k) : lookup l (setLeaf k c t) = lookup l t := by
  have hk : ¬ k = l := fun e => h e.symm
  simp [setLeaf, lookup, hk, lookup_blank_ne t h]

theorem lookup_le_maxKey {n : Leaf} {c : Cred} : ∀ {t : Tree}, lookup n t = some c → n ≤ maxKey t
  | [], h => by simp [lookup] at h
  | (k, c') :: t, h => by
    by_cases hk : k = n
    · subst hk; simp [maxKey]; exact Nat.le_max_left _ _
    · simp [lookup, hk] at h
      have := lookup_le_maxKey h
      simp [maxKey]; exact Nat.le_trans this (Nat.le_max_right _ _)

theorem firstFree_free (t : Tree) : lookup (firstFree t) t = none := by
  unfold firstFree
  split
  · next n hn =>
    have := List.find?_some hn
    simpa [Option.isNone_iff_eq_none] using this
  · cases h : lookup (maxKey t + 1) t with
    | none => rfl
    | some c => exact absurd (lookup_le_maxKey h) (Nat.not_succ_le_self _)

/-- both credentials parse, to the same Nostr key -/
def SameIdent (cur new : Cred) : Prop := ∃ i, credIdentity cur = .ok i ∧ credIdentity new = .ok i

/-- what may happen to the credential of an existing member: nothing, or a new credential with the same Nostr identity -/
def KeepsId (c c' : Cred) : Prop := c' = c ∨ SameIdent c c'

theorem KeepsId.refl (c : Cred) : KeepsId c c := Or.inl rfl

theorem compareIdent_iff (compared : Bool) (cur new : Cred) :
    compareIdent compared cur new = .ok () ↔
      ∃ a b, credIdentity cur = .ok a ∧ credIdentity new = .ok b ∧ (compared = true → a = b) := by
  unfold compareIdent
  cases credIdentity cur <;> cases credIdentity new <;> cases compared <;> simp

theorem compareIdent_ok_iff (cur new : Cred) : compareIdent true cur new = .ok () ↔ SameIdent cur new :=
  (compareIdent_iff true cur new).trans
    ⟨fun ⟨a, _, h1, h2, h3⟩ => ⟨a, h1, h3 rfl ▸ h2⟩, fun ⟨a, h1, h2⟩ => ⟨a, a, h1, h2, fun _ => rfl⟩⟩

theorem compareIdent_unchecked (cur new : Cred) :
    compareIdent false cur new = .ok () ↔ (∃ a b, credIdentity cur = .ok a ∧ credIdentity new = .ok b) :=
  (compareIdent_iff false cur new).trans
    ⟨fun ⟨a, b, h1, h2, _⟩ => ⟨a, b, h1, h2⟩, fun ⟨a, b, h1, h2⟩ => ⟨a, b, h1, h2, nofun⟩⟩

def UpdatesKeep (t : Tree) (qs : List QProp) : Prop :=
  ∀ q ∈ qs, ∀ c l cur, q.p = .update c → q.sender = .member l → lookup l t = some cur → SameIdent cur c

def PathKeeps (t : Tree) (s : Staged) : Prop :=
  ∀ c l cur, s.path = some c → s.sender = .member l → lookup l t = some cur → SameIdent cur c

/-- no Update proposal of the commit and not its update path re-binds an occupied leaf to another Nostr identity -/
def NoIdentityChange (t : Tree) (s : Staged) : Prop := UpdatesKeep t s.props ∧ PathKeeps t s

/-- the check both `validate_proposal_identity` and the update-path check come down to: the sender's leaf, if it is a
    member's and occupied, against the credential `c` it is to carry -/
def checkLeaf (compared : Bool) (t : Tree) (sender : Sender) (c : Cred) : Except Err Unit :=
  match sender with
  | .member l =>
    match lookup l t with
    | some cur => compareIdent compared cur c
    | none => .ok ()
  | _ => .ok ()

theorem checkLeaf_ok_iff (t : Tree) (sender : Sender) (c : Cred) :
    checkLeaf true t sender c = .ok () ↔ ∀ l cur, sender = .member l → lookup l t = some cur → SameIdent cur c := by
  unfold checkLeaf
  cases sender with
  | member l =>
    dsimp only
    cases hl : lookup l t with
    | none =>
      refine ⟨fun _ l' cur e h => ?_, fun _ => rfl⟩
      cases e; rw [hl] at h; cases h
    | some cur =>
      refine (compareIdent_ok_iff cur c).trans ⟨fun h l' cur' e h' => ?_, fun h => h l cur rfl hl⟩
      cases e; rw [hl] at h'; cases h'; exact h
  | external | newMemberCommit | newMemberProposal => exact ⟨fun _ _ _ e => (nomatch e), fun _ => rfl⟩

theorem validateProposalIdentity_ok_iff {sh : Shape} (hc : sh.updateCompared = true) (t : Tree) (q : QProp) :
    validateProposalIdentity sh t q = .ok () ↔
      (∀ c l cur, q.p = .update c → q.sender = .member l → lookup l t = some cur → SameIdent cur c) := by
  unfold validateProposalIdentity
  rw [hc]
  cases q.p with
  | update c =>
    refine (checkLeaf_ok_iff t q.sender c).trans ⟨fun h c' l cur e => ?_, fun h l cur => h c l cur rfl⟩
    cases e; exact h l cur
  | add c | remove l | other n => exact ⟨fun _ _ _ _ e => (nomatch e), fun _ => rfl⟩

/-- two checks in a row (`?` in the source): both pass -/
theorem andThen_ok_iff (a b : Except Err Unit) :
    (match a with | .error e => Except.error e | .ok () => b) = .ok () ↔ a = .ok () ∧ b = .ok () := by
  cases a with
  | error e => exact ⟨nofun, fun h => by cases h.1⟩
  | ok u => exact ⟨fun h => ⟨rfl, h⟩, fun h => h.2⟩

theorem validateUpdates_ok_iff {sh : Shape} (hc : sh.updateCompared = true) (t : Tree) (qs : List QProp) :
    validateUpdates sh t qs = .ok () ↔ UpdatesKeep t qs := by
  induction qs with
  | nil => exact ⟨fun _ _ h => (nomatch h), fun _ => rfl⟩
  | cons q qs ih =>
    unfold validateUpdates
    refine (andThen_ok_iff _ _).trans ((and_congr (validateProposalIdentity_ok_iff hc t q) ih).trans ?_)
    exact ⟨fun h q' hq' => (List.mem_cons.1 hq').elim (fun e => e ▸ h.1) (h.2 q'),
      fun h => ⟨h q List.mem_cons_self, fun q' hq' => h q' (List.mem_cons_of_mem _ hq')⟩⟩

theorem updatesKeep_filter (t : Tree) (qs : List QProp) : UpdatesKeep t (qs.filter isUpdate) ↔ UpdatesKeep t qs := by
  unfold UpdatesKeep
  constructor
  · intro h q hq c l cur e1 e2 e3
    exact h q (List.mem_filter.2 ⟨hq, by simp [isUpdate, e1]⟩) c l cur e1 e2 e3
  · intro h q hq; exact h q (List.mem_filter.1 hq).1

theorem validatePath_ok_iff {sh : Shape} (hc : sh.pathCompared = true) (t : Tree) (s : Staged) :
    validatePath sh t s = .ok () ↔ PathKeeps t s := by
  unfold validatePath PathKeeps
  rw [hc]
  cases s.path with
  | none => exact ⟨fun _ _ _ _ e => (nomatch e), fun _ => rfl⟩
  | some c =>
    refine (checkLeaf_ok_iff t s.sender c).trans ⟨fun h c' l cur e => ?_, fun h l cur => h c l cur rfl⟩
    cases e; exact h l cur

/-- the shapes of `validate_commit_identities` the theorems cover: Update proposals and the update path are both
    looked at and compared -/
def Shape.Compares (sh : Shape) : Prop :=
  sh.inspectsUpdates = true ∧ sh.updateCompared = true ∧ sh.inspectsPath = true ∧ sh.pathCompared = true

theorem validateCommitIdentities_ok_iff_of {sh : Shape} (h : sh.Compares) (t : Tree) (s : Staged) :
    validateCommitIdentities sh t s = .ok () ↔ NoIdentityChange t s := by
  unfold validateCommitIdentities
  rw [h.1, h.2.2.1, if_pos rfl, if_pos rfl]
  exact (andThen_ok_iff _ _).trans
    (and_congr ((validateUpdates_ok_iff h.2.1 t _).trans (updatesKeep_filter t s.props)) (validatePath_ok_iff h.2.2.2 t s))

theorem validateCommitIdentities_ok_iff (t : Tree) (s : Staged) :
    validateCommitIdentities provedShape t s = .ok () ↔ NoIdentityChange t s :=
  validateCommitIdentities_ok_iff_of ⟨rfl, rfl, rfl, rfl⟩ t s

/-- `process_commit`'s two checks, in either order, pass exactly when the sender may send this commit AND nothing
    changes an identity -/
theorem mdkValidate_ok_iff_of {sh : Shape} (h : sh.Compares) (hc : sh.identitiesChecked = true) (st : St) (s : Staged) :
    mdkValidate sh st s = .ok () ↔ (validateAuthorization st s = .ok () ∧ NoIdentityChange st.tree s) := by
  unfold mdkValidate
  rw [hc, if_pos rfl, ← validateCommitIdentities_ok_iff_of h]
  cases sh.authFirst
  · exact (andThen_ok_iff _ _).trans And.comm
  · exact andThen_ok_iff _ _

theorem mdkValidate_ok_iff (st : St) (s : Staged) :
    mdkValidate provedShape st s = .ok () ↔ (validateAuthorization st s = .ok () ∧ NoIdentityChange st.tree s) :=
  mdkValidate_ok_iff_of ⟨rfl, rfl, rfl, rfl⟩ rfl st s

theorem applyUpdates_keeps (t0 : Tree) (l : Leaf) (c : Cred) (h0 : lookup l t0 = some c) :
    ∀ (qs : List QProp) (t : Tree), UpdatesKeep t0 qs → (∃ c1, lookup l t = some c1 ∧ KeepsId c c1) →
      ∃ c1, lookup l (applyUpdates t qs) = some c1 ∧ KeepsId c c1
  | [], t, _, h => h
  | q :: qs, t, hk, h => by
    have hk' : UpdatesKeep t0 qs := fun q' hq' => hk q' (List.mem_cons_of_mem _ hq')
    unfold applyUpdates
    split
    · next cu lu hp hs =>
      apply applyUpdates_keeps t0 l c h0 qs _ hk'
      by_cases e : l = lu
      · subst e
        exact ⟨cu, lookup_setLeaf_eq .., Or.inr (hk q (List.mem_cons_self ..) cu l c hp hs h0)⟩
      · rw [lookup_setLeaf_ne _ _ e]; exact h
    · exact applyUpdates_keeps t0 l c h0 qs t hk' h

theorem applyRemoves_keeps (l : Leaf) : ∀ (qs : List QProp) (t : Tree), (∀ q ∈ qs, q.p ≠ .remove l) →
    lookup l (applyRemoves t qs) = lookup l t
  | [], _, _ => rfl
  | q :: qs, t, h => by
    have h' : ∀ q' ∈ qs, q'.p ≠ .remove l := fun q' hq' => h q' (List.mem_cons_of_mem _ hq')
    unfold applyRemoves
    split
    · next lr hp =>
      have : l ≠ lr := fun e => h q (List.mem_cons_self ..) (by rw [hp, e])
      rw [applyRemoves_keeps l qs _ h', lookup_blank_ne _ this]
    · exact applyRemoves_keeps l qs t h'

theorem applyAdds_keeps (l : Leaf) (c : Cred) : ∀ (qs : List QProp) (t : Tree), lookup l t = some c →
    lookup l (applyAdds t qs) = some c
  | [], _, h => h
  | q :: qs, t, h => by
    unfold applyAdds
    split
    · next ca hp =>
      apply applyAdds_keeps l c qs
      have : l ≠ firstFree t := fun e => by rw [e, firstFree_free] at h; cases h
      rw [lookup_setLeaf_ne _ _ this]; exact h
    · exact applyAdds_keeps l c qs t h

theorem removed_false {s : Staged} {l : Leaf} (h : removed s l = false) : ∀ q ∈ s.props, q.p ≠ .remove l := by
  intro q hq e
  have : removed s l = true := by
    unfold removed; rw [List.any_eq_true]; exact ⟨q, hq, by simp [e]⟩
  rw [h] at this; cases this

/-- **the merge**: if nothing in the commit changes an identity (which is what mdk checks), every leaf that was occupied and is not
    named by a Remove of the commit is occupied afterwards, by a credential with the same Nostr identity -/
theorem applyCommit_keeps (t : Tree) (s : Staged) (hn : NoIdentityChange t s) (l : Leaf) (c : Cred)
    (h0 : lookup l t = some c) (hr : removed s l = false) :
    ∃ c', lookup l (applyCommit t s) = some c' ∧ KeepsId c c' := by
  obtain ⟨c1, h1, k1⟩ := applyUpdates_keeps t l c h0 s.props t hn.1 ⟨c, h0, KeepsId.refl c⟩
  have h2 : lookup l (applyRemoves (applyUpdates t s.props) s.props) = some c1 := by
    rw [applyRemoves_keeps l s.props _ (removed_false hr)]; exact h1
  have h3 := applyAdds_keeps l c1 s.props _ h2
  unfold applyCommit applyPath
  split
  · next cp lp hp hs =>
    by_cases e : l = lp
    · subst e
      exact ⟨cp, lookup_setLeaf_eq .., Or.inr (hn.2 cp l c hp hs h0)⟩
    · rw [lookup_setLeaf_ne _ _ e]; exact ⟨c1, h3, k1⟩
  · exact ⟨c1, h3, k1⟩

def StoreNoUpdate (st : St) : Prop := ∀ q ∈ st.store, isUpdate q = false

theorem processProposal_cases (sh : Shape) (st : St) (q : QProp) :
    processProposal sh st q = st ∨
      (storesProposal sh q = true ∧ processProposal sh st q = { st with store := q :: st.store }) := by
  unfold processProposal
  cases q.sender with
  | member l =>
    dsimp only
    cases lookup l st.tree with
    | none => exact .inl rfl
    | some _ =>
      by_cases hs : storesProposal sh q = true
      · exact .inr ⟨hs, if_pos hs⟩
      · exact .inl (if_neg hs)
  | external | newMemberCommit | newMemberProposal => exact .inl rfl

theorem processProposal_tree (sh : Shape) (st : St) (q : QProp) :
    (processProposal sh st q).tree = st.tree ∧ (processProposal sh st q).admins = st.admins := by
  rcases processProposal_cases sh st q with e | ⟨_, e⟩ <;> rw [e] <;> exact ⟨rfl, rfl⟩

theorem processProposal_store_of {sh : Shape} (hu : sh.updateStored = false) (st : St) (q : QProp)
    (h : StoreNoUpdate st) : StoreNoUpdate (processProposal sh st q) := by
  rcases processProposal_cases sh st q with e | ⟨hs, e⟩ <;> rw [e]
  · exact h
  · refine List.forall_mem_cons.2 ⟨?_, h⟩
    unfold isUpdate
    cases hp : q.p with
    | update c => rw [storesProposal, hp, hu] at hs; cases hs
    | add c | remove l | other n => rfl

theorem processProposal_store (st : St) (q : QProp) (h : StoreNoUpdate st) : StoreNoUpdate (processProposal provedShape st q) :=
  processProposal_store_of rfl st q h

theorem processCommit_store (sh : Shape) (R : MlsRules) (st : St) (s : Staged) (h : StoreNoUpdate st) :
    StoreNoUpdate (processCommit sh R st s).1 := by
  unfold processCommit
  by_cases ha : (!mlsAdmits R st s) = true
  · rw [if_pos ha]; exact h
  rw [if_neg ha]
  cases mdkValidate sh st s with
  | error e => exact h
  | ok u => exact fun q hq => nomatch hq

/-- a receiver that only ever stored what `process_proposal` stores never gets a staged commit with an Update proposal from OpenMLS:
    inline ones are refused, by-reference ones are not in its store -/
theorem no_update_reaches_mdk (st : St) (s : Staged) (h : StoreNoUpdate st) (ha : mlsAdmits openmls081 st s = true) :
    s.props.filter isUpdate = [] := by
  rw [List.filter_eq_nil_iff]
  intro q hq hu
  unfold mlsAdmits at ha
  simp only [openmls081, Bool.and_eq_true, List.all_eq_true] at ha
  have hq' := ha.1 q hq
  simp only [hu, Bool.not_true, Bool.false_or, Bool.true_and, Bool.and_eq_true, Bool.or_eq_true, Bool.not_eq_true',
    Bool.not_false] at hq'
  have hb : q.byRef = true := by simpa using hq'.2.1.1
  have hst : st.store.contains q = true := by
    rcases hq'.1 with e | e
    · rw [hb] at e; cases e
    · exact e
  have := h q (by simpa using hst)
  rw [hu] at this; cases this

end MdkVerif.Identity
