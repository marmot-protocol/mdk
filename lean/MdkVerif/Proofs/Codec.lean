import MdkVerif.Model.Codec
/-
  About Model/Codec.lean, for Props/C15: the size classes of the length prefix and its round trip; every reader against its
  serialiser up to `decRaw (encRaw r ++ tl)`; sorted insertion into the two sets; `fromRaw (asRaw x)` and, the other way,
  what an accepted `fromRaw` / `decode` implies; hex encode / decode.
-/
namespace MdkVerif.Codec
open List

/-! ### variable-length header -/

theorem encLen_cases (n : Nat) :
    (n < 64 ∧ minLenLen n = 1 ∧ encLen n = some [n]) ∨
    (64 ≤ n ∧ n < 16384 ∧ minLenLen n = 2 ∧ encLen n = some [64 + n / 256, n % 256]) ∨
    (16384 ≤ n ∧ n < 1073741824 ∧ minLenLen n = 4 ∧
      encLen n = some [128 + n / 16777216, (n / 65536) % 256, (n / 256) % 256, n % 256]) ∨
    (1073741824 ≤ n ∧ minLenLen n = 4 ∧ encLen n = none) := by
  unfold encLen minLenLen
  by_cases c1 : n < 64
  · exact Or.inl ⟨c1, if_pos c1, if_pos c1⟩
  rw [if_neg c1, if_neg c1]
  by_cases c2 : n < 16384
  · exact Or.inr (Or.inl ⟨Nat.le_of_not_lt c1, c2, if_pos c2, if_pos c2⟩)
  rw [if_neg c2, if_neg c2]
  by_cases c3 : n < 1073741824
  · exact Or.inr (Or.inr (Or.inl ⟨Nat.le_of_not_lt c2, c3, rfl, if_pos c3⟩))
  · exact Or.inr (Or.inr (Or.inr ⟨Nat.le_of_not_lt c3, rfl, if_neg c3⟩))

theorem encLen_length (n : Nat) (hdr : Bytes) (h : encLen n = some hdr) : hdr.length = minLenLen n := by
  rcases encLen_cases n with ⟨_, hm, he⟩ | ⟨_, _, hm, he⟩ | ⟨_, _, hm, he⟩ | ⟨_, _, he⟩ <;> rw [he] at h <;> cases h <;>
    exact hm.symm

theorem encLen_isSome (n : Nat) (h : small n) : ∃ hdr, encLen n = some hdr := by
  rcases encLen_cases n with ⟨_, _, he⟩ | ⟨_, _, _, he⟩ | ⟨_, _, _, he⟩ | ⟨hn, _⟩
  · exact ⟨_, he⟩
  · exact ⟨_, he⟩
  · exact ⟨_, he⟩
  · exact absurd h (Nat.not_lt_of_le hn)

theorem minLenLen_pos (n : Nat) : 1 ≤ minLenLen n := by
  rcases encLen_cases n with ⟨_, hm, _⟩ | ⟨_, _, hm, _⟩ | ⟨_, _, hm, _⟩ | ⟨_, hm, _⟩ <;> rw [hm] <;> decide

theorem mul_add_div {b r : Nat} (q : Nat) (h : r < b) : (q * b + r) / b = q := by
  rw [Nat.add_comm, Nat.add_mul_div_right _ _ (Nat.zero_lt_of_lt h), Nat.div_eq_of_lt h, Nat.zero_add]

theorem div_65536 (n : Nat) : n / 65536 = n / 256 / 256 := by rw [Nat.div_div_eq_div_mul]

theorem div_16777216 (n : Nat) : n / 16777216 = n / 256 / 256 / 256 := by
  rw [Nat.div_div_eq_div_mul, Nat.div_div_eq_div_mul]

theorem decLen_encLen (n : Nat) (tl : Bytes) (hdr : Bytes) (h : encLen n = some hdr) :
    decLen (hdr ++ tl) = some (n, hdr.length, tl) := by
  rcases encLen_cases n with ⟨hn, hm, he⟩ | ⟨_, hn, hm, he⟩ | ⟨_, hn, hm, he⟩ | ⟨_, _, he⟩ <;> rw [he] at h <;> cases h
  · simp only [List.cons_append, List.nil_append, decLen, Nat.div_eq_of_lt hn, Nat.mod_eq_of_lt hn, hm, if_true]; rfl
  · have hq : n / 256 < 64 := Nat.div_lt_of_lt_mul hn
    simp only [List.cons_append, List.nil_append, decLen, mul_add_div 1 hq, Nat.mul_add_mod_of_lt (a := 1) hq,
      Nat.div_add_mod', hm, if_true]
    rfl
  · have hq : n / 16777216 < 64 := Nat.div_lt_of_lt_mul hn
    have hv : ((n / 16777216 * 256 + n / 65536 % 256) * 256 + n / 256 % 256) * 256 + n % 256 = n := by
      rw [div_16777216, div_65536, Nat.div_add_mod', Nat.div_add_mod', Nat.div_add_mod']
    simp only [List.cons_append, List.nil_append, decLen, mul_add_div 2 hq, Nat.mul_add_mod_of_lt (a := 2) hq, hv, hm, if_true]
    rfl

theorem digits4 (v b1 b2 b3 : Nat) (h1 : b1 < 256) (h2 : b2 < 256) (h3 : b3 < 256) :
    (((v * 256 + b1) * 256 + b2) * 256 + b3) / 16777216 = v ∧
    (((v * 256 + b1) * 256 + b2) * 256 + b3) / 65536 % 256 = b1 ∧
    (((v * 256 + b1) * 256 + b2) * 256 + b3) / 256 % 256 = b2 ∧
    (((v * 256 + b1) * 256 + b2) * 256 + b3) % 256 = b3 := by
  rw [div_16777216, div_65536, mul_add_div _ h3, mul_add_div _ h2, mul_add_div _ h1]
  exact ⟨rfl, Nat.mul_add_mod_of_lt h1, Nat.mul_add_mod_of_lt h2, Nat.mul_add_mod_of_lt h3⟩

theorem isBytes_cons (b : Nat) (r : Bytes) : isBytes (b :: r) = true ↔ b < 256 ∧ isBytes r = true := by
  simp only [isBytes, List.all_cons, Bool.and_eq_true, decide_eq_true_eq]

/-! ### primitive readers -/

theorem takeN_append (a tl : Bytes) : takeN a.length (a ++ tl) = some (a, tl) := by
  simp [takeN]

theorem takeN_append' (n : Nat) (a tl : Bytes) (h : a.length = n) : takeN n (a ++ tl) = some (a, tl) := by
  subst h; exact takeN_append a tl

theorem decU16_encU16 (v : Nat) (tl : Bytes) : decU16 (encU16 v ++ tl) = some (v, tl) := by
  rw [encU16, List.cons_append, List.cons_append, List.nil_append, decU16, Nat.div_add_mod']

theorem encVecU8_inv {b enc : Bytes} (h : encVecU8 b = some enc) : ∃ hdr, encLen b.length = some hdr ∧ enc = hdr ++ b := by
  unfold encVecU8 at h
  cases hh : encLen b.length with
  | none => rw [hh] at h; cases h
  | some hdr => rw [hh] at h; exact ⟨hdr, rfl, (Option.some.inj h).symm⟩

theorem decVecU8_enc (b tl enc : Bytes) (h : encVecU8 b = some enc) :
    decVecU8 (enc ++ tl) = some (b, enc.length, tl) := by
  obtain ⟨hdr, hh, rfl⟩ := encVecU8_inv h
  rw [decVecU8, List.append_assoc, decLen_encLen b.length (b ++ tl) hdr hh]
  dsimp only
  rw [takeN_append, List.length_append]

theorem encVecU8_length (b enc : Bytes) (h : encVecU8 b = some enc) :
    enc.length = minLenLen b.length + b.length := by
  obtain ⟨hdr, hh, rfl⟩ := encVecU8_inv h
  rw [List.length_append, encLen_length _ _ hh]

/-! ### element loops -/

theorem readElems_arr (n : Nat) (hn : 1 ≤ n) (l : List Bytes) (hl : ∀ a ∈ l, a.length = n) (tl : Bytes) :
    ∀ fuel, l.length ≤ fuel →
      readElems (elemArr n) fuel (n * l.length) (l.flatten ++ tl) = some (l, tl) := by
  induction l with
  | nil => intro fuel _; cases fuel <;> rfl
  | cons a as ih =>
    intro fuel hf
    cases fuel with
    | zero => cases hf
    | succ f =>
      have hne : n * (as.length + 1) ≠ 0 := Nat.mul_ne_zero (Nat.ne_of_gt hn) (Nat.succ_ne_zero _)
      have hsub : n * (as.length + 1) - n = n * as.length := by rw [Nat.mul_succ, Nat.add_sub_cancel]
      rw [List.length_cons, readElems, if_neg hne, List.flatten_cons, List.append_assoc, elemArr,
        takeN_append' n a _ (hl a (List.mem_cons_self ..))]
      dsimp only
      rw [hsub, ih (fun x hx => hl x (List.mem_cons_of_mem _ hx)) f (Nat.le_of_succ_le_succ hf)]

theorem flatten_length_of_all (n : Nat) (l : List Bytes) (hl : ∀ a ∈ l, a.length = n) :
    l.flatten.length = n * l.length := by
  induction l with
  | nil => rfl
  | cons a as ih =>
    rw [List.flatten_cons, List.length_append, hl a (List.mem_cons_self ..), ih (fun x hx => hl x (List.mem_cons_of_mem _ hx)),
      List.length_cons, Nat.mul_succ, Nat.add_comm]

theorem decVec_arr (n : Nat) (hn : 1 ≤ n) (l : List Bytes) (hl : ∀ a ∈ l, a.length = n) (tl enc : Bytes)
    (h : encVecArr l = some enc) : decVec (elemArr n) (enc ++ tl) = some (l, tl) := by
  unfold encVecArr at h
  cases hh : encLen l.flatten.length with
  | none => rw [hh] at h; cases h
  | some hdr =>
    rw [hh] at h
    cases h
    have hd := decLen_encLen l.flatten.length (l.flatten ++ tl) hdr hh
    rw [flatten_length_of_all n l hl] at hd
    rw [decVec, List.append_assoc, hd]
    -- every element has at least one byte, so the announced length is fuel enough
    exact readElems_arr n hn l hl tl (n * l.length) (Nat.le_mul_of_pos_left _ hn)

theorem encElems_cons_inv {e : Bytes} {es : List Bytes} {c : Bytes} (h : encElems (e :: es) = some c) :
    ∃ a b, encVecU8 e = some a ∧ encElems es = some b ∧ c = a ++ b := by
  unfold encElems at h
  cases h1 : encVecU8 e with
  | none => rw [h1] at h; cases h
  | some a =>
    cases h2 : encElems es with
    | none => rw [h1, h2] at h; cases h
    | some b => rw [h1, h2] at h; exact ⟨a, b, rfl, rfl, (Option.some.inj h).symm⟩

theorem encElems_length (l : List Bytes) (c : Bytes) (h : encElems l = some c) :
    c.length = elemsSize l ∧ l.length ≤ c.length := by
  induction l generalizing c with
  | nil => cases h; exact ⟨rfl, Nat.le_refl _⟩
  | cons e es ih =>
    obtain ⟨a, b, h1, h2, rfl⟩ := encElems_cons_inv h
    obtain ⟨hb, hle⟩ := ih b h2
    have hl := encVecU8_length e a h1
    have hp := minLenLen_pos e.length
    rw [List.length_append, elemsSize, hl, hb, List.length_cons]
    exact ⟨rfl, by omega⟩

theorem readElems_vecs (l : List Bytes) (tl : Bytes) :
    ∀ c fuel, encElems l = some c → l.length ≤ fuel →
      readElems decVecU8 fuel c.length (c ++ tl) = some (l, tl) := by
  induction l with
  | nil => intro c fuel h _; cases h; cases fuel <;> rfl
  | cons e es ih =>
    intro c fuel h hf
    cases fuel with
    | zero => cases hf
    | succ f =>
      obtain ⟨a, b, h1, h2, rfl⟩ := encElems_cons_inv h
      have hne : (a ++ b).length ≠ 0 := by
        have := encVecU8_length e a h1; have := minLenLen_pos e.length
        rw [List.length_append]; omega
      rw [readElems, if_neg hne, List.append_assoc, decVecU8_enc e (b ++ tl) a h1]
      dsimp only
      rw [List.length_append, Nat.add_sub_cancel_left, ih b f h2 (Nat.le_of_succ_le_succ hf)]

theorem decVec_vecs (l : List Bytes) (tl enc : Bytes) (h : encVecVec l = some enc) :
    decVec decVecU8 (enc ++ tl) = some (l, tl) := by
  unfold encVecVec at h
  cases h1 : encElems l with
  | none => simp [h1] at h
  | some c =>
    simp only [h1] at h
    cases hh : encLen c.length with
    | none => simp [hh] at h
    | some hdr =>
      simp [hh] at h
      subst h
      have hd := decLen_encLen c.length (c ++ tl) hdr hh
      have hr := readElems_vecs l tl c c.length h1 (encElems_length l c h1).2
      simp only [decVec, List.append_assoc, hd]
      exact hr

/-! ### the struct -/

theorem decRaw_encRaw (r : Raw) (bs tl : Bytes) (h : encRaw r = some bs)
    (hg : r.gid.length = 32) (ha : ∀ a ∈ r.admins, a.length = 32) :
    decRaw (bs ++ tl) = some (r, tl) := by
  unfold encRaw at h
  split at h
  · rename_i n d a rl hh k nn u e1 e2 e3 e4 e5 e6 e7 e8
    cases h
    have s0 := decU16_encU16 r.version (r.gid ++ (n ++ (d ++ (a ++ (rl ++ (hh ++ (k ++ (nn ++ u))))))) ++ tl)
    have s1 := takeN_append' 32 r.gid (n ++ (d ++ (a ++ (rl ++ (hh ++ (k ++ (nn ++ (u ++ tl)))))))) hg
    have s2 := decVecU8_enc r.name (d ++ (a ++ (rl ++ (hh ++ (k ++ (nn ++ (u ++ tl))))))) n e1
    have s3 := decVecU8_enc r.desc (a ++ (rl ++ (hh ++ (k ++ (nn ++ (u ++ tl)))))) d e2
    have s4 := decVec_arr 32 (by decide) r.admins ha (rl ++ (hh ++ (k ++ (nn ++ (u ++ tl))))) a e3
    have s5 := decVec_vecs r.relays (hh ++ (k ++ (nn ++ (u ++ tl)))) rl e4
    have s6 := decVecU8_enc r.ih (k ++ (nn ++ (u ++ tl))) hh e5
    have s7 := decVecU8_enc r.ik (nn ++ (u ++ tl)) k e6
    have s8 := decVecU8_enc r.inn (u ++ tl) nn e7
    have s9 := decVecU8_enc r.iu tl u e8
    simp only [List.append_assoc] at s0
    simp only [decRaw, List.append_assoc, s0, s1, s2, s3, s4, s5, s6, s7, s8, s9]
  · cases h

/-! ### sets -/

theorem bytesLt_asymm : ∀ (a b : Bytes), bytesLt a b = true → bytesLt b a = false := by
  intro a
  induction a with
  | nil => intro b h; cases b <;> simp [bytesLt] at *
  | cons x xs ih =>
    intro b h
    cases b with
    | nil => simp [bytesLt] at h
    | cons y ys =>
      unfold bytesLt at h ⊢
      by_cases c1 : x < y
      · have c2 : ¬ y < x := by omega
        simp [c2, c1]
      · by_cases c2 : y < x
        · simp [c1, c2] at h
        · simp [c1, c2] at h ⊢
          exact ih ys h

theorem bytesLt_irrefl (a : Bytes) : bytesLt a a = false := by
  cases h : bytesLt a a with
  | false => rfl
  | true => have := bytesLt_asymm a a h; simp [h] at this

theorem setInsert_append {α : Type} (lt : α → α → Bool)
    (hasym : ∀ a b, lt a b = true → lt b a = false) (x : α) (l : List α)
    (h : ∀ y ∈ l, lt y x = true) : setInsert lt x l = l ++ [x] := by
  induction l with
  | nil => rfl
  | cons y ys ih =>
    have hy : lt y x = true := h y (by simp)
    have hxy : lt x y = false := hasym y x hy
    have := ih (fun z hz => h z (by simp [hz]))
    simp [setInsert, hxy, hy, this]

theorem setInsert_next {α : Type} (lt : α → α → Bool) (hasym : ∀ a b, lt a b = true → lt b a = false)
    (acc : List α) (x : α) (xs : List α) (hp : (acc ++ x :: xs).Pairwise (fun a b => lt a b = true)) :
    setInsert lt x acc = acc ++ [x] ∧ ((acc ++ [x]) ++ xs).Pairwise (fun a b => lt a b = true) :=
  ⟨setInsert_append lt hasym x acc fun y hy => (List.pairwise_append.mp hp).2.2 y hy x (List.mem_cons_self ..),
   by simpa [List.append_assoc] using hp⟩

theorem foldl_setInsert_sorted {α : Type} (lt : α → α → Bool)
    (hasym : ∀ a b, lt a b = true → lt b a = false) (l : List α) :
    ∀ acc, (acc ++ l).Pairwise (fun a b => lt a b = true) →
      l.foldl (fun acc x => setInsert lt x acc) acc = acc ++ l := by
  induction l with
  | nil => intro acc _; simp
  | cons x xs ih =>
    intro acc hp
    obtain ⟨hins, hp'⟩ := setInsert_next lt hasym acc x xs hp
    have := ih (acc ++ [x]) hp'
    simp only [List.foldl_cons, hins, this, List.append_assoc, List.singleton_append]

theorem setOfList_sorted (l : List Bytes) (h : l.Pairwise (fun a b => bytesLt a b = true)) :
    setOfList bytesLt l = l := by
  unfold setOfList
  have := foldl_setInsert_sorted bytesLt bytesLt_asymm l [] (by simpa using h)
  simpa using this

theorem relayLt_asymm (a b : Relay) (h : relayLt a b = true) : relayLt b a = false :=
  bytesLt_asymm _ _ h

theorem relaysFrom_sorted (env : Env) (l : List Relay)
    (hparse : ∀ r ∈ l, env.utf8 r.text = true ∧ env.relayParse r.text = some r) :
    ∀ acc, (acc ++ l).Pairwise (fun a b => relayLt a b = true) →
      relaysFrom env (l.map (fun r => r.text)) acc = .ok (acc ++ l) := by
  induction l with
  | nil => intro acc _; simp [relaysFrom]
  | cons x xs ih =>
    intro acc hp
    have hx := hparse x (by simp)
    obtain ⟨hins, hp'⟩ := setInsert_next relayLt relayLt_asymm acc x xs hp
    have := ih (fun r hr => hparse r (by simp [hr])) (acc ++ [x]) hp'
    simp [relaysFrom, hx.1, hx.2, hins, this]

theorem optFixed_opt (n : Nat) (hn : 1 ≤ n) (e : DecErr) (o : Option Bytes) (h : optLen n o) :
    optFixed n e (optBytes o) = .ok o := by
  cases o with
  | none => simp [optFixed, optBytes]
  | some b =>
    have hl : b.length = n := h.1
    have hne : b ≠ [] := by intro hb; subst hb; simp at hl; omega
    simp [optFixed, optBytes, hl, hne]

theorem fromRaw_asRaw (env : Env) (x : Ext) (h : x.WF env) : fromRaw env (asRaw x) = .ok x := by
  have hv : x.version ≠ 0 := by have := h.version; omega
  have hr := relaysFrom_sorted env x.relays (fun r hr => ⟨(h.relays.1 r hr).1, (h.relays.1 r hr).2.1⟩) []
    (by simpa using h.relays.2)
  have ha := setOfList_sorted x.admins h.admins.2.1
  have h1 := optFixed_opt 32 (by omega) .hashLen x.ih h.ih
  have h2 := optFixed_opt 32 (by omega) .keyLen x.ik h.ik
  have h3 := optFixed_opt 12 (by omega) .nonceLen x.inn h.inn
  have h4 := optFixed_opt 32 (by omega) .uploadLen x.iu h.iu
  simp only [List.nil_append] at hr
  simp [fromRaw, asRaw, hv, hr, ha, h1, h2, h3, h4, h.name.2.1, h.desc.2.1]

/-! ### encoding succeeds on well-formed values -/

theorem encVecU8_isSome (b : Bytes) (h : small b.length) : ∃ enc, encVecU8 b = some enc := by
  obtain ⟨hdr, hh⟩ := encLen_isSome b.length h
  exact ⟨hdr ++ b, by simp [encVecU8, hh]⟩

theorem encElems_isSome (l : List Bytes) (h : ∀ e ∈ l, small e.length) : ∃ c, encElems l = some c := by
  induction l with
  | nil => exact ⟨[], rfl⟩
  | cons e es ih =>
    obtain ⟨a, ha⟩ := encVecU8_isSome e (h e (by simp))
    obtain ⟨b, hb⟩ := ih (fun x hx => h x (by simp [hx]))
    exact ⟨a ++ b, by simp [encElems, ha, hb]⟩

theorem optBytes_small (n : Nat) (hn : small n) (o : Option Bytes) (h : optLen n o) : small (optBytes o).length := by
  cases o with
  | none => decide
  | some b => exact h.1 ▸ hn

/-! ### `from_raw` inversion -/

theorem optFixed_ok (n : Nat) (e : DecErr) (b : Bytes) (o : Option Bytes) (h : optFixed n e b = .ok o) :
    (∀ c, o = some c → c.length = n) ∧ (b.length = 0 ∨ b.length = n) := by
  unfold optFixed at h
  by_cases h1 : b.isEmpty = true
  · rw [if_pos h1] at h; cases h
    have : b = [] := by simpa using h1
    subst this; simp
  · rw [if_neg h1] at h
    by_cases h2 : b.length = n
    · rw [if_pos h2] at h; cases h
      exact ⟨fun c hc => by cases hc; exact h2, Or.inr h2⟩
    · rw [if_neg h2] at h; cases h

theorem fromRaw_inv (env : Env) (raw : Raw) (x : Ext) (h : fromRaw env raw = .ok x) :
    raw.version ≠ 0 ∧ x.version = raw.version ∧
    optFixed 32 .hashLen raw.ih = .ok x.ih ∧ optFixed 32 .keyLen raw.ik = .ok x.ik ∧
    optFixed 12 .nonceLen raw.inn = .ok x.inn ∧ optFixed 32 .uploadLen raw.iu = .ok x.iu := by
  unfold fromRaw at h
  by_cases hv : raw.version = 0
  · rw [if_pos hv] at h; cases h
  · rw [if_neg hv] at h
    cases h0 : relaysFrom env raw.relays [] with
    | error e => simp [h0] at h
    | ok rl =>
    cases h1 : optFixed 32 .hashLen raw.ih with
    | error e => simp [h0, h1] at h
    | ok a1 =>
    cases h2 : optFixed 32 .keyLen raw.ik with
    | error e => simp [h0, h1, h2] at h
    | ok a2 =>
    cases h3 : optFixed 12 .nonceLen raw.inn with
    | error e => simp [h0, h1, h2, h3] at h
    | ok a3 =>
    cases h4 : optFixed 32 .uploadLen raw.iu with
    | error e => simp [h0, h1, h2, h3, h4] at h
    | ok a4 =>
      simp only [h0, h1, h2, h3, h4] at h
      by_cases u1 : env.utf8 raw.name = false
      · rw [if_pos u1] at h; cases h
      · rw [if_neg u1] at h
        by_cases u2 : env.utf8 raw.desc = false
        · rw [if_pos u2] at h; cases h
        · rw [if_neg u2] at h
          cases h
          exact ⟨hv, rfl, rfl, rfl, rfl, rfl⟩

theorem decode_ok {env : Env} {bs : Bytes} {x : Ext} (h : decode env bs = .ok x) : ∃ raw, fromRaw env raw = .ok x := by
  unfold decode at h
  split at h
  · cases h
  · split at h
    · exact ⟨_, h⟩
    · cases h

/-! ### hex -/

theorem hexVal_hexDigit (n : Nat) (h : n < 16) : hexVal (hexDigit n) = some n := by
  revert n; decide

theorem hexDec_hexEnc (b : Bytes) (hb : isBytes b = true) : hexDec (hexEnc b) = some b := by
  induction b with
  | nil => rfl
  | cons x xs ih =>
    obtain ⟨hx, hxs⟩ := (isBytes_cons x xs).mp hb
    rw [hexEnc, hexDec, hexVal_hexDigit _ (Nat.div_lt_of_lt_mul hx), hexVal_hexDigit _ (Nat.mod_lt x (by decide)), ih hxs]
    exact congrArg (fun v => some (v :: xs)) (Nat.div_add_mod' x 16)

theorem hexEnc_length (b : Bytes) : (hexEnc b).length = 2 * b.length := by
  induction b with
  | nil => rfl
  | cons x xs ih => rw [hexEnc, List.length_cons, List.length_cons, List.length_cons, ih, Nat.mul_succ]

theorem hexDec_cons_cons {a c : Nat} {r b : Bytes} (h : hexDec (a :: c :: r) = some b) :
    ∃ x y t, hexVal a = some x ∧ hexVal c = some y ∧ hexDec r = some t ∧ b = (x * 16 + y) :: t := by
  unfold hexDec at h
  cases h1 : hexVal a with
  | none => rw [h1] at h; cases h
  | some x =>
    cases h2 : hexVal c with
    | none => rw [h1, h2] at h; cases h
    | some y =>
      cases h3 : hexDec r with
      | none => rw [h1, h2, h3] at h; cases h
      | some t => rw [h1, h2, h3] at h; exact ⟨x, y, t, rfl, rfl, rfl, (Option.some.inj h).symm⟩

theorem hexDec_length : ∀ (s b : Bytes), hexDec s = some b → s.length = 2 * b.length
  | [], b, h => by cases h; rfl
  | [_], b, h => by cases h
  | a :: c :: r, b, h => by
    obtain ⟨x, y, t, _, _, h3, rfl⟩ := hexDec_cons_cons h
    rw [List.length_cons, List.length_cons, List.length_cons, hexDec_length r t h3, Nat.mul_succ]

end MdkVerif.Codec
