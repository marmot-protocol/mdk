import MdkVerif.Model.Client
import MdkVerif.Proofs.Ite
/-
  MdkVerif.Proofs.Client — what the functions of `Model/Client.lean` do, said once.

  * the building blocks: `ensureSecret` changes the secret table only, `updLast` the last-message pointer only, `mergeCommit`
    as one equation (`mergeCommit_commit`), with the field facts read off them; the projection `proj` that C06 / C07 speak
    about; `Synced`;
  * how `process_message` ends: `Step1` — one constructor per outcome of `step1` with the conditions under which it is
    reached — with `step1_spec`, `processCommit_cases`, the dedup check (`deliverOnce_cases`, `deliverN_blocked`) and RULE
    INDUCTION over the re-processing after a rollback, for every fuel (`deliverN_induct`); `OwnMsg` for
    `CannotDecryptOwnMessage` (`ownMessage_sim` for two runs of it);
  * the snapshot queue: `rollbackTo_spec` / `rollbackTo_getRec`, and what `mgrCreate` and `rollbackTo` keep of every saved
    state and of a sorted queue (`_saved`, `_sorted`);
  * how the local operations end: `Local`, with one `<op>_spec` per operation, and `stageCommit_ev`.
  An invariant of the client is proved by `cases` on these relations.
-/
namespace MdkVerif.Client
open MdkVerif

/-- the projection C06 / C07 speak about: epoch and MLS state (path), member set, group data, pending
    proposals and commit, the stored record, and the stored messages — NOT the dedup records, the
    exporter-secret cache or the consumed ratchet generations -/
structure Proj where
  path : Path
  members : List Nat
  admins : List Nat
  name : Nat
  desc : Nat
  relays : List Nat
  nid : Nat
  props : List Nat
  pending : Option Ev
  recEpoch : Nat
  recName : Nat
  recAdmins : List Nat
  recDesc : Nat
  recRelays : List Nat
  recNid : Nat
  active : Bool
  last : Option (Nat × Nat)
  msgs : List MsgRow
  hasGroup : Bool
  deriving DecidableEq, Repr

def proj (c : Cl) : Proj :=
  { path := c.g.path, members := c.g.members, admins := c.g.admins, name := c.g.name, desc := c.g.desc,
    relays := c.g.relays, nid := c.g.nid, props := c.g.props,
    pending := c.g.pending, recEpoch := c.g.recEpoch, recName := c.g.recName, recAdmins := c.g.recAdmins,
    recDesc := c.g.recDesc, recRelays := c.g.recRelays, recNid := c.g.recNid, active := c.g.active,
    last := c.g.last, msgs := c.msgs, hasGroup := c.hasGroup }

@[simp] theorem proj_setRec (c : Cl) (n : Nat) (r : Rec) : proj (setRec c n r) = proj c := rfl
@[simp] theorem proj_recordFailure (c : Cl) (n : Nat) (h : Bool) (e : Option Nat) :
    proj (recordFailure c n h e) = proj c := rfl

/-- `exporter_secret()` changes the secret table and nothing else -/
theorem ensureSecret_secrets_only (g : GState) : ∃ s, ensureSecret g = { g with secrets := s } := by
  unfold ensureSecret; split <;> exact ⟨_, rfl⟩

section
variable (g : GState) (c : Cl)
@[simp] theorem ensureSecret_active : (ensureSecret g).active = g.active := by obtain ⟨s, h⟩ := ensureSecret_secrets_only g; rw [h]
@[simp] theorem ensureSecret_desc : (ensureSecret g).desc = g.desc := by obtain ⟨s, h⟩ := ensureSecret_secrets_only g; rw [h]
@[simp] theorem ensureSecret_relays : (ensureSecret g).relays = g.relays := by obtain ⟨s, h⟩ := ensureSecret_secrets_only g; rw [h]
@[simp] theorem ensureSecret_nid : (ensureSecret g).nid = g.nid := by obtain ⟨s, h⟩ := ensureSecret_secrets_only g; rw [h]
@[simp] theorem ensureSecret_recNid : (ensureSecret g).recNid = g.recNid := by obtain ⟨s, h⟩ := ensureSecret_secrets_only g; rw [h]
@[simp] theorem ensureSecret_path : (ensureSecret g).path = g.path := by obtain ⟨s, h⟩ := ensureSecret_secrets_only g; rw [h]
@[simp] theorem ensureSecret_members : (ensureSecret g).members = g.members := by obtain ⟨s, h⟩ := ensureSecret_secrets_only g; rw [h]
@[simp] theorem ensureSecret_admins : (ensureSecret g).admins = g.admins := by obtain ⟨s, h⟩ := ensureSecret_secrets_only g; rw [h]
@[simp] theorem ensureSecret_name : (ensureSecret g).name = g.name := by obtain ⟨s, h⟩ := ensureSecret_secrets_only g; rw [h]
@[simp] theorem ensureSecret_props : (ensureSecret g).props = g.props := by obtain ⟨s, h⟩ := ensureSecret_secrets_only g; rw [h]
@[simp] theorem ensureSecret_pending : (ensureSecret g).pending = g.pending := by obtain ⟨s, h⟩ := ensureSecret_secrets_only g; rw [h]
theorem ensureSecret_consumed : (ensureSecret g).consumed = g.consumed := by obtain ⟨s, h⟩ := ensureSecret_secrets_only g; rw [h]
theorem ensureSecret_past : (ensureSecret g).past = g.past := by obtain ⟨s, h⟩ := ensureSecret_secrets_only g; rw [h]

@[simp] theorem proj_ensureSecret : proj { c with g := ensureSecret c.g } = proj c := by
  obtain ⟨s, h⟩ := ensureSecret_secrets_only c.g; rw [h]; rfl

@[simp] theorem proj_withSecret : proj (withSecret c) = proj c := proj_ensureSecret c
@[simp] theorem withSecret_active : (withSecret c).g.active = c.g.active := ensureSecret_active c.g
@[simp] theorem withSecret_path : (withSecret c).g.path = c.g.path := ensureSecret_path c.g
@[simp] theorem withSecret_consumed : (withSecret c).g.consumed = c.g.consumed := ensureSecret_consumed c.g
@[simp] theorem withSecret_past : (withSecret c).g.past = c.g.past := ensureSecret_past c.g
@[simp] theorem withSecret_pending : (withSecret c).g.pending = c.g.pending := ensureSecret_pending c.g
@[simp] theorem withSecret_props : (withSecret c).g.props = c.g.props := ensureSecret_props c.g
@[simp] theorem withSecret_admins : (withSecret c).g.admins = c.g.admins := ensureSecret_admins c.g
end
@[simp] theorem withSecret_id (c : Cl) : (withSecret c).id = c.id := rfl
@[simp] theorem withSecret_hasGroup (c : Cl) : (withSecret c).hasGroup = c.hasGroup := rfl
@[simp] theorem withSecret_msgs (c : Cl) : (withSecret c).msgs = c.msgs := rfl
@[simp] theorem withSecret_mgr (c : Cl) : (withSecret c).mgr = c.mgr := rfl
@[simp] theorem withSecret_getRec (c : Cl) (n : Nat) : getRec (withSecret c) n = getRec c n := rfl
@[simp] theorem withSecret_isBetter (c : Cl) (ee : Nat) (e : Ev) : isBetter (withSecret c) ee e = isBetter c ee e := rfl

theorem updLast_last (g : GState) (m t : Nat) : ∃ l, updLast g m t = { g with last := l } := by
  unfold updLast
  split
  · exact ⟨_, rfl⟩
  · split
    · exact ⟨_, rfl⟩
    · exact ⟨g.last, rfl⟩

theorem updLast_consumed (g : GState) (m t : Nat) : (updLast g m t).consumed = g.consumed := by
  obtain ⟨l, hl⟩ := updLast_last g m t; rw [hl]

theorem mergeCommit_consumed (mp : Nat) (g : GState) (e : Ev) : (mergeCommit mp g e).consumed = g.consumed := by
  unfold mergeCommit
  cases e.kind with
  | commit b sw => cases b <;> rfl
  | leave => rfl
  | app a b c => rfl

theorem epochOf_snoc (p : Path) (n : Nat) : epochOf (p ++ [n]) = epochOf p + 1 := by simp [epochOf]; omega

theorem applyBody_keeps (g : GState) (b : Body) : (applyBody g b).secrets = g.secrets ∧ (applyBody g b).active = g.active := by
  cases b <;> exact ⟨rfl, rfl⟩

theorem mergeCommit_commit (mp : Nat) (g : GState) (e : Ev) {b : Body} {sw : List Nat} (hk : e.kind = .commit b sw) :
    mergeCommit mp g e =
      { applyBody g b with
        members := (applyBody g b).members.filter (fun m => !(sw.contains m)), path := g.path ++ [e.cipher],
        pending := none, props := [], xq := [], past := (g.path :: g.past).take mp } := by
  unfold mergeCommit; rw [hk]

theorem mergeCommit_other (mp : Nat) (g : GState) (e : Ev) (h : ∀ b sw, e.kind ≠ .commit b sw) : mergeCommit mp g e = g := by
  unfold mergeCommit
  cases hk : e.kind with
  | commit b sw => exact absurd hk (h b sw)
  | _ => rfl

theorem mergeCommit_path (mp : Nat) (g : GState) (e : Ev) (b : Body) (sw : List Nat) (hk : e.kind = .commit b sw) :
    (mergeCommit mp g e).path = g.path ++ [e.cipher] ∧ (mergeCommit mp g e).secrets = g.secrets := by
  rw [mergeCommit_commit mp g e hk]
  exact ⟨rfl, (applyBody_keeps g b).1⟩

theorem mergeCommit_active (mp : Nat) (g : GState) (e : Ev) : (mergeCommit mp g e).active = g.active := by
  by_cases h : ∃ b sw, e.kind = .commit b sw
  · obtain ⟨b, sw, hk⟩ := h
    rw [mergeCommit_commit mp g e hk]
    exact (applyBody_keeps g b).2
  · rw [mergeCommit_other mp g e (fun b sw hk => h ⟨b, sw, hk⟩)]

theorem failUnprocessable_proj (c : Cl) (e : Ev) : proj (failUnprocessable c e).1 = proj c := rfl

/-- the stored record mirrors the MLS state -/
def Synced (g : GState) : Prop :=
  g.recEpoch = epochOf g.path ∧ g.recName = g.name ∧ g.recAdmins = g.admins ∧
  g.recDesc = g.desc ∧ g.recRelays = g.relays ∧ g.recNid = g.nid

instance (g : GState) : Decidable (Synced g) := by unfold Synced; infer_instance

theorem synced_syncRec (g : GState) : Synced (syncRec g) := by simp [Synced, syncRec]

theorem synced_ensureSecret (g : GState) (h : Synced g) : Synced (ensureSecret g) := by
  obtain ⟨s, hs⟩ := ensureSecret_secrets_only g; rw [hs]; exact h

theorem synced_withSecret (c : Cl) (h : Synced c.g) : Synced (withSecret c).g := synced_ensureSecret c.g h

theorem returnOwnCommit_proj (c : Cl) (h : Synced c.g) : proj (returnOwnCommit c).1 = proj c := by
  obtain ⟨h1, h2, h3, h4, h5, h6⟩ := h
  simp [returnOwnCommit, proj, syncRec, h1, h2, h3, h4, h5, h6]

/-! ## how `process_message` ends -/

/-- routed by its `h` tag to an active group, and the outer layer opens -/
structure Opens (c : Cl) (e : Ev) : Prop where
  routed : routes c e = true
  active : c.g.active = true
  opens : outerOpens (withSecret c).g e = true

/-- the ratchet generation of ciphertext `x` used up (what decrypting does) -/
def consume (c : Cl) (x : Nat) : Cl := { c with g := { c.g with consumed := x :: c.g.consumed } }

/-- How `CannotDecryptOwnMessage` ends: nothing changes; or the own message's row (found through the event's dedup
    record, Created or Retryable) is confirmed as Processed; or the event is the own commit, already applied. -/
inductive OwnMsg (c : Cl) (e : Ev) : Cl × Res → Prop
  | same {res : Res} : res = .err eMessage ∨ res = .unprocessable → OwnMsg c e (c, res)
  | confirmed {r : Rec} {row : MsgRow} : getRec c e.n = some r → r.state = 0 ∨ r.state = 5 → r.mid = some row.mid →
      c.msgs.find? (·.mid == row.mid) = some row →
      OwnMsg c e (setRec { c with msgs := upsertRow { row with state := 1 } c.msgs } e.n { r with state := 1 }, .app row.mid)
  | echo {r : Rec} : getRec c e.n = some r → r.state = 2 → OwnMsg c e (returnOwnCommit c)

theorem ownMessage_spec (c : Cl) (e : Ev) : OwnMsg c e (ownMessage c e) := by
  unfold ownMessage
  cases hr : getRec c e.n with
  | none => exact .same (.inl rfl)
  | some r =>
    dsimp only
    have found {mid row} (hs : r.state = 0 ∨ r.state = 5) (hm : r.mid = some mid)
        (hf : c.msgs.find? (·.mid == mid) = some row) :
        OwnMsg c e (setRec { c with msgs := upsertRow { row with state := 1 } c.msgs } e.n
          { r with state := 1, mid := some mid }, .app mid) := by
      have : row.mid = mid := by simpa using List.find?_some hf
      subst this
      rw [← hm]
      exact .confirmed hr hs hm hf
    refine ite_elim (fun h0 => ?_) (fun _ => ite_elim (fun h5 => ?_) (fun _ => ite_elim (fun h2 => ?_) (fun _ => .same (.inr rfl))))
    · cases hm : r.mid with
      | none => exact .same (.inl rfl)
      | some mid =>
        dsimp only
        cases hf : c.msgs.find? (·.mid == mid) with
        | none => exact .same (.inl rfl)
        | some row => exact found (.inl (by simpa using h0)) hm hf
    · cases hm : r.mid with
      | none => exact .same (.inr rfl)
      | some mid =>
        dsimp only [Option.bind]
        cases hf : c.msgs.find? (·.mid == mid) with
        | none => exact .same (.inr rfl)
        | some row =>
          have : row.mid = mid := by simpa using List.find?_some hf
          subst this
          exact found (.inr (by simpa using h5)) hm hf
    · exact .echo hr (by simpa using h2)

def ResRel (R : Cl → Cl → Prop) (p p' : Cl × Res) : Prop := R p.1 p'.1 ∧ p'.2 = p.2

/-- `CannotDecryptOwnMessage` reads the event's dedup record and the message rows, and writes a record, a row and the stored
    group record: two clients that agree on what is read answer the same, and stay in any relation `R` that such writes keep -/
theorem ownMessage_sim {R : Cl → Cl → Prop} {c c' : Cl} (e : Ev) (h : R c c') (hn : getRec c' e.n = getRec c e.n)
    (hm : c'.msgs = c.msgs)
    (confirm : ∀ ms v, R (setRec { c with msgs := ms } e.n v) (setRec { c' with msgs := ms } e.n v))
    (echo : R (returnOwnCommit c).1 (returnOwnCommit c').1) : ResRel R (ownMessage c e) (ownMessage c' e) := by
  unfold ownMessage
  rw [hn, hm]
  cases getRec c e.n with
  | none => exact ⟨h, rfl⟩
  | some r =>
    dsimp only
    refine ite_elim₂ (fun _ => ?_) (fun _ => ite_elim₂ (fun _ => ?_) (fun _ =>
      ite_elim₂ (fun _ => ⟨echo, rfl⟩) (fun _ => ⟨h, rfl⟩)))
    · cases r.mid with
      | none => exact ⟨h, rfl⟩
      | some mid =>
        dsimp only
        cases c.msgs.find? (·.mid == mid) with
        | none => exact ⟨h, rfl⟩
        | some row => exact ⟨confirm _ _, rfl⟩
    · cases r.mid.bind (fun mid => c.msgs.find? (·.mid == mid)) with
      | none => exact ⟨h, rfl⟩
      | some row => exact ⟨confirm _ _, rfl⟩

/-- `OwnCommitPending`: the echo `e` of the own pending commit `p` — snapshot, merge `p`, ProcessedCommit -/
def mergeOwn (c : Cl) (e p : Ev) : Cl × Res :=
  let c1 := mgrCreate c (epochOf c.g.path) e
  let g2 := syncRec (ensureSecret (mergeCommit c.maxPast c1.g p))
  (setRec { c1 with g := g2 } e.n { state := 2, epoch := some (epochOf g2.path), hasGroup := true, mid := none }, .commit)

/-- a leave proposal reaching an admin: queued, and a commit removing every queued leaver staged as event `nx` -/
def autoCommit (nx : Nat) (c : Cl) (e : Ev) : Cl × Res :=
  let who := (e.sender :: c.g.props).eraseDups
  let ne : Ev := { n := nx, ts := 0, idnum := 0, cipher := nx, sender := c.id, path := c.g.path,
                   kind := .commit (.removeLeavers who) [], tag := c.g.recNid }
  let g2 := ensureSecret { c.g with props := who, pending := some ne }
  (setRec { c with g := g2 } e.n { state := 1, epoch := some (epochOf c.g.path), hasGroup := true, mid := none }, .proposalCommitted ne)

/-- a leave proposal reaching a non-admin: queued -/
def queueLeave (c : Cl) (e : Ev) : Cl × Res :=
  (setRec { c with g := { c.g with props := (e.sender :: c.g.props).eraseDups } } e.n
    { state := 1, epoch := some (epochOf c.g.path), hasGroup := true, mid := none }, .pending)

inductive Step1 (R : Cl → Cl × Res → Prop) (nx : Nat) (e : Ev) (c : Cl) : Cl × Res → Prop
  | unrouted : routes c e = false → Step1 R nx e c (recordFailure c e.n false none, .err eGroupNotFound)
  | evicted : routes c e = true → c.g.active = false → Step1 R nx e c (recordFailure c e.n true none, .err eExportSecret)
  | sealed : routes c e = true → c.g.active = true → outerOpens (withSecret c).g e = false →
      Step1 R nx e c (recordFailure (withSecret c) e.n true none, .err eMessage)
  | refused : Opens c e → Step1 R nx e c (failUnprocessable (withSecret c) e)
  | own : Opens c e → e.sender = c.id →
      (∃ mid ts tok, e.kind = .app mid ts tok) ∨ epochOf e.path = epochOf c.g.path →
      Step1 R nx e c (ownMessage (withSecret c) e)
  | echoed {b sw} : Opens c e → e.kind = .commit b sw → epochOf e.path ≠ epochOf c.g.path →
      Step1 R nx e c (returnOwnCommit (withSecret c))
  | retried {b sw c₁ r} : Opens c e → e.kind = .commit b sw → epochOf e.path ≠ epochOf c.g.path →
      isBetter c (epochOf e.path) e = true → rollbackTo (withSecret c) (epochOf e.path) = some c₁ → R c₁ r → Step1 R nx e c r
  | mergedOwn {b sw p} : Opens c e → e.kind = .commit b sw → epochOf e.path = epochOf c.g.path → e.sender = c.id →
      c.g.pending = some p → Step1 R nx e c (mergeOwn (withSecret c) e p)
  | committed {b sw} : Opens c e → e.kind = .commit b sw → epochOf e.path = epochOf c.g.path → e.sender ≠ c.id →
      e.cipher ∉ c.g.consumed → Step1 R nx e c (processCommit (consume (withSecret c) e.cipher) e b sw)
  | autoCommitted : Opens c e → e.kind = .leave → epochOf e.path = epochOf c.g.path → e.sender ≠ c.id →
      e.cipher ∉ c.g.consumed → isAdmin c.g c.id = true → Step1 R nx e c (autoCommit nx (consume (withSecret c) e.cipher) e)
  | queued : Opens c e → e.kind = .leave → epochOf e.path = epochOf c.g.path → e.sender ≠ c.id →
      e.cipher ∉ c.g.consumed → isAdmin c.g c.id = false → Step1 R nx e c (queueLeave (consume (withSecret c) e.cipher) e)
  | stored {mid ts tok} : Opens c e → e.kind = .app mid ts tok → epochOf e.path ≤ epochOf c.g.path →
      (epochOf e.path = epochOf c.g.path ∨ e.path ∈ c.g.past) → e.sender ≠ c.id →
      e.cipher ∉ c.g.consumed → Step1 R nx e c (storeApp (consume (withSecret c) e.cipher) e mid ts tok)

theorem notBetterResult_cases {P : Cl × Res → Prop} (c : Cl) (e : Ev) (hown : P (returnOwnCommit c))
    (hfail : P (failUnprocessable c e)) : P (notBetterResult c e) := by
  unfold notBetterResult
  cases getRec c e.n with
  | none => exact hfail
  | some r => exact ite_elim (fun _ => hown) (fun _ => hfail)

theorem wrongEpochCommit_cases {P : Cl × Res → Prop} (retry : Cl → Option (Cl × Res)) (c : Cl) (e : Ev) (ee : Nat)
    (hnb : P (notBetterResult c e))
    (hre : ∀ c₁ r, isBetter c ee e = true → rollbackTo c ee = some c₁ → retry c₁ = some r → P r) :
    P (wrongEpochCommit retry c e ee) := by
  unfold wrongEpochCommit
  refine ite_elim (fun hb => ?_) (fun _ => hnb)
  cases hrb : rollbackTo c ee with
  | none => exact hnb
  | some c₁ =>
    dsimp only
    cases hrt : retry c₁ with
    | none => exact hnb
    | some r => exact hre c₁ r hb hrb hrt

theorem step1_spec {R : Cl → Cl × Res → Prop} (retry : Cl → Option (Cl × Res)) (hR : ∀ c₁ r, retry c₁ = some r → R c₁ r)
    (nx : Nat) (c : Cl) (e : Ev) : Step1 R nx e c (step1 retry nx c e) := by
  unfold step1
  refine ite_elim (fun h => .unrouted (by simpa using h)) (fun hr => ?_)
  refine ite_elim (fun h => .evicted (by simpa using hr) (by simpa using h)) (fun ha => ?_)
  dsimp only
  refine ite_elim (fun h => .sealed (by simpa using hr) (by simpa using ha) (by simpa using h)) (fun hop => ?_)
  have ho : Opens c e := ⟨by simpa using hr, by simpa using ha, by simpa using hop⟩
  cases hk : e.kind with
  | commit b sw =>
    dsimp only
    refine ite_elim (fun hne => ?_) (fun heq => ?_)
    · have hne : epochOf e.path ≠ epochOf c.g.path := by simpa using hne
      exact wrongEpochCommit_cases _ _ _ _ (notBetterResult_cases _ _ (.echoed ho hk hne) (.refused ho))
        (fun c₁ r hb hrb hrt => .retried ho hk hne hb hrb (hR c₁ r hrt))
    · have heq : epochOf e.path = epochOf c.g.path := by simpa using heq
      refine ite_elim (fun hs => ?_) (fun hs => ?_)
      · have hs : e.sender = c.id := by simpa using hs
        cases hp : (withSecret c).g.pending with
        | none => exact .own ho hs (.inr heq)
        | some p => exact .mergedOwn ho hk heq hs (by simpa using hp)
      · have hs : e.sender ≠ c.id := by simpa using hs
        refine ite_elim (fun _ => .refused ho) (fun hc => ?_)
        exact .committed ho hk heq hs (by simpa using hc)
  | leave =>
    dsimp only
    refine ite_elim (fun _ => .refused ho) (fun heq => ?_)
    have heq : epochOf e.path = epochOf c.g.path := by simpa using heq
    refine ite_elim (fun hs => .own ho (by simpa using hs) (.inr heq)) (fun hs => ?_)
    have hs : e.sender ≠ c.id := by simpa using hs
    refine ite_elim (fun _ => .refused ho) (fun hc => ?_)
    have hc : e.cipher ∉ c.g.consumed := by simpa using hc
    refine ite_elim (fun hadm => .autoCommitted ho hk heq hs hc (by simpa [isAdmin] using hadm))
      (fun hadm => .queued ho hk heq hs hc (by simpa [isAdmin] using hadm))
  | app mid ts tok =>
    dsimp only
    refine ite_elim (fun _ => .refused ho) (fun hle => ?_)
    refine ite_elim (fun _ => .refused ho) (fun hpast => ?_)
    refine ite_elim (fun hs => .own ho (by simpa using hs) (.inl ⟨_, _, _, hk⟩)) (fun hs => ?_)
    refine ite_elim (fun _ => .refused ho) (fun hc => ?_)
    have hle : epochOf e.path ≤ epochOf c.g.path := by simpa using hle
    refine .stored ho hk hle ?_ (by simpa using hs) (by simpa using hc)
    by_cases hlt : epochOf e.path < epochOf c.g.path
    · exact Or.inr (by simpa [hlt] using hpast)
    · exact Or.inl (by omega)

/-- How `process_commit` ends once staging succeeded: refused (the sender is no admin and the commit no pure
    self-update); or the state is snapshotted and the commit merged — and then the receiver finds itself evicted, or
    stores the new epoch's secret and syncs its record. -/
theorem processCommit_cases {P : Cl × Res → Prop} (c : Cl) (e : Ev) (b : Body) (sw : List Nat)
    (refused : P (recordFailure c e.n true (some c.g.recEpoch), .err eNonAdmin))
    (merged : ∀ g r, g = { mergeCommit c.maxPast c.g e with active := false } ∨
        g = syncRec (ensureSecret (mergeCommit c.maxPast c.g e)) → r.mid = none →
      P (setRec { c with g := g, mgr := (mgrCreate c (epochOf c.g.path) e).mgr } e.n r, .commit)) :
    P (processCommit c e b sw) := by
  unfold processCommit
  refine ite_elim (fun _ => refused) (fun _ => ?_)
  dsimp only
  exact ite_elim (fun _ => merged _ _ (.inl rfl) rfl) (fun _ => merged _ _ (.inr rfl) rfl)

theorem deliverOnce_cases {P : Cl × Res → Prop} (retry : Cl → Option (Cl × Res)) (nx : Nat) (c : Cl) (e : Ev)
    (blocked : ∀ r, getRec c e.n = some r → r.state = 3 ∨ r.state = 4 →
      P (c, if routes c e then .unprocessable else .previouslyFailed))
    (step : (∀ r, getRec c e.n = some r → r.state ≠ 3 ∧ r.state ≠ 4) → P (step1 retry nx c e)) :
    P (deliverOnce retry nx c e) := by
  unfold deliverOnce
  cases hr : getRec c e.n with
  | none => exact step (fun r h => by rw [hr] at h; cases h)
  | some r =>
    refine ite_elim (fun h => blocked r hr (by simpa using h)) (fun h => step ?_)
    intro r' hr'
    rw [hr] at hr'; cases hr'
    simpa using h

theorem deliverN_blocked (fuel nx : Nat) (c : Cl) (e : Ev) (r : Rec) (h : getRec c e.n = some r)
    (hs : r.state = 3 ∨ r.state = 4) :
    deliverN fuel nx c e = (c, if routes c e then .unprocessable else .previouslyFailed) := by
  cases fuel <;> simp only [deliverN, deliverOnce, h] <;> rcases hs with hs | hs <;> simp [hs]

/-- Rule induction for `process_message` with its re-processing, every fuel: `P c r` — "from `c` the call may answer
    `r`" — holds of every run if it holds of the dedup stop and is closed under the outcomes of `step1`, where the
    outcome of a re-processing after rollback (`Step1.retried`) is one of which `P` is known already. -/
theorem deliverN_induct {P : Cl → Cl × Res → Prop} (nx : Nat) (e : Ev)
    (blocked : ∀ c r, getRec c e.n = some r → r.state = 3 ∨ r.state = 4 →
      P c (c, if routes c e then .unprocessable else .previouslyFailed))
    (step : ∀ c r, (∀ r, getRec c e.n = some r → r.state ≠ 3 ∧ r.state ≠ 4) → Step1 P nx e c r → P c r)
    (fuel : Nat) (c : Cl) : P c (deliverN fuel nx c e) := by
  induction fuel generalizing c with
  | zero =>
    exact deliverOnce_cases _ nx c e (blocked c) (fun h => step c _ h (step1_spec _ (fun _ _ h => by cases h) nx c e))
  | succ f ih =>
    exact deliverOnce_cases _ nx c e (blocked c)
      (fun h => step c _ h (step1_spec _ (fun c₁ r h => by cases h; exact ih c₁) nx c e))


theorem findIdx_some (q : List Snap) (ep i : Nat) (h : findIdx q ep = some i) :
    ∃ s rest, q.drop i = s :: rest ∧ s.epoch = ep := by
  induction q generalizing i with
  | nil => simp [findIdx] at h
  | cons x t ih =>
    by_cases hx : (x.epoch == ep) = true
    · simp only [findIdx, hx, if_true, Option.some.injEq] at h
      subst h
      exact ⟨x, t, rfl, by simpa using hx⟩
    · have hx' : (x.epoch == ep) = false := by simpa using hx
      simp only [findIdx, hx', Bool.false_eq_true, if_false] at h
      cases hj : findIdx t ep with
      | none => simp [hj] at h
      | some j =>
        simp only [hj, Option.map_some, Option.some.injEq] at h
        subst h
        obtain ⟨s, rest, hd, hs⟩ := ih j hj
        exact ⟨s, rest, by simpa using hd, hs⟩

/-- What `rollback_to_epoch` and the re-marking after it leave: the state saved in the snapshot `s` of that epoch, the
    queue before it; rows of later epochs become EpochInvalidated, records of later epochs EpochInvalidated and Failed
    records without an epoch Retryable.  Nothing else of the client changes. -/
theorem rollbackTo_spec {c c₁ : Cl} {epoch : Nat} (h : rollbackTo c epoch = some c₁) :
    ∃ i s rest, findIdx c.mgr epoch = some i ∧ c.mgr.drop i = s :: rest ∧ s.epoch = epoch ∧
      c₁ = { c with g := s.saved, mgr := c.mgr.take i,
                    msgs := c.msgs.map (fun m => if m.epoch > epoch then { m with state := 3 } else m),
                    recs := (c.recs.map (fun (p : Nat × Rec) =>
                        if p.2.hasGroup && (match p.2.epoch with | some k => k > epoch | none => false)
                        then (p.1, { p.2 with state := 4 }) else p)).map (fun (p : Nat × Rec) =>
                        if p.2.hasGroup && p.2.state == 3 && p.2.epoch.isNone then (p.1, { p.2 with state := 5 }) else p) } := by
  unfold rollbackTo at h
  cases hi : findIdx c.mgr epoch with
  | none => rw [hi] at h; cases h
  | some i =>
    obtain ⟨s, rest, hd, hs⟩ := findIdx_some c.mgr epoch i hi
    simp only [hi, hd, Option.some.injEq] at h
    exact ⟨i, s, rest, rfl, hd, hs, h.symm⟩

end MdkVerif.Client

-- Two definitions of the fork theorems' vocabulary (namespace `Fork`) that facts about `Model/Client.lean` are stated with.
namespace MdkVerif.Fork
open MdkVerif.Client

/-- the record rewriting of a rollback to epoch `ep` -/
def rbRec1 (ep : Nat) (r : Rec) : Rec :=
  if r.hasGroup && (match r.epoch with | some k => decide (k > ep) | none => false) then { r with state := 4 } else r
def rbRec2 (r : Rec) : Rec :=
  if r.hasGroup && r.state == 3 && r.epoch.isNone then { r with state := 5 } else r
def rbRec (ep : Nat) (r : Rec) : Rec := rbRec2 (rbRec1 ep r)

/-- the state with its consumed list replaced -/
def wc (g : GState) (X : List Nat) : GState := { g with consumed := X }

theorem wc_self (g : GState) : wc g g.consumed = g := by cases g; rfl
@[simp] theorem wc_wc (g : GState) (X Y : List Nat) : wc (wc g X) Y = wc g Y := rfl
@[simp] theorem wc_consumed (g : GState) (X : List Nat) : (wc g X).consumed = X := rfl

theorem ensureSecret_wc (g : GState) (X : List Nat) : ensureSecret (wc g X) = wc (ensureSecret g) X := by
  unfold ensureSecret wc
  simp only
  split <;> rfl

theorem syncRec_wc (g : GState) (X : List Nat) : syncRec (wc g X) = wc (syncRec g) X := rfl

theorem mergeCommit_wc (mp : Nat) (g : GState) (X : List Nat) (e : Ev) : mergeCommit mp (wc g X) e = wc (mergeCommit mp g e) X := by
  by_cases h : ∃ b sw, e.kind = .commit b sw
  · obtain ⟨b, sw, hk⟩ := h
    rw [mergeCommit_commit mp g e hk, mergeCommit_commit mp _ e hk]
    cases b <;> rfl
  · rw [mergeCommit_other mp g e (fun b sw hk => h ⟨b, sw, hk⟩), mergeCommit_other mp _ e (fun b sw hk => h ⟨b, sw, hk⟩)]

end MdkVerif.Fork

namespace MdkVerif.Client
open MdkVerif

theorem alookup_map_snd {α : Type} (f : Nat × α → Nat × α) (F : α → α) (hF : ∀ p, f p = (p.1, F p.2)) (n : Nat)
    (l : List (Nat × α)) : alookup n (l.map f) = (alookup n l).map F := by
  induction l with
  | nil => rfl
  | cons h t ih =>
    obtain ⟨k, v⟩ := h
    simp only [List.map_cons, hF]
    by_cases c : k = n <;> simp [alookup, c, ih]

theorem rollbackTo_getRec {c c₁ : Cl} {ep : Nat} (h : rollbackTo c ep = some c₁) (n : Nat) :
    getRec c₁ n = (getRec c n).map (Fork.rbRec ep) := by
  obtain ⟨_, _, _, _, _, _, rfl⟩ := rollbackTo_spec h
  have pair {k : Nat} {p : Prop} [Decidable p] {a b : Rec} : (if p then (k, a) else (k, b)) = (k, if p then a else b) := by
    split <;> rfl
  simp only [getRec]
  rw [alookup_map_snd _ Fork.rbRec2 (fun p => pair), alookup_map_snd _ (Fork.rbRec1 ep) (fun p => pair)]
  cases alookup n c.recs <;> rfl

theorem rollbackTo_saved {Q : GState → Prop} {c c₁ : Cl} {ep : Nat} (h : ∀ s ∈ c.mgr, Q s.saved)
    (hr : rollbackTo c ep = some c₁) : Q c₁.g ∧ ∀ s ∈ c₁.mgr, Q s.saved := by
  obtain ⟨i, s, rest, _, hd, _, rfl⟩ := rollbackTo_spec hr
  exact ⟨h s (List.mem_of_mem_drop (hd ▸ List.mem_cons_self)), fun t ht => h t (List.mem_of_mem_take ht)⟩

theorem mgrCreate_saved {Q : GState → Prop} {c : Cl} (ep : Nat) (e : Ev) (hg : Q c.g) (h : ∀ s ∈ c.mgr, Q s.saved) :
    ∀ s ∈ (mgrCreate c ep e).mgr, Q s.saved := by
  intro s hs
  rcases List.mem_append.mp (List.mem_of_mem_drop hs) with hm | hm
  · exact h s hm
  · cases List.mem_singleton.mp hm; exact hg

theorem mgrCreate_sorted {R : Snap → Snap → Prop} {c : Cl} (ep : Nat) (e : Ev) (hs : c.mgr.Pairwise R)
    (hnew : ∀ s ∈ c.mgr, R s { epoch := ep, commit := e.idnum, ts := e.ts, saved := c.g }) :
    (mgrCreate c ep e).mgr.Pairwise R := by
  refine (List.pairwise_append.mpr ⟨hs, List.pairwise_singleton _ _, ?_⟩).sublist (List.drop_sublist _ _)
  intro a ha b hb
  cases List.mem_singleton.mp hb
  exact hnew a ha

theorem rollbackTo_sorted {R : Snap → Snap → Prop} {c c₁ : Cl} {ep : Nat} (hs : c.mgr.Pairwise R)
    (hr : rollbackTo c ep = some c₁) :
    c₁.mgr.Pairwise R ∧ ∃ s ∈ c.mgr, s.epoch = ep ∧ c₁.g = s.saved ∧ ∀ t ∈ c₁.mgr, R t s := by
  obtain ⟨i, s, rest, _, hd, hep, rfl⟩ := rollbackTo_spec hr
  have hm : c.mgr = c.mgr.take i ++ s :: rest := by rw [← hd, List.take_append_drop]
  rw [hm] at hs
  obtain ⟨h1, _, h3⟩ := List.pairwise_append.mp hs
  exact ⟨h1, s, List.mem_of_mem_drop (hd ▸ List.mem_cons_self), hep, rfl, fun t ht => h3 t ht s List.mem_cons_self⟩

/-! ## how the local operations end -/

/-- a commit with body `b` staged as event `n`: it sweeps the queued leave proposals, is recorded as the own
    commit and published -/
def stageOk (c : Cl) (n ts idn : Nat) (b : Body) : Cl × Res :=
  let g := ensureSecret c.g
  let e : Ev := { n := n, ts := ts, idnum := idn, cipher := n, sender := c.id, path := g.path, kind := .commit b g.props, tag := g.recNid }
  (setRec { c with g := { g with pending := some e } } n { state := 2, epoch := some (epochOf g.path), hasGroup := true, mid := none }, .ev e)

/-- `create_message` went through: the message is filed as Created and becomes the last message if newer -/
def sendOk (c : Cl) (n ts idn mid mts tok : Nat) : Cl × Res :=
  let g := ensureSecret c.g
  let e : Ev := { n := n, ts := ts, idnum := idn, cipher := n, sender := c.id, path := g.path, kind := .app mid mts tok, tag := g.recNid }
  let row : MsgRow := { mid := mid, author := c.id, state := 0, epoch := epochOf g.path, wrapper := n, msgTs := mts, tok := tok }
  (setRec { c with g := updLast g mid mts, msgs := upsertRow row c.msgs } n
    { state := 0, epoch := some (epochOf g.path), hasGroup := true, mid := some mid }, .ev e)

/-- `leave_group` went through: the own Remove proposal is queued and published -/
def leaveOk (c : Cl) (n ts idn : Nat) : Cl × Res :=
  let g0 := ensureSecret c.g
  let g := { g0 with props := (c.id :: g0.props).eraseDups }
  let e : Ev := { n := n, ts := ts, idnum := idn, cipher := n, sender := c.id, path := g.path, kind := .leave, tag := g.recNid }
  (setRec { c with g := g } n { state := 2, epoch := some (epochOf g.path), hasGroup := true, mid := none }, .ev e)

/-- How a local operation of the client ends: refused — the client is returned as it was, with an error — or one of the
    things named here, with the conditions the operation checked first.  `update_group_data`, `remove_members` and
    `add_members` are argument checks in front of `stageCommit`: they end in `refused` or `staged`. -/
inductive Local (c : Cl) : Cl × Res → Prop
  | refused (k : Nat) : Local c (c, .err k)
  | sent (n ts idn mid mts tok : Nat) : c.hasGroup = true → c.g.active = true → c.g.props = [] →
      Local c (sendOk c n ts idn mid mts tok)
  | staged (n ts idn : Nat) (b : Body) : c.hasGroup = true → c.g.active = true → c.g.pending = none →
      Local c (stageOk c n ts idn b)
  | left (n ts idn : Nat) : c.hasGroup = true → c.g.active = true → c.g.pending = none → Local c (leaveOk c n ts idn)
  | merged (p : Ev) : c.hasGroup = true → c.g.active = true → c.g.pending = some p →
      Local c ({ c with g := syncRec (mergeCommit c.maxPast c.g p) }, .ok)
  | resynced : c.hasGroup = true → c.g.active = true → c.g.pending = none → Local c ({ c with g := syncRec c.g }, .ok)
  | cleared : c.hasGroup = true → Local c ({ c with g := { c.g with pending := none } }, .ok)
  | restarted : c.persistent = true → Local c ({ c with mgr := c.mgr.map (fun s => { s with ts := 0 }) }, .ok)
  | skipped : c.persistent = false → Local c (c, .skip)

theorem send_spec (c : Cl) (n ts idn mid mts tok : Nat) : Local c (send c n ts idn mid mts tok) := by
  unfold send
  refine ite_elim (fun _ => .refused _) (fun hg => ite_elim (fun _ => .refused _) (fun ha =>
    ite_elim (fun _ => .refused _) (fun hp => ?_)))
  exact .sent n ts idn mid mts tok (by simpa using hg) (by simpa using ha) (by simpa using hp)

theorem stageCommit_spec (c : Cl) (n ts idn : Nat) (b : Body) (na : Bool) : Local c (stageCommit c n ts idn b na) := by
  unfold stageCommit
  refine ite_elim (fun _ => .refused _) (fun hg => ite_elim (fun _ => .refused _) (fun ha =>
    ite_elim (fun _ => .refused _) (fun _ => ite_elim (fun _ => .refused _) (fun hp => ?_))))
  exact .staged n ts idn b (by simpa using hg) (by simpa using ha) (by simpa using hp)

theorem ev_of_ite_err {p : Prop} [Decidable p] {c : Cl} {k : Nat} {r : Cl × Res} {e : Ev}
    (h : (if p then (c, Res.err k) else r).2 = .ev e) : ¬p ∧ r.2 = .ev e := by
  by_cases hp : p
  · rw [if_pos hp] at h; cases h
  · rw [if_neg hp] at h; exact ⟨hp, h⟩

theorem stageCommit_ev (c : Cl) (n ts idn : Nat) (b : Body) (na : Bool) (o : Ev) (h : (stageCommit c n ts idn b na).2 = .ev o) :
    stageCommit c n ts idn b na = stageOk c n ts idn b ∧ c.g.active = true ∧ (na = true → isAdmin c.g c.id = true) ∧
    c.g.pending = none := by
  unfold stageCommit at h ⊢
  obtain ⟨h1, h⟩ := ev_of_ite_err h
  obtain ⟨h2, h⟩ := ev_of_ite_err h
  obtain ⟨h3, h⟩ := ev_of_ite_err h
  obtain ⟨h4, _⟩ := ev_of_ite_err h
  rw [if_neg h1, if_neg h2, if_neg h3, if_neg h4]
  exact ⟨rfl, by simpa using h2, by simpa using h3, by simpa using h4⟩

theorem updateData_spec (c : Cl) (n ts idn : Nat) (u : DataUpd) : Local c (updateData c n ts idn u) := by
  unfold updateData
  exact ite_elim (fun _ => .refused _) (fun _ => ite_elim (fun _ => .refused _) (fun _ => stageCommit_spec ..))

theorem removeMembers_spec (c : Cl) (n ts idn : Nat) (who : List Nat) : Local c (removeMembers c n ts idn who) := by
  unfold removeMembers
  exact ite_elim (fun _ => .refused _) (fun _ => ite_elim (fun _ => .refused _) (fun _ =>
    ite_elim (fun _ => .refused _) (fun _ => ite_elim (fun _ => .refused _) (fun _ => stageCommit_spec ..))))

theorem addMembers_spec (c : Cl) (n ts idn : Nat) (who : List Nat) : Local c (addMembers c n ts idn who) := by
  unfold addMembers
  exact ite_elim (fun _ => .refused _) (fun _ => ite_elim (fun _ => .refused _) (fun _ =>
    ite_elim (fun _ => .refused _) (fun _ => ite_elim (fun _ => .refused _) (fun _ =>
      ite_elim (fun _ => .refused _) (fun _ => stageCommit_spec ..)))))

theorem leave_spec (c : Cl) (n ts idn : Nat) : Local c (leave c n ts idn) := by
  unfold leave
  refine ite_elim (fun _ => .refused _) (fun hg => ite_elim (fun _ => .refused _) (fun ha =>
    ite_elim (fun _ => .refused _) (fun hp => ?_)))
  exact .left n ts idn (by simpa using hg) (by simpa using ha) (by simpa using hp)

theorem merge_spec (c : Cl) : Local c (merge c) := by
  unfold merge
  refine ite_elim (fun _ => .refused _) (fun hg => ite_elim (fun _ => .refused _) (fun ha => ?_))
  cases hp : c.g.pending with
  | none => exact .resynced (by simpa using hg) (by simpa using ha) hp
  | some p => exact .merged p (by simpa using hg) (by simpa using ha) hp

theorem clear_spec (c : Cl) : Local c (clear c) := by
  unfold clear
  exact ite_elim (fun _ => .refused _) (fun hg => .cleared (by simpa using hg))

theorem restart_spec (c : Cl) : Local c (restart c) := by
  unfold restart
  exact ite_elim (fun h => .restarted h) (fun h => .skipped (by simpa using h))

end MdkVerif.Client
