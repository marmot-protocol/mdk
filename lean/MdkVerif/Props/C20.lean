import MdkVerif.Model.Snapshots
import MdkVerif.Proofs.Store
import MdkVerif.Proofs.SnapBound
/-
  C20 — Rollback snapshots stay bounded in number and age.
  For every retention value, every backend and every sequence of commits (create), rollbacks, MIP-03
  comparisons, restarts (with any TTL) and group saves.
-/
namespace MdkVerif.Props.C20
open MdkVerif MdkVerif.Store MdkVerif.Snapshots

theorem queue_setQueue_ne (m : Mgr) (g g' : Nat) (q : List Meta) (h : g' ≠ g) :
    (m.setQueue g q).queue g' = m.queue g' := by
  simp [Mgr.queue, Mgr.setQueue, alookup_ainsert_ne _ _ _ _ h]

/-- **bound_inv**: for every retention value `r` (0 included), either backend, and every sequence of
    operations, every group's rollback queue holds at most `r` snapshots after every step
    (the queue bound is one clause of the invariant `SInv` that also bounds the STORED snapshots, below) -/
theorem bound_inv (b : Backend) (r : Nat) (ops : List Snapshots.Op) (g : Nat) :
    ((Snapshots.run (init b r) ops).queue g).length ≤ r :=
  (run_sinv r ops _ (init_sinv b r)).bnd g

/-! ### age: after a restart nothing older than the TTL is stored (persistent backend) -/

theorem ttl_enforced (m : Mgr) (now ttl : Nat) (hb : m.store.backend = .sql) :
    ∀ p ∈ (restart m now ttl).store.snaps, now - ttl ≤ p.createdAt := by
  intro p hp
  simp only [restart, hb, snapPrune] at hp
  have := (List.mem_filter.mp hp).2
  simpa using this

/-! ### a rollback discards the consumed snapshot and every later one from the queue -/

/-- after a successful rollback to epoch `e`, the group's queue is the part strictly before the
    rolled-back entry: it contains no entry for `e` any more -/
theorem rollback_discards (m : Mgr) (g e : Nat) (h : (rollback m g e).2 = true) :
    Snapshots.findIdx ((rollback m g e).1.queue g) e = none := by
  unfold rollback at h ⊢
  simp only at h ⊢
  split
  · rename_i hn; simp [hn] at h
  · rename_i i hi
    split
    · rename_i hd; simp [hi, hd] at h
    · rename_i x later hd
      split
      · rename_i hr; simp [hi, hd, hr] at h
      · have : ∀ (mm : Mgr) (st : Store), ({ mm with store := st } : Mgr).queue g = mm.queue g := fun _ _ => rfl
        rw [this, queue_setQueue_self']
        exact findIdx_take _ _ _ hi

/-! ### the MIP-03 comparison never prefers a candidate to itself, and ignores hydrated entries -/

theorem never_better_than_itself (m : Mgr) (g e : Nat) (x : Meta)
    (hx : ((hydrate m g).queue g).find? (·.epoch == e) = some x) :
    (isBetter m g e x.ts x.commit).2 = false := by
  unfold isBetter
  simp only [hx]
  split
  · rfl
  · split
    · omega
    · simp

/-- non-vacuity / regression: retention 2, three commits, the oldest is released -/
example : ((Snapshots.run (init .sql 2) [.saveGroup 1 11, .create 1 1 7 100 1000, .create 1 2 8 101 1001, .create 1 3 9 102 1002]).store.snaps.map (·.name))
    = [mkName 2 8, mkName 3 9] := by decide
example : ((Snapshots.run (init .mem 0) [.saveGroup 1 11, .create 1 1 7 100 1000]).store.snaps.length) = 0 := by decide

/-! ### the bound on STORED snapshots

  `bound_inv` bounds the manager's queue; what costs disk / memory is the snapshot table.  The
  invariant `SInv r` (Proofs/SnapBound.lean) ties the two: the names stored for a group are
  duplicate-free (snapshot keys `(group, name)` are unique) and — on memory always, on SQLite once the
  group is hydrated — contained in the names of that group's queue; for a SQLite group not yet
  hydrated after a restart the queue is empty and the stored set is at most what it was (it only
  shrinks: start-up prune).  Hypotheses, both true of `Snapshots.Op`: snapshots enter the store only
  through the manager, and the retention value is the same across restarts.  No assumption on epochs
  or names: the queue may hold the same name twice (a re-taken snapshot) — the bound still holds. -/

/-- the invariant holds after every operation sequence, either backend, every retention value -/
theorem stored_inv (b : Backend) (r : Nat) (ops : List Snapshots.Op) : SInv r (Snapshots.run (init b r) ops) :=
  run_sinv r ops _ (init_sinv b r)

/-- snapshot keys are unique: per group, no name is stored twice -/
theorem stored_keys_unique (b : Backend) (r : Nat) (ops : List Snapshots.Op) (g : Nat) :
    (namesOf (Snapshots.run (init b r) ops).store.snaps g).Nodup :=
  (stored_inv b r ops).nodup g

/-- every stored snapshot of a group the manager has loaded is in that group's queue -/
theorem stored_subset_queue (b : Backend) (r : Nat) (ops : List Snapshots.Op) (g : Nat)
    (hc : covered (Snapshots.run (init b r) ops) g) :
    ∀ n ∈ namesOf (Snapshots.run (init b r) ops).store.snaps g,
      n ∈ ((Snapshots.run (init b r) ops).queue g).map (·.name) :=
  (stored_inv b r ops).sub g hc

/-- **stored_bound**: for every retention value `r` (0 included), either backend, every sequence of
    commits, comparisons, rollbacks, group saves and restarts (any TTL), and every group: at most
    `r` snapshots of that group are stored -/
theorem stored_bound (b : Backend) (r : Nat) (ops : List Snapshots.Op) (g : Nat) :
    ((Snapshots.run (init b r) ops).store.snaps.filter (·.gid == g)).length ≤ r := by
  have := (stored_inv b r ops).stored_le g
  simpa [namesOf] using this

/-- non-vacuity / regression: retention 2 on SQLite — three commits, a restart that prunes nothing,
    hydration on the next use, a fourth commit: two snapshots stored, the two newest -/
example : ((Snapshots.run (init .sql 2) [.saveGroup 1 11, .create 1 1 7 100 1000, .create 1 2 8 101 1001, .create 1 3 9 102 1002,
      .restart 2000 5000, .create 1 4 6 103 1003]).store.snaps.map (·.name)) = [mkName 3 9, mkName 4 6] := by decide

/-- the same snapshot name taken twice (queue holds the name twice, the store once): still within the bound -/
example : ((Snapshots.run (init .mem 3) [.saveGroup 1 11, .create 1 1 7 100 1000, .create 1 1 7 100 1001]).queue 1).length = 2 ∧
    ((Snapshots.run (init .mem 3) [.saveGroup 1 11, .create 1 1 7 100 1000, .create 1 1 7 100 1001]).store.snaps.length) = 1 := by decide

end MdkVerif.Props.C20
