import MdkVerif.Model.Client
import MdkVerif.Model.Proposal
import MdkVerif.Proofs.Client
import MdkVerif.Proofs.Proposal
import MdkVerif.Props.C06Wrap
import MdkVerif.Props.C06Ffi
import MdkVerif.Props.C08
import MdkVerif.Proofs.Insert
import MdkVerif.Props.C10Limits
/-
  C06 — a refused event has no effect: the frame of one call over `Model.Client` and `Model.Proposal`, histories with a
  refused call inserted, and the restatements for the outer layer, the binding layer and the stores (absence of panics is a
  runtime fact that the harness searches for, totality of the model is NOT presented as a no-panic proof).
-/
namespace MdkVerif.Props.C06
open MdkVerif MdkVerif.Client

def isRefusal : Res → Bool
  | .unprocessable | .previouslyFailed | .err _ | .ignored => true
  | _ => false

/-- the full statement: whenever `process_message` reports failure, the projection is unchanged -/
def refuse_frame_full : Prop :=
  ∀ (c : Cl) (e : Ev) (nx : Nat), Synced c.g → isRefusal (deliver c e nx).2 = true → proj (deliver c e nx).1 = proj c

/-- shape used below: "if this outcome is a refusal, the projection is the old one" -/
def Frame (c : Cl) (r : Cl × Res) : Prop := isRefusal r.2 = true → proj r.1 = proj c

theorem ownMessage_refused (c : Cl) (e : Ev) (h : isRefusal (ownMessage c e).2 = true) : (ownMessage c e).1 = c := by
  have hs := ownMessage_spec c e
  generalize ownMessage c e = r at hs h
  cases hs with
  | same => rfl
  | confirmed | echo => exact nomatch h

theorem proj_consume (c : Cl) (x : Nat) : proj (consume c x) = proj c := rfl

theorem frame_processCommit (c : Cl) (e : Ev) (b : Body) (sw : List Nat) : Frame c (processCommit c e b sw) :=
  processCommit_cases c e b sw (fun _ => rfl) (fun _ _ _ _ h => nomatch h)

theorem frame_step1 {R : Cl → Cl × Res → Prop} {nx : Nat} {e : Ev} {c : Cl} {r : Cl × Res} (hst : Step1 R nx e c r)
    (hnb : isBetter c (epochOf e.path) e = false) : Frame c r := by
  intro hr
  -- what a refusal leaves behind — the stored secret, the failure record, a consumed generation — `proj` does not show
  cases hst with
  | unrouted | evicted => rfl
  | «sealed» => exact proj_withSecret c
  | refused => exact (failUnprocessable_proj ..).trans (proj_withSecret c)
  | own => rw [ownMessage_refused _ _ hr]; exact proj_withSecret c
  | echoed | mergedOwn | autoCommitted | queued | stored => exact nomatch hr
  | retried _ _ _ hb => rw [hnb] at hb; cases hb
  | committed => exact (frame_processCommit _ e _ _ hr).trans ((proj_consume ..).trans (proj_withSecret c))

/-- one pass, provided no rollback is triggered (`isBetter … = false`): refused ⇒ unchanged -/
theorem step1_refuse_frame (retry : Cl → Option (Cl × Res)) (nx : Nat) (c : Cl) (e : Ev) (hs : Synced c.g)
    (hnb : isBetter c (epochOf e.path) e = false) : Frame c (step1 retry nx c e) :=
  frame_step1 (step1_spec retry (R := fun _ _ => True) (fun _ _ _ => trivial) nx c e) hnb

/-- **refuse_frame_partial**: for every client state, event and fuel, if no rollback is triggered, a
    refused event leaves the projection exactly as it was -/
theorem refuse_frame_partial (fuel nx : Nat) (c : Cl) (e : Ev) (hs : Synced c.g)
    (hnb : isBetter c (epochOf e.path) e = false)
    (h : isRefusal (deliverN fuel nx c e).2 = true) : proj (deliverN fuel nx c e).1 = proj c :=
  deliverN_induct (P := fun c r => isBetter c (epochOf e.path) e = false → Frame c r) nx e (fun _ _ _ _ _ _ => rfl)
    (fun _ _ _ hst hnb => frame_step1 hst hnb) fuel c hnb h

/-- an evicted member (whose record is deliberately NOT in step with its merged MLS state, so `refuse_frame_partial`
    does not speak about it): every delivery is refused and leaves the projection as it was, for every event and fuel -/
theorem refuse_frame_evicted (fuel nx : Nat) (c : Cl) (e : Ev) (ha : c.g.active = false) :
    isRefusal (deliverN fuel nx c e).2 = true ∧ proj (deliverN fuel nx c e).1 = proj c := by
  obtain ⟨_, hres, hp⟩ := C08.evicted_deliver fuel nx c e ha
  refine ⟨?_, hp⟩
  rcases hres with h | h | h | h <;> rw [h] <;> rfl

/-! ### the hypothesis is necessary: a commit that is 'better' by timestamp but NOT authorised makes
    the receiver roll back first and reject afterwards (signature `rollback-before-authorisation`) -/

def wClient : Cl := initCl 2 false 5 [0, 1, 2] [0] 1
def wGood : Ev := { n := 1, ts := 20, idnum := 7, cipher := 1, sender := 0, path := [], kind := .commit (.setData { initData [0] 1 with name := 5 }) [] }
/-- built by the non-admin member 1 with OpenMLS directly, wrapper timestamp earlier than `wGood` -/
def wEvil : Ev := { n := 2, ts := 10, idnum := 9, cipher := 2, sender := 1, path := [], kind := .commit (.setData { initData [0] 1 with name := 6 }) [] }
def wAfterGood : Cl := (deliver wClient wGood 0).1

theorem witness_rollback_then_reject :
    (deliver wAfterGood wEvil 0).2 = .err eNonAdmin ∧ wAfterGood.g.path = [1] ∧ (deliver wAfterGood wEvil 0).1.g.path = [] := by
  decide

theorem refuse_frame_full_false : ¬ refuse_frame_full := by
  intro h
  have := h wAfterGood wEvil 0 (by decide) (by decide)
  revert this; decide

/-- … and the legitimate commit is refused for ever afterwards -/
theorem witness_good_commit_lost :
    (deliver (deliver wAfterGood wEvil 0).1 wGood 0).2 = .unprocessable := by decide

/-! ### a second way to a refused event with an effect: the same commit ciphertext under two wrappers
    (signature `rewrapped-commit-rollback`): the copy with the earlier wrapper timestamp is 'better', the
    receiver rolls back, and the ciphertext cannot be decrypted a second time -/
def wCopyLate : Ev := { wGood with n := 5, ts := 30, idnum := 3 }   -- re-wrapped copy, applied first
theorem witness_rewrapped_commit :
    (deliver wClient wCopyLate 0).2 = .commit ∧
    (deliver (deliver wClient wCopyLate 0).1 wGood 0).2 = .unprocessable ∧
    (deliver (deliver wClient wCopyLate 0).1 wGood 0).1.g.path = [] ∧
    (deliver (deliver (deliver wClient wCopyLate 0).1 wGood 0).1 wCopyLate 0).2 = .unprocessable := by decide

/-! ### a third way (signature `retagged-commit-rollback`): the `h` tag of a wrapper is not authenticated either.
    After the receiver applied a commit that ROTATED the nostr group id, a sibling of that commit re-published
    under the NEW id is found, opens (past-epoch secret), is judged 'better' by its wrapper timestamp, and the
    receiver rolls back — which restores the OLD id; the re-processing then looks the same event up again, under
    the restored id, and fails with GroupNotFound.  The refusal leaves the client one epoch back, the rotation
    commit EpochInvalidated for ever. -/
def wRot : Ev := { n := 1, ts := 20, idnum := 7, cipher := 1, sender := 0, path := [], kind := .commit (.setData { initData [0] 1 with nid := 8 }) [] }
def wSib : Ev := { n := 2, ts := 10, idnum := 9, cipher := 2, sender := 1, path := [], kind := .commit .selfUpdate [] }
def wSibRetag : Ev := { wSib with n := 3, idnum := 4, tag := 8 }
theorem witness_retagged_commit_rollback :
    (deliver wClient wRot 0).2 = .commit ∧ (deliver wClient wRot 0).1.g.recNid = 8 ∧
    (deliver (deliver wClient wRot 0).1 wSibRetag 0).2 = .err eGroupNotFound ∧
    (deliver (deliver wClient wRot 0).1 wSibRetag 0).1.g.path = [] ∧
    (deliver (deliver wClient wRot 0).1 wSibRetag 0).1.g.recNid = 0 ∧
    (deliver (deliver (deliver wClient wRot 0).1 wSibRetag 0).1 wRot 0).2 = .unprocessable ∧
    -- the original sibling (old id) is still applicable afterwards — unless it was offered in between
    (deliver (deliver (deliver wClient wRot 0).1 wSibRetag 0).1 wSib 0).2 = .commit ∧
    (deliver (deliver (deliver (deliver wClient wRot 0).1 wSib 0).1 wSibRetag 0).1 wSib 0).2 = .unprocessable := by decide

theorem refuse_frame_full_false_retag : ¬ refuse_frame_full := by
  intro h
  have := h (deliver wClient wRot 0).1 wSibRetag 0 (by decide) (by decide)
  revert this; decide

/-- non-vacuity of `refuse_frame_partial`: a refused duplicate in a state with a snapshot -/
example : isBetter wAfterGood (epochOf wGood.path) wGood = false ∧ isRefusal (deliver wAfterGood { wGood with n := 9, ts := 30 } 0).2 = true := by
  decide

/-! ### the frame over `Model.Proposal`: every proposal type, commits that reference queued proposals.
    The projection additionally contains the foreign part of the proposal store (`xq`; the leaves are `Proj.props`).
    Found with the proposal flow and REPAIRED in /repo (0339cde): `auto_commit_proposal` stored the proposal BEFORE it tried to
    build the commit, so when the commit could not be built (a commit is pending; a queued Remove names the receiver) the call
    was refused — `Unprocessable`, Failed record, never retried — with the proposal left in the store (finding
    autocommit-failed-proposal-stored).  Now the proposal is kept as a pending one and the call says so; the model follows the
    regenerated fact `Generated.autoCommitChecksBeforeStore`. -/
section ProposalFrame
open MdkVerif.Proposal

def projP (c : Cl) : Proj × List QP := (proj c, c.g.xq)

def refuse_frame_P_full : Prop :=
  ∀ (c : Cl) (x : PEv) (nx : Nat), Synced c.g → isRefusal (deliverP c x nx).2 = true → projP (deliverP c x nx).1 = projP c

def FrameP (c : Cl) (r : Cl × Res) : Prop := isRefusal r.2 = true → projP r.1 = projP c

theorem projP_withSecret (c : Cl) : projP (withSecret c) = projP c := by simp [projP]
theorem projP_consume (c : Cl) (x : Nat) : projP (consume c x) = projP c := rfl
theorem projP_failUnprocessable (c : Cl) (e : Ev) : projP (failUnprocessable c e).1 = projP c := rfl

theorem frameP_processProposal (nx : Nat) (c : Cl) (e : Ev) (p : PK) : FrameP c (processProposal nx c e p) := by
  have hs := processProposal_spec nx c e p
  generalize processProposal nx c e p = r at hs
  intro hr
  cases hs with
  | ignored => rfl
  | stored | autoCommitted => exact nomatch hr
  | failed h => exact absurd h (by decide)

theorem frameP_processCommitP (c : Cl) (e : Ev) (b : Body) (sw : List Nat) : FrameP c (processCommitP c e b sw) := by
  unfold processCommitP
  exact ite_elim (P := FrameP c) (fun _ _ => rfl) (fun _ => ite_elim (P := FrameP c) (fun _ h => nomatch h) (fun _ h => nomatch h))

theorem frameP_step1P {R : Cl → Cl × Res → Prop} {nx : Nat} {x : PEv} {c : Cl} {r : Cl × Res} (hst : Step1P R nx x c r)
    (hnb : propKind x = none → isBetter c (epochOf x.e.path) x.e = false) : FrameP c r := by
  intro hr
  have hw := projP_withSecret c
  have hc : projP (consume (withSecret c) x.e.cipher) = projP c := (projP_consume ..).trans hw
  cases hst with
  | unrouted | evicted => rfl
  | «sealed» => exact hw
  | refused => exact (projP_failUnprocessable ..).trans hw
  | own => rw [ownMessage_refused _ _ hr]; exact hw
  | proposed => exact (frameP_processProposal nx _ x.e _ hr).trans hc
  | echoed | mergedOwn | stored => exact nomatch hr
  | retried _ hn _ _ hb => rw [hnb hn] at hb; cases hb
  -- a referenced proposal is not held: the generation is consumed, nothing else
  | unheld => exact (projP_failUnprocessable ..).trans hc
  | committed => exact (frameP_processCommitP _ x.e _ _ hr).trans hc

/-- one pass over `Model.Proposal`: a refused event leaves the projection alone — for a COMMIT provided no rollback is
    triggered (`hnb`; the open finding rollback-before-authorisation), for application messages and proposals of every type
    without any proviso -/
theorem step1P_refuse_frame (retry : Cl → Option (Cl × Res)) (nx : Nat) (c : Cl) (x : PEv) (hs : Synced c.g)
    (hnb : propKind x = none → isBetter c (epochOf x.e.path) x.e = false) : FrameP c (step1P retry nx c x) :=
  frameP_step1P (step1P_spec retry (R := fun _ _ => True) (fun _ _ _ => trivial) nx c x) hnb

theorem deliverNP_refuse_frame (fuel nx : Nat) (c : Cl) (x : PEv)
    (hnb : propKind x = none → isBetter c (epochOf x.e.path) x.e = false)
    (h : isRefusal (deliverNP fuel nx c x).2 = true) : projP (deliverNP fuel nx c x).1 = projP c :=
  deliverNP_induct (P := fun c r => (propKind x = none → isBetter c (epochOf x.e.path) x.e = false) → FrameP c r) nx x
    (fun _ _ _ _ _ _ => rfl) (fun _ _ _ hst hnb => frameP_step1P hst hnb) fuel c hnb h

/-- **refuse_frame_P_partial**: for every client state, every event — application message, commit with or without referenced
    proposals, proposal of ANY type — and every fuel: if no rollback is triggered, a refused event (`Err`, `Unprocessable`,
    `PreviouslyFailed`, `IgnoredProposal`) leaves the projection — MLS state, roster, data, BOTH parts of the proposal store,
    pending commit, record, messages — exactly as it was, a leave whose auto-commit cannot be built included. -/
theorem refuse_frame_P_partial (fuel nx : Nat) (c : Cl) (x : PEv) (hs : Synced c.g)
    (hnb : isBetter c (epochOf x.e.path) x.e = false)
    (h : isRefusal (deliverNP fuel nx c x).2 = true) : projP (deliverNP fuel nx c x).1 = projP c :=
  deliverNP_refuse_frame fuel nx c x (fun _ => hnb) h

/-- **refuse_frame_proposals** — IN FULL for proposals: for every client state (record in step), every proposal of every type
    (a member's leave, Remove of somebody else, Add, Update, GroupContextExtensions, PSK, …), from anybody, any epoch, any
    fuel, offered any number of times: whenever `process_message` reports failure or `IgnoredProposal`, the projection —
    the number and content of the proposal store included — is exactly what it was.  No hypothesis about rollbacks (a
    proposal never triggers one), none about pending commits (repair 0339cde) -/
theorem refuse_frame_proposals (fuel nx : Nat) (c : Cl) (x : PEv) (p : PK) (hs : Synced c.g) (hk : propKind x = some p)
    (h : isRefusal (deliverNP fuel nx c x).2 = true) : projP (deliverNP fuel nx c x).1 = projP c :=
  deliverNP_refuse_frame fuel nx c x (fun hn => by rw [hk] at hn; cases hn) h

/-- regression statement of repair 0339cde (replayed on the implementation by
    corpus/C06/autocommit_fails_after_store.trace): admin 0 has staged a commit of its own (pending until its echo) when member
    1's leave arrives — the leave is KEPT as a pending proposal and the call says so (`PendingProposal`, record Processed), the
    pending commit is untouched; a re-delivery is refused without effect; the admin's next commit finds the leave in the store -/
def wAdminPending : Cl := (stageCommitP (initCl 0 false 5 [0, 1, 2] [0] 1) 0 10 11 .selfUpdate false).1
def wLeave1 : PEv := { e := { n := 1, ts := 20, idnum := 21, cipher := 1, sender := 1, path := [], kind := .leave } }

theorem regression_autocommit_kept_pending :
    wAdminPending.g.props = [] ∧
    (deliverP wAdminPending wLeave1 2).2 = .pending ∧ (deliverP wAdminPending wLeave1 2).1.g.props = [1] ∧
    (deliverP wAdminPending wLeave1 2).1.g.pending = wAdminPending.g.pending ∧
    getRec (deliverP wAdminPending wLeave1 2).1 1 = some { state := 1, epoch := some 1, hasGroup := true, mid := none } ∧
    (deliverP (deliverP wAdminPending wLeave1 2).1 wLeave1 2).2 = .unprocessable ∧
    projP (deliverP (deliverP wAdminPending wLeave1 2).1 wLeave1 2).1 = projP (deliverP wAdminPending wLeave1 2).1 ∧
    (Client.clear (deliverP wAdminPending wLeave1 2).1).1.g.props = [1] := by decide

/-- … the same when the receiver's OWN leave is queued (a commit cannot remove its author) -/
theorem regression_autocommit_kept_pending_own_leave :
    let c := (Client.leave (initCl 0 false 5 [0, 1, 2] [0] 1) 0 10 11).1
    c.g.props = [0] ∧ (deliverP c wLeave1 2).2 = .pending ∧ (deliverP c wLeave1 2).1.g.props = [1, 0] ∧
    (deliverP c wLeave1 2).1.g.pending = none := by decide

/-- the full statement (every event, no proviso) stays false for COMMITS: the rollback of `rollback-before-authorisation`
    happens in `Model.Proposal` exactly as in `Model.Client` (`wAfterGood`, `wEvil` above) -/
theorem refuse_frame_P_full_false : ¬ refuse_frame_P_full := by
  intro h
  have := h wAfterGood { e := wEvil } 0 (by decide) (by decide)
  revert this; decide

/-- **eviction_decided_by_commit** (repair e46593e; regenerated fact `evictionFromStagedCommit`): an authorised commit makes
    an active receiver inactive exactly when the commit ITSELF removes the receiver — by its own Remove, a referenced leave, or a
    referenced foreign Remove — whatever else it does, in particular when it also ADDS somebody (who then takes the freed leaf:
    the case `own_leaf().is_none()` after the merge used to miss) -/
theorem eviction_decided_by_commit (c : Cl) (e : Ev) (b : Body) (sw : List Nat) (hact : c.g.active = true)
    (hauth : (isAdmin c.g e.sender || isPureSelfUpdateP b sw e.sweptX) = true) :
    (processCommitP c e b sw).2 = .commit ∧ (processCommitP c e b sw).1.g.active = !(removesMeP c.id b sw e.sweptX) := by
  unfold processCommitP
  simp only [hauth, Bool.not_true, Bool.false_eq_true, if_false]
  cases hr : removesMeP c.id b sw e.sweptX with
  | true => simp [setRec]
  | false => simp [setRec, syncRec, mgrCreate, hact]

theorem eviction_from_staged_commit : Generated.evictionFromStagedCommit = true := by decide

/-- regression statement of repair e46593e (finding evicted-leaf-reused-undetected; replayed on
    the implementation AND the model by corpus/C06/evicted_leaf_reused.trace): the non-admin 1 crafted an Add of 4, member 2
    asked to leave, admin 0's automatic commit carries both; the leaver processes it: `Commit`, its group is inactive -/
def evOf : Res → Ev
  | .proposalCommitted ne => ne
  | _ => default
def wMk (i : Nat) : Cl := initCl i false 5 [0, 1, 2, 3] [0] 1
def wXAdd4 : PEv := craftProp (wMk 1) 0 10 11 (.add 4)
def wLeaver2 : Cl := (Client.leave (deliverP (wMk 2) wXAdd4 0).1 1 20 21).1
def wAdminAuto : Cl × Res :=
  deliverP (deliverP (wMk 0) wXAdd4 0).1 { e := { n := 1, ts := 20, idnum := 21, cipher := 1, sender := 2, path := [], kind := .leave } } 2

theorem regression_evicted_when_leaf_reused :
    wAdminAuto.2 = .proposalCommitted (evOf wAdminAuto.2) ∧
    (deliverP wLeaver2 { e := evOf wAdminAuto.2 } 0).2 = .commit ∧ (deliverP wLeaver2 { e := evOf wAdminAuto.2 } 0).1.g.active = false ∧
    (deliverP wLeaver2 { e := evOf wAdminAuto.2 } 0).1.g.members = [0, 1, 3, 4] ∧ (mergeP wAdminAuto.1).1.g.members = [0, 1, 3, 4] := by decide

/-- non-vacuity of `refuse_frame_P_partial` / `refuse_frame_proposals`: refused events of `Model.Proposal`'s own kinds — a
    GroupContextExtensions proposal (ignored), a commit whose referenced leave the receiver does not hold -/
example : let c := initCl 2 false 5 [0, 1, 2] [0] 1
    let x : PEv := craftProp (initCl 1 false 5 [0, 1, 2] [0] 1) 1 10 11 .gce
    let y : PEv := { e := { n := 2, ts := 10, idnum := 11, cipher := 2, sender := 0, path := [], kind := .commit .selfUpdate [1] } }
    propKind x = some .gce ∧ (deliverP c x 0).2 = .ignored ∧ (deliverP c y 0).2 = .unprocessable := by decide

/-- non-vacuity of `C05.proposal_model_agrees_with_client`: the chain / fork witnesses of C01 and C06 are such events at such
    clients -/
example : PendClean C06.wAfterGood ∧ OldKind C06.wAfterGood.id C06.wEvil ∧ OldKind 2 C06.wGood := by
  refine ⟨⟨by decide, by decide⟩, ⟨rfl, ?_⟩, ⟨rfl, ?_⟩⟩
  · show [] = [] ∧ removesMe C06.wAfterGood.id _ [] = false; exact ⟨rfl, rfl⟩
  · show [] = [] ∧ removesMe 2 _ [] = false; exact ⟨rfl, rfl⟩

end ProposalFrame

/-! ## histories: a refused call inserted anywhere never shows later (Proofs/Insert.lean)

  `refuse_frame_partial` is ONE call seen through `proj`.  The refused call may still touch what `proj` does not show: the
  exporter-secret cache, the dedup record of the event (a Failed record), and — when the authorisation check refuses a commit
  (`NonAdmin`) — the sender's ratchet generation, which OpenMLS consumed while decrypting.  `Ins.Eqv [] W X` is "equal up to
  that" (`W`: the event numbers, `X`: the ciphertexts concerned); every client operation is a simulation for it. -/
section Histories
open MdkVerif.Client.Ins
open MdkVerif.Props.C08 (COp)

theorem isRefusal_eq_refusal : isRefusal = refusal := by funext r; cases r <;> rfl

/-- **refused_calls_invisible_partial** — ANY client with the invariants (`Ins.IInv`, reachable: `C07.invariants_reachable`), after
    ANY prefix, ANY list of deliveries `ins` each of which is refused (`Err`, `Unprocessable`, `PreviouslyFailed`, `Ignored`)
    without winning a MIP-03 comparison (`refusedSeq`: the hypothesis of `refuse_frame_partial`, call by call), then ANY
    suffix that does not deliver one of those event numbers or ciphertexts again (`avoids`): the inserted calls leave the
    projection alone, every call of the suffix answers the same, and the runs end with the same projection. -/
theorem refused_calls_invisible_partial (c : Cl) (hi : IInv c) (pre suf : List COp) (ins : List (Ev × Nat))
    (hr : refusedSeq (hist c pre).1 ins = true)
    (ha : suf.all (avoids (ins.map (·.1.n)) (ins.map (·.1.cipher))) = true) :
    proj (hist c (pre ++ asOps ins)).1 = proj (hist c pre).1 ∧
    proj (hist c (pre ++ asOps ins ++ suf)).1 = proj (hist c (pre ++ suf)).1 ∧
    (hist (hist c (pre ++ asOps ins)).1 suf).2 = (hist (hist c pre).1 suf).2 := by
  have := insert_refused (hist c pre).1 (iinv_hist c pre hi) ins suf hr ha
  simp only [hist_append, List.append_assoc]
  exact this

/-- **refused_call_invisible_partial** — one refused call, in the vocabulary of `refuse_frame_partial`: no rollback is
    triggered (`isBetter … = false`), the call reports failure; the suffix does not deliver that event number or that
    ciphertext again (a later delivery of the SAME number legitimately finds the Failed record; the same ciphertext under
    another wrapper finds its generation consumed if the refusal was `NonAdmin`: see the witnesses below).  Then every later
    call answers as if the refused call had never been made, and the projections agree at the end. -/
theorem refused_call_invisible_partial (c : Cl) (hi : IInv c) (pre suf : List COp) (e : Ev) (nx : Nat)
    (hnb : isBetter (hist c pre).1 (epochOf e.path) e = false)
    (hr : isRefusal (deliver (hist c pre).1 e nx).2 = true)
    (ha : suf.all (avoids [e.n] [e.cipher]) = true) :
    proj (hist c (pre ++ [.deliver e nx])).1 = proj (hist c pre).1 ∧
    proj (hist c (pre ++ [.deliver e nx] ++ suf)).1 = proj (hist c (pre ++ suf)).1 ∧
    (hist (hist c (pre ++ [.deliver e nx])).1 suf).2 = (hist (hist c pre).1 suf).2 := by
  rw [isRefusal_eq_refusal] at hr
  exact refused_calls_invisible_partial c hi pre suf [(e, nx)] (by simp [refusedSeq, hnb, hr]) ha

/-- the unrestricted statement: a refused call never changes a later answer or the final projection -/
def refused_call_invisible_full : Prop :=
  ∀ (c : Cl) (pre suf : List COp) (e : Ev) (nx : Nat), IInv c → isRefusal (deliver (hist c pre).1 e nx).2 = true →
    proj (hist c (pre ++ [.deliver e nx] ++ suf)).1 = proj (hist c (pre ++ suf)).1 ∧
    (hist (hist c (pre ++ [.deliver e nx])).1 suf).2 = (hist (hist c pre).1 suf).2

/-- refuted (1) without `isBetter = false`: the witness of `refuse_frame_full_false` (rollback-before-authorisation) -/
theorem refused_call_invisible_full_false : ¬ refused_call_invisible_full := by
  intro h
  have := (h wClient [.deliver wGood 0] [] wEvil 0 (iinv_init ..) (by decide)).1
  revert this; decide

/-- refuted (2) with `isBetter = false` but a suffix that delivers the SAME event number again: a commit one epoch ahead is
    refused (`Err(Message)`: no secret of its epoch yet) and recorded Failed; when it arrives again after its predecessor it is
    blocked, the run without the early offer applies it (finding handshake-before-predecessor-blocked) -/
def wAhead1 : Ev := { n := 1, ts := 20, idnum := 7, cipher := 1, sender := 0, path := [], kind := .commit .selfUpdate [] }
def wAhead2 : Ev := { n := 8, ts := 30, idnum := 8, cipher := 8, sender := 0, path := [1], kind := .commit .selfUpdate [] }
theorem witness_same_number_later :
    isBetter wClient (epochOf wAhead2.path) wAhead2 = false ∧ (deliver wClient wAhead2 0).2 = .err eMessage ∧
    (hist wClient [.deliver wAhead2 0, .deliver wAhead1 0, .deliver wAhead2 0]).2 = [.err eMessage, .commit, .unprocessable] ∧
    (hist wClient [.deliver wAhead1 0, .deliver wAhead2 0]).2 = [.commit, .commit] ∧
    (hist wClient [.deliver wAhead2 0, .deliver wAhead1 0, .deliver wAhead2 0]).1.g.path = [1] ∧
    (hist wClient [.deliver wAhead1 0, .deliver wAhead2 0]).1.g.path = [1, 8] := by decide

/-- (3) with `isBetter = false` but the same CIPHERTEXT under another wrapper in the suffix: a non-admin's commit is refused
    `NonAdmin` AFTER OpenMLS decrypted it, so its re-wrapped copy is answered `Unprocessable` (generation consumed) instead of
    `NonAdmin` — both refusals, the projection is the same, only the answer differs -/
def wEvilNow : Ev := { n := 2, ts := 10, idnum := 9, cipher := 2, sender := 1, path := [], kind := .commit (.setData { initData [0] 1 with name := 6 }) [] }
def wEvilCopy : Ev := { wEvilNow with n := 9, idnum := 4 }
theorem witness_same_ciphertext_later :
    (hist wClient [.deliver wEvilNow 0, .deliver wEvilCopy 0]).2 = [.err eNonAdmin, .unprocessable] ∧
    (hist wClient [.deliver wEvilCopy 0]).2 = [.err eNonAdmin] ∧
    proj (hist wClient [.deliver wEvilNow 0, .deliver wEvilCopy 0]).1 = proj (hist wClient [.deliver wEvilCopy 0]).1 := by decide

/-! non-vacuity: refused insertions of three kinds — an OUTSIDER's event (created on a state the client never held: the wrapper
    does not open), a wrong group tag (`GroupNotFound`), a stale epoch (a commit for an epoch the client has left and that does
    not beat the applied one) — and a non-admin's commit, in a history with a race, a rollback and messages -/
def hOutsider : Ev := { n := 20, ts := 50, idnum := 20, cipher := 20, sender := 7, path := [99], kind := .app 200 50 1 }
def hWrongTag : Ev := { n := 21, ts := 51, idnum := 21, cipher := 21, sender := 0, path := [], kind := .commit .selfUpdate [], tag := 5 }
def hStale : Ev := { n := 22, ts := 52, idnum := 22, cipher := 22, sender := 0, path := [], kind := .commit .selfUpdate [] }
def hNonAdmin : Ev := { n := 23, ts := 53, idnum := 23, cipher := 23, sender := 1, path := [2], kind := .commit (.setData { initData [0] 1 with name := 6 }) [] }
def hMsg : Ev := { n := 3, ts := 30, idnum := 3, cipher := 3, sender := 1, path := [2], kind := .app 30 30 7 }
def hPre : List COp := [.deliver wGood 0, .deliver { wEvil with kind := .commit .selfUpdate [] } 0]   -- A applied, the better B wins
def hSuf : List COp := [.deliver hMsg 0, .send 4 31 4 40 31 8, .deliver wGood 0, .stage 6 33 6 .selfUpdate false, .merge, .deliver hMsg 0]
def hIns : List (Ev × Nat) := [(hOutsider, 0), (hWrongTag, 0), (hStale, 0), (hNonAdmin, 0), (hStale, 0)]

example : (hist wClient hPre).1.g.path = [2] ∧ refusedSeq (hist wClient hPre).1 hIns = true ∧
    (hist (hist wClient hPre).1 (asOps hIns)).2 = [.err eMessage, .err eGroupNotFound, .unprocessable, .err eNonAdmin, .unprocessable] ∧
    hSuf.all (avoids (hIns.map (·.1.n)) (hIns.map (·.1.cipher))) = true := by decide
example : (hist (hist wClient (hPre ++ asOps hIns)).1 hSuf).2 = (hist (hist wClient hPre).1 hSuf).2 :=
  (refused_calls_invisible_partial wClient (iinv_init ..) hPre hSuf hIns (by decide) (by decide)).2.2
example : (hist (hist wClient hPre).1 hSuf).1.g.path = [2, 6] ∧ (hist (hist wClient hPre).1 hSuf).1.msgs.length = 2 ∧
    (hist (hist wClient (hPre ++ asOps hIns)).1 hSuf).1.g.consumed ≠ (hist (hist wClient hPre).1 hSuf).1.g.consumed := by decide

end Histories

/-! ### the outermost layer of `process_message` (raw kind-445 event → MLS layer), several groups per client:
    proved in Props/C06Wrap.lean over Model.Wrap, re-exported here so that they are obligations of this property -/
theorem wrap_accept_iff : type_of% @C06Wrap.wrap_accept_iff := @C06Wrap.wrap_accept_iff
theorem wrap_handed_iff : type_of% @C06Wrap.wrap_handed_iff := @C06Wrap.wrap_handed_iff
theorem wrap_refuse_frame : type_of% @C06Wrap.wrap_refuse_frame := @C06Wrap.wrap_refuse_frame
theorem wrap_refuse_frame_stored : type_of% @C06Wrap.wrap_refuse_frame_stored := @C06Wrap.wrap_refuse_frame_stored
theorem wrap_refuse_frame_full_false : ¬ C06Wrap.wrap_refuse_frame_full := C06Wrap.wrap_refuse_frame_full_false
theorem wrap_redeliver : type_of% @C06Wrap.wrap_redeliver := @C06Wrap.wrap_redeliver
theorem wrap_failed_record : type_of% @C06Wrap.wrap_failed_record := @C06Wrap.wrap_failed_record
theorem wrap_reason_table : type_of% @C06Wrap.wrap_reason_table := @C06Wrap.wrap_reason_table
theorem wrap_no_panic : C06Wrap.wrap_no_panic_full := C06Wrap.wrap_no_panic
theorem wrap_short_payload_refused : type_of% @C06Wrap.wrap_short_payload_refused := @C06Wrap.wrap_short_payload_refused
theorem wrap_no_panic_partial : type_of% @C06Wrap.wrap_no_panic_partial := @C06Wrap.wrap_no_panic_partial
theorem wrap_no_panic_of_guard : type_of% @C06Wrap.wrap_no_panic_of_guard := @C06Wrap.wrap_no_panic_of_guard

/-! ### first sentence, binding layer: the parse helpers of crates/mdk-uniffi (proved in Props/C06Ffi.lean over
    Model/Ffi.lean; restated here so that this file lists every C06 theorem and `./check C06` audits them) -/
section Ffi
open MdkVerif.Ffi MdkVerif.Codec

theorem hex_decode_total (s : Bytes) :
    (∃ b, hexDecode s = .ok b ∧ s.length = 2 * b.length ∧ isBytes b = true ∧ hexEnc b = s.map lowerC) ∨
    (hexDecode s = .error .oddLength ∧ s.length % 2 = 1) ∨
    (∃ c k, hexDecode s = .error (.invalidChar c k) ∧ s.length % 2 = 0 ∧ s[k]? = some c ∧ hexVal c = none ∧
      ∀ j, j < k → ∃ d, s[j]? = some d ∧ (hexVal d).isSome = true) :=
  C06Ffi.hex_decode_total s

theorem hex_round_trip :
    (∀ b : Bytes, isBytes b = true → hexDecode (hexEnc b) = .ok b) ∧
    (∀ s b : Bytes, hexDecode s = .ok b → hexEnc b = s.map lowerC) :=
  C06Ffi.hex_round_trip

theorem hex_decode_agrees_with_codec (s b : Bytes) : hexDecode s = .ok b ↔ hexDec s = some b :=
  C06Ffi.hex_decode_agrees_with_codec s b

theorem hex_case_insensitive (s b : Bytes) (h : hexDecode s = .ok b) : hexDecode (s.map upperC) = .ok b :=
  C06Ffi.hex_case_insensitive s b h

theorem parse_group_id_accept_iff (s : Bytes) :
    (∃ b, parseGroupId s = .ok b) ↔ s.length % 2 = 0 ∧ ∀ c ∈ s, isHexChar c = true :=
  C06Ffi.parse_group_id_accept_iff s

theorem decodeToSlice_accept_iff (n : Nat) (s : Bytes) :
    (∃ b, decodeToSlice n s = .ok b) ↔ s.length = 2 * n ∧ ∀ c ∈ s, isHexChar c = true :=
  C06Ffi.decodeToSlice_accept_iff n s

theorem decodeToSlice_value (n : Nat) (s b : Bytes) (h : decodeToSlice n s = .ok b) :
    b.length = n ∧ isBytes b = true ∧ hexEnc b = s.map lowerC :=
  C06Ffi.decodeToSlice_value n s b h

theorem decodeToSlice_errors (n : Nat) (s : Bytes) :
    (s.length % 2 = 1 → decodeToSlice n s = .error .oddLength) ∧
    (s.length % 2 = 0 → s.length ≠ 2 * n → decodeToSlice n s = .error .invalidStringLength) ∧
    (s.length = 2 * n → ∀ e, decodeToSlice n s = .error e →
      ∃ c k, e = .invalidChar c k ∧ s[k]? = some c ∧ hexVal c = none ∧ ∀ j, j < k → ∃ d, s[j]? = some d ∧ (hexVal d).isSome = true) :=
  C06Ffi.decodeToSlice_errors n s

theorem parse_event_id_accept_iff (s : Bytes) :
    (∃ b, parseEventId s = .ok b) ↔ s.length = 64 ∧ ∀ c ∈ s, isHexChar c = true :=
  C06Ffi.parse_event_id_accept_iff s

theorem parse_public_key_accept_iff (s : Bytes) :
    (∃ b, parsePublicKey s = .ok b) ↔ s.length = 64 ∧ ∀ c ∈ s, isHexChar c = true :=
  C06Ffi.parse_public_key_accept_iff s

theorem public_key_not_checked_against_curve :
    parsePublicKey (List.replicate 64 48) = .ok (List.replicate 32 0) :=
  C06Ffi.public_key_not_checked_against_curve

theorem sort_order_accept_iff (s : Bytes) (o : Nat) :
    parseSortOrder (some s) = .ok (some o) ↔ (s, o) ∈ Generated.ffiSortOrderTable :=
  C06Ffi.sort_order_accept_iff s o

theorem parse_tags_accept_iff (ts ts' : List (List Bytes)) :
    parseTags ts = .ok ts' ↔ (∀ t ∈ ts, t ≠ []) ∧ ts' = ts :=
  C06Ffi.parse_tags_accept_iff ts ts'

theorem vec_to_array_accept_iff (n : Nat) (o : Option Nat) :
    (∃ r, vecToArray n o = .ok r) ↔ (o = none ∨ o = some n) :=
  C06Ffi.vec_to_array_accept_iff n o

theorem state_tables_round_trip :
    ((∀ v s, welcomeStateAsStr v = some s → welcomeStateFromStr s = some v) ∧
     (∀ s v, welcomeStateFromStr s = some v → welcomeStateAsStr v = some s)) ∧
    ((∀ v s, messageStateAsStr v = some s → messageStateFromStr s = some v) ∧
     (∀ s v, messageStateFromStr s = some v → messageStateAsStr v = some s)) ∧
    ((∀ v s, groupStateAsStr v = some s → groupStateFromStr s = some v) ∧
     (∀ s v, groupStateFromStr s = some v → groupStateAsStr v = some s)) :=
  C06Ffi.state_tables_round_trip

theorem plans_follow_source (m : Method) : lookupPlan m.name = some (planCodes (plan m)) :=
  C06Ffi.plans_follow_source m

theorem every_export_modelled :
    ∀ p ∈ Generated.ffiPlans, p.1 = [119, 101, 108, 99, 111, 109, 101, 95, 102, 114, 111, 109, 95, 117, 110, 105, 102, 102, 105] ∨
      Method.all.any (fun m => m.name == p.1) = true :=
  C06Ffi.every_export_modelled

theorem first_refusal_wins (l : List (Stage × V3)) (h : ∀ p ∈ l, p.2 ≠ .unk) :
    alts l = [match l.find? (fun p => p.2 = .rej) with | some p => .refuse p.1 | none => .past] :=
  C06Ffi.first_refusal_wins l h

open MdkVerif.Props.C06Ffi


/-- the code really has no length demand on group ids (regenerated from `parse_group_id` on every run) -/
theorem group_id_any_length_fact : Generated.ffiGroupIdAnyLength = true := by decide

theorem welcome_plan_follows_source :
    lookupPlan [119, 101, 108, 99, 111, 109, 101, 95, 102, 114, 111, 109, 95, 117, 110, 105, 102, 102, 105] = some (planCodes welcomePlan) := by
  rfl

theorem parse_public_key_value (s b : Bytes) (h : parsePublicKey s = .ok b) :
    b.length = 32 ∧ isBytes b = true ∧ hexEnc b = s.map lowerC := decodeToSlice_value 32 s b h

/-- every variant of each enum has a string (no variant is unprintable / unreadable) -/
theorem state_tables_complete :
    (∀ v, v < Generated.welcomeStateVariants → (welcomeStateAsStr v).isSome = true) ∧
    (∀ v, v < Generated.messageStateVariants → (messageStateAsStr v).isSome = true) ∧
    (∀ v, v < Generated.groupStateVariants → (groupStateAsStr v).isSome = true) := by
  refine ⟨?_, ?_, ?_⟩ <;> decide +kernel

theorem sort_order_none : parseSortOrder none = .ok none ∧ ∀ s, parseSortOrder (some s) ≠ .ok none := by
  refine ⟨rfl, fun s => ?_⟩
  rw [parseSortOrder]
  split
  · nofun
  · split <;> nofun

theorem parse_event_id_value (s b : Bytes) (h : parseEventId s = .ok b) :
    b.length = 32 ∧ isBytes b = true ∧ hexEnc b = s.map lowerC := decodeToSlice_value 32 s b h

end Ffi

/-! ### storage level: a storage call that the backend's validation refuses has no effect (proved in Props/C10Limits.lean over
    Model/StoreLimits.lean, the validation tables regenerated from both backends; exercised by the hostile store stream) -/
theorem refused_store_call_no_effect : type_of% @C10Limits.refused_store_call_no_effect := @C10Limits.refused_store_call_no_effect
theorem refused_store_calls_deletable : type_of% @C10Limits.refused_calls_deletable := @C10Limits.refused_calls_deletable

end MdkVerif.Props.C06
