import MdkVerif.Model.Client
import MdkVerif.Proofs.Client
/-
  C08, first half — the stored group record always mirrors the MLS state: the invariant and the client's operations.
  `Inv c`: the record (epoch, name, description, admins, relays, nostr group id) equals what the client's MLS
  state says (`Synced`: every field `sync_group_metadata_from_mls` copies that the model tracks), and the same holds
  of every state saved in a rollback snapshot.  Proved for the initial state and preserved by EVERY
  operation of the client model (process_message in all branches incl. rollback and re-processing,
  create_message, the commit-staging operations, leave, merge/clear pending, restart), hence true
  after every API call of every history.
-/
namespace MdkVerif.Props.C08
open MdkVerif MdkVerif.Client

/-- an ACTIVE group's record mirrors its MLS state (an evicted member's record is frozen at eviction on purpose:
    `handle_local_member_eviction` only marks it Inactive), and every state saved in a snapshot was in step -/
def Inv (c : Cl) : Prop := (c.g.active = true → Synced c.g) ∧ ∀ s ∈ c.mgr, Synced s.saved

theorem inv_init (id : Nat) (p : Bool) (r : Nat) (ms as : List Nat) (name : Nat) : Inv (initCl id p r ms as name) := by
  constructor
  · intro _; simp [initCl, initG, Synced, epochOf]
  · intro s hs; simp [initCl] at hs

theorem inv_setRec (c : Cl) (n : Nat) (r : Rec) (h : Inv c) : Inv (setRec c n r) := h
theorem inv_recordFailure (c : Cl) (n : Nat) (b : Bool) (e : Option Nat) (h : Inv c) : Inv (recordFailure c n b e) := h
theorem inv_withSecret (c : Cl) (h : Inv c) : Inv (withSecret c) :=
  ⟨fun ha => synced_withSecret c (h.1 (by rw [← withSecret_active]; exact ha)), h.2⟩

/-- a snapshot is taken of an active, hence synced, state -/
theorem inv_mgrCreate (c : Cl) (ep : Nat) (e : Ev) (h : Inv c) (hs : Synced c.g) : Inv (mgrCreate c ep e) :=
  ⟨h.1, mgrCreate_saved ep e hs h.2⟩

theorem synced_updLast (g : GState) (m t : Nat) (h : Synced g) : Synced (updLast g m t) := by
  obtain ⟨l, hl⟩ := updLast_last g m t; rw [hl]; exact h

theorem updLast_active (g : GState) (m t : Nat) : (updLast g m t).active = g.active := by
  obtain ⟨l, hl⟩ := updLast_last g m t; rw [hl]

theorem inv_rollbackTo (c c1 : Cl) (ep : Nat) (h : Inv c) (hr : rollbackTo c ep = some c1) : Inv c1 :=
  let ⟨h1, h2⟩ := rollbackTo_saved h.2 hr
  ⟨fun _ => h1, h2⟩

theorem inv_returnOwnCommit (c : Cl) (h : Inv c) : Inv (returnOwnCommit c).1 :=
  ⟨fun _ => synced_syncRec _, h.2⟩

theorem inv_failUnprocessable (c : Cl) (e : Ev) (h : Inv c) : Inv (failUnprocessable c e).1 := h

theorem inv_ownMessage (c : Cl) (e : Ev) (h : Inv c) : Inv (ownMessage c e).1 := by
  have hs := ownMessage_spec c e
  generalize ownMessage c e = r at hs
  cases hs with
  | same | confirmed => exact h
  | echo => exact inv_returnOwnCommit c h

theorem inv_storeApp (c : Cl) (e : Ev) (m t k : Nat) (h : Inv c) : Inv (storeApp c e m t k).1 :=
  ⟨fun ha => synced_updLast _ _ _ (h.1 (by rw [← updLast_active c.g m t]; exact ha)), h.2⟩

/-- `process_commit` of an ACTIVE client: afterwards the record is in step again — or the client was evicted
    (then it is inactive and its record stays where it was) -/
theorem inv_processCommit (c : Cl) (e : Ev) (b : Body) (sw : List Nat) (h : Inv c) (ha : c.g.active = true) :
    Inv (processCommit c e b sw).1 := by
  have hs := h.1 ha
  unfold processCommit
  split
  · exact h
  · split
    · refine ⟨fun hact => ?_, (inv_mgrCreate c _ e h hs).2⟩
      simp [setRec] at hact
    · exact ⟨fun _ => synced_syncRec _, (inv_mgrCreate c _ e h hs).2⟩

/-- `process_message` preserves the invariant, for every fuel (incl. the re-processing after rollback) -/
theorem inv_deliverN (fuel nx : Nat) (c : Cl) (e : Ev) (h : Inv c) : Inv (deliverN fuel nx c e).1 := by
  refine deliverN_induct (P := fun c r => Inv c → Inv r.1) nx e (fun _ _ _ _ h => h) ?_ fuel c h
  intro c r _ hs h
  have hw := inv_withSecret c h
  -- past the activity check the client is active, so its state is in step, also with the generation consumed
  have hc (ho : Opens c e) : Inv (consume (withSecret c) e.cipher) ∧ (consume (withSecret c) e.cipher).g.active = true :=
    ⟨⟨fun _ => hw.1 (by rw [withSecret_active]; exact ho.active), hw.2⟩, by rw [← ho.active]; exact withSecret_active c⟩
  cases hs with
  | unrouted | evicted => exact h
  | «sealed» | refused => exact hw
  | own => exact inv_ownMessage _ e hw
  | echoed => exact inv_returnOwnCommit _ hw
  | retried _ _ _ _ hrb ih => exact ih (inv_rollbackTo _ _ _ hw hrb)
  | mergedOwn ho => exact ⟨fun _ => synced_syncRec _, (inv_mgrCreate _ _ e hw ((hc ho).1.1 (hc ho).2)).2⟩
  | committed ho => exact inv_processCommit _ e _ _ (hc ho).1 (hc ho).2
  | autoCommitted ho => exact ⟨fun _ => synced_ensureSecret _ ((hc ho).1.1 (hc ho).2), hw.2⟩
  | queued ho => exact ⟨fun _ => (hc ho).1.1 (hc ho).2, hw.2⟩
  | stored ho => exact inv_storeApp _ e _ _ _ (hc ho).1

theorem inv_local {c : Cl} {r : Cl × Res} (h : Inv c) (hl : Local c r) : Inv r.1 := by
  cases hl with
  | refused | skipped => exact h
  | sent _ _ _ _ _ _ _ ha => exact ⟨fun _ => synced_updLast _ _ _ (synced_ensureSecret _ (h.1 ha)), h.2⟩
  | staged _ _ _ _ _ ha | left _ _ _ _ ha => exact ⟨fun _ => synced_ensureSecret _ (h.1 ha), h.2⟩
  | merged | resynced => exact ⟨fun _ => synced_syncRec _, h.2⟩
  | cleared => exact ⟨h.1, h.2⟩
  | restarted =>
    refine ⟨h.1, fun s hs => ?_⟩
    obtain ⟨t, ht, rfl⟩ := List.mem_map.mp hs
    exact h.2 t ht

/-- a welcome puts the joiner in a state whose record is in step (`welcomeState` ends in `syncRec`) -/
theorem synced_welcomeState (mp : Nat) (g : GState) (e : Ev) : Synced (welcomeState mp g e) := by
  have := synced_syncRec (mergeCommit mp g e)
  simpa [welcomeState, joinState, Synced] using this

theorem inv_join (c : Cl) (mp : Nat) (g : GState) (e : Ev) (h : Inv c) : Inv (join c (welcomeState mp g e)) := by
  unfold join
  split
  · exact h
  · exact ⟨fun _ => synced_welcomeState mp g e, fun s hs => by cases hs⟩

/-- client operations -/
inductive COp where
  | deliver (e : Ev) (nx : Nat)
  | send (n ts idn mid mts tok : Nat)
  | stage (n ts idn : Nat) (b : Body) (needAdmin : Bool)
  | data (n ts idn : Nat) (u : DataUpd)
  | remove (n ts idn : Nat) (who : List Nat)
  | add (n ts idn : Nat) (who : List Nat)
  | join (mp : Nat) (g : GState) (e : Ev)      -- accept the welcome of add commit `e` staged on state `g`
  | leave (n ts idn : Nat)
  | merge | clear | restart

def cstep (c : Cl) : COp → Cl
  | .deliver e nx => (deliver c e nx).1
  | .send n ts idn mid mts tok => (send c n ts idn mid mts tok).1
  | .stage n ts idn b na => (stageCommit c n ts idn b na).1
  | .data n ts idn u => (updateData c n ts idn u).1
  | .remove n ts idn who => (removeMembers c n ts idn who).1
  | .add n ts idn who => (addMembers c n ts idn who).1
  | .join mp g e => join c (welcomeState mp g e)
  | .leave n ts idn => (Client.leave c n ts idn).1
  | .merge => (merge c).1
  | .clear => (clear c).1
  | .restart => (restart c).1

theorem cstep_local (c : Cl) (o : COp) :
    (∃ e nx, o = .deliver e nx) ∨ (∃ mp g e, o = .join mp g e) ∨ ∃ r, Local c r ∧ cstep c o = r.1 := by
  cases o with
  | deliver e nx => exact .inl ⟨e, nx, rfl⟩
  | join mp g e => exact .inr (.inl ⟨mp, g, e, rfl⟩)
  | send n ts idn mid mts tok => exact .inr (.inr ⟨_, send_spec c n ts idn mid mts tok, rfl⟩)
  | stage n ts idn b na => exact .inr (.inr ⟨_, stageCommit_spec c n ts idn b na, rfl⟩)
  | data n ts idn u => exact .inr (.inr ⟨_, updateData_spec c n ts idn u, rfl⟩)
  | remove n ts idn who => exact .inr (.inr ⟨_, removeMembers_spec c n ts idn who, rfl⟩)
  | add n ts idn who => exact .inr (.inr ⟨_, addMembers_spec c n ts idn who, rfl⟩)
  | leave n ts idn => exact .inr (.inr ⟨_, leave_spec c n ts idn, rfl⟩)
  | merge => exact .inr (.inr ⟨_, merge_spec c, rfl⟩)
  | clear => exact .inr (.inr ⟨_, clear_spec c, rfl⟩)
  | restart => exact .inr (.inr ⟨_, restart_spec c, rfl⟩)

theorem cstep_keeps {P : Cl → Prop} (hd : ∀ nx c e, P c → P (deliverN 3 nx c e).1)
    (hj : ∀ c mp g e, P c → P (join c (welcomeState mp g e))) (hl : ∀ c r, P c → Local c r → P r.1)
    (c : Cl) (o : COp) (h : P c) : P (cstep c o) := by
  rcases cstep_local c o with ⟨e, nx, rfl⟩ | ⟨mp, g, e, rfl⟩ | ⟨r, hr, he⟩
  · exact hd nx c e h
  · exact hj c mp g e h
  · rw [he]; exact hl c r h hr

end MdkVerif.Props.C08