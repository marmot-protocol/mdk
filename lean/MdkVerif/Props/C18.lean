import MdkVerif.Proofs.PtrCap
/-
  C18 — Message listing is one total order; pages and last-message pointer agree.
-/
namespace MdkVerif.Props.C18
open MdkVerif MdkVerif.Store List

/-! ### 1. the listing is a sorted permutation of the group's messages, and depends only on the
    *set* of stored messages (hash-map iteration order / SQL row order are irrelevant) -/

theorem listing_perm (s : Store) (gid sort : Nat) : listing s gid sort ~ groupMsgs s gid :=
  sortBy_perm _ _

theorem listing_sorted (s : Store) (gid sort : Nat) :
    (listing s gid sort).Pairwise (NotAfter (orderOf sort)) :=
  sortBy_sorted (orderOf_strictWeak sort) _

/-- ids are unique per group (primary key `(mls_group_id, id)` / per-group hash map) -/
def IdsUnique (l : List Msg) : Prop := ∀ a b, a ∈ l → b ∈ l → a.id = b.id → a = b

theorem listing_order_independent (s₁ s₂ : Store) (gid sort : Nat)
    (hp : groupMsgs s₁ gid ~ groupMsgs s₂ gid) (hu : IdsUnique (groupMsgs s₁ gid)) :
    listing s₁ gid sort = listing s₂ gid sort := by
  apply sortBy_perm_eq (orderOf_strictWeak sort) _ _ hp
  intro a b ha hb h1 h2
  exact hu a b ha hb (orderOf_total sort a b h1 h2).2.2

/-- `messages` succeeds for EVERY offset and returns exactly the requested slice of the listing —
    the empty page beyond the end — on either backend.  The only hypothesis besides the documented
    parameter range is physical: a store does not hold 2^63 messages.
    Depends on `Generated.memPageSaturates` and `Generated.sqlOffsetClamped` (re-extracted each run):
    if the memory backend adds `offset + limit` unchecked again, or SQLite binds `offset as i64`, the
    extracted flags flip and this proof no longer checks. -/
theorem messages_is_page (s : Store) (gid limit offset : Nat) (sort : Option Nat)
    (hg : (findGroup s gid).isSome) (hl1 : 1 ≤ limit) (hl2 : limit ≤ Generated.maxMessageLimit)
    (hphys : (listing s gid (sort.getD 0)).length < two63) :
    messages s gid (some limit) (some offset) sort
      = .ok (pageOf (listing s gid (sort.getD 0)) offset limit) := by
  have hg' : (findGroup s gid).isNone = false := by
    cases h : findGroup s gid <;> simp_all
  have c1 : (decide (limit < 1) || decide (limit > Generated.maxMessageLimit)) = false := by
    simp; omega
  unfold messages
  simp only [Option.getD_some, hg', c1, Bool.false_eq_true, if_false]
  rcases backend_cases s with hb | hb
  · have hsat : Generated.memPageSaturates = true := by decide
    simp only [hb, hsat, Bool.not_true, Bool.false_and, Bool.false_eq_true, if_false]
    cases he : (groupMsgs s gid).isEmpty with
    | true =>
      -- a group without messages: the page of the empty listing
      have hn : listing s gid (sort.getD 0) = [] := by rw [listing, List.isEmpty_iff.mp he]; rfl
      simp only [if_true, hn, pageOf, List.drop_nil, List.take_nil]
    | false => rfl
  · simp only [hb, page_clamped _ _ _ hphys]; rfl

/-- consecutive pages partition the listing: no gaps, no repeats, for every limit and page count -/
theorem pages_partition (s : Store) (gid sort : Nat) (limit k : Nat)
    (hk : (listing s gid sort).length ≤ k * limit) :
    ((List.range k).flatMap (fun i => pageOf (listing s gid sort) (i * limit) limit))
      = listing s gid sort :=
  MdkVerif.pages_partition _ limit k hk

/-- out-of-range limits are refused -/
theorem limit_refused (s : Store) (gid limit : Nat) (offset sort : Option Nat)
    (h : limit = 0 ∨ limit > Generated.maxMessageLimit) :
    messages s gid (some limit) offset sort = .err := by
  unfold messages
  have : (decide (limit < 1) || decide (limit > Generated.maxMessageLimit)) = true := by
    rcases h with h | h <;> simp [h]
  simp only [Option.getD_some, this, if_true]

/-- `last_message` is the head of the listing in the same sort mode -/
theorem last_is_head (s : Store) (gid sort : Nat) (hg : (findGroup s gid).isSome) :
    lastMessage s gid sort = some (listing s gid sort).head? := by
  unfold lastMessage
  cases h : findGroup s gid <;> simp_all

/-- both backends list identically when they hold the same messages -/
theorem backends_list_identically (m q : Store) (gid sort : Nat)
    (hp : groupMsgs m gid ~ groupMsgs q gid) (hu : IdsUnique (groupMsgs m gid)) :
    listing m gid sort = listing q gid sort :=
  listing_order_independent m q gid sort hp hu

/-! ### 2. the SQL `ORDER BY` key lists (re-extracted from the source on every run) denote the two
    comparators: same keys, same priority, all descending -/

theorem sql_order_keys :
    Generated.sqlOrderCreatedFirst = ["created_at desc", "processed_at desc", "id desc"] ∧
    Generated.sqlOrderProcessedFirst = ["processed_at desc", "created_at desc", "id desc"] := by
  decide

theorem limits_as_documented :
    Generated.defaultMessageLimit = 1000 ∧ Generated.maxMessageLimit = 10000 := by decide

/-! ### 3. non-vacuity, and the two former counter-examples as regression traces

Before the two `fix:` commits in /repo (`07ec93a` memory `offset + limit` overflow, `e560e4b` SQLite
negative OFFSET) `messages_is_page` was false at `offset = 2^64-1` (memory: panic) and at
`offset = 2^63` (SQLite: first page).  Both inputs are kept in `corpus/C18/` and replayed on the
implementation on every run; the closed instances below keep them in the kernel-checked part too. -/

/-- a one-group, one-message store -/
def wStore (b : Backend) : Store :=
  { Store.empty b with
    groups := [{ gid := 1, nid := 11, nameLen := 1, descLen := 0, admins := 1, img := 0, lastId := none,
                 lastAt := none, lastProc := none, epoch := 0, state := 0, selfUpd := 0 }],
    msgs := [{ id := 7, gid := 1, pk := 0, kind := 9, created := 100, processed := 101, content := 0,
               contentLen := 4, tag := 0, wrapper := 5, epoch := some 0, state := 1 }] }

/-- the hypotheses of `messages_is_page` hold on a concrete non-trivial store -/
example : (findGroup (wStore .sql) 1).isSome ∧ 1 ≤ 10 ∧ 10 ≤ Generated.maxMessageLimit ∧
    (listing (wStore .sql) 1 0).length < two63 := by decide

theorem huge_offset_sql_empty : messages (wStore .sql) 1 (some 10) (some two63) none = .ok [] := by decide
theorem huge_offset_mem_empty : messages (wStore .mem) 1 (some 10) (some (two64 - 1)) none = .ok [] := by decide
theorem first_page_nonempty : messages (wStore .sql) 1 (some 10) (some 0) none ≠ .ok [] := by decide

/-! ### 4. the cached last-message pointer (lemmas: `Proofs/PtrCap.lean`) -/

/-- **pointer = head of the default order**, for every set of messages with distinct display keys,
    whatever the order they arrived in, starting from a group with no pointer.
    (Partial w.r.t. the full statement: no rollback, no overwrite of an existing id — see DESIGN §6 C18.) -/
theorem ptr_tracks_head_partial (g : Group) (ms : List Msg)
    (hg : g.lastAt = none ∧ g.lastProc = none ∧ g.lastId = none) (hne : ms ≠ []) :
    ptr (track g ms) = (sortBy createdFirstBefore ms).head?.map key := by
  have h := track_maxOf ms g [] (Or.inl hg) (by rw [show ptr g = none by simp [ptr, hg.1]]; rfl)
  rw [List.nil_append] at h
  cases hp : ptr (track g ms) with
  | none => rw [hp] at h; exact absurd h hne
  | some q => rw [hp] at h; exact (head_of_maxOf ms q h).symm

/-! ### 5. the pointer under the per-group message cap of the memory backend (`Model/MemLru.lean`) -/

open MdkVerif.MemLru

/-- **the pointer under the message cap.**  On the memory backend with its LRU caches and
    `max_messages_per_group ≥ 2`, from any state in which group `gid` is held with a pointer that designates the head
    of its stored messages (`PtrInv`: in particular a fresh group), for EVERY history of tracked saves of new message
    ids to that group — any number of them, any timestamps incl. equal seconds, far beyond the cap — the pointer of
    the stored record designates the first message of the default order among the messages the group still holds:
    the eviction never removes the head. -/
theorem ptr_tracks_head_capped (s0 : MemStore) (gid : Nat) (h0 : PtrInv s0 gid) (hcap : 2 ≤ s0.msgCap) (ms : List Msg)
    (hg : ∀ m ∈ ms, m.gid = gid) (hnd : (ms.map (·.id)).Nodup) (hfresh : ∀ x ∈ groupMsgs s0.u gid, x.id ∉ ms.map (·.id)) :
    ∃ g, findGroup (ms.foldl trackedSave s0).u gid = some g ∧
      ptr g = (listing (ms.foldl trackedSave s0).u gid 0).head?.map key :=
  ptrInv_head _ gid (trackedRun_inv ms s0 gid h0 hcap hg hnd hfresh)

/-- a group saved into a fresh backend satisfies the invariant -/
theorem ptrInv_fresh (cap msgCap : Nat) (hcap : 0 < cap) (g0 : Group) (hl : GroupWithin g0)
    (hp : g0.lastAt = none ∧ g0.lastProc = none ∧ g0.lastId = none) :
    ∃ s0, MemLru.saveGroup (MemStore.empty cap msgCap) g0 = some s0 ∧ PtrInv s0 g0.gid ∧ s0.msgCap = msgCap ∧
      groupMsgs s0.u g0.gid = [] := by
  have hpe := pinv_empty cap msgCap hcap
  obtain ⟨u', hu'⟩ := storeSaveGroup_ok (MemStore.empty cap msgCap).u g0 rfl hl (fun o ho => by cases ho)
  have hs := saveGroup_eq (MemStore.empty cap msgCap) g0 u' hu'
  have hu := saveGroup_some_mem rfl hu'
  obtain ⟨_, _, _, _, _, e6, e7⟩ := of_saveGroup _ g0 _ rfl hs
  have t1 := Lru.qTouch_none cap g0.gid ([] : List Nat) (Or.inr hcap)
  have t2 := Lru.qTouch_none cap g0.nid ([] : List Nat) (Or.inr hcap)
  have hfind : findGroup (putByNid (putGroups { MemStore.empty cap msgCap with u := u', qByNid := staleQ (MemStore.empty cap msgCap) g0 } g0.gid) g0.nid).u g0.gid = some g0 := by
    simp only [putGroups_eq, putByNid_eq, MemStore.empty, t1]
    show findGroup u' g0.gid = _
    rw [hu]; exact find_replaceGroup_self _ _
  have hm : groupMsgs (putByNid (putGroups { MemStore.empty cap msgCap with u := u', qByNid := staleQ (MemStore.empty cap msgCap) g0 } g0.gid) g0.nid).u g0.gid = [] := by
    simp only [groupMsgs, e7]; rfl
  refine ⟨_, hs, ⟨pinv_saveGroup _ hpe g0 _ hs, ⟨g0, hfind, Or.inl hp, hl, ?_⟩, by rw [hm]; exact List.nodup_nil⟩, e6, hm⟩
  have : ptr g0 = none := by simp [ptr, hp.1]
  rw [this, hm]; rfl

/-- non-vacuity and regression: cap 2, three messages of the same second saved in turn — the listing keeps ids 2 and 3,
    the pointer designates 3 (before /repo 3a82aa4 the map's iteration order decided, and listing [1, 3] with the
    pointer at 2 was possible) -/
def capGroup : Group :=
  { gid := 1, nid := 11, nameLen := 3, descLen := 0, admins := 1, img := 0, lastId := none, lastAt := none,
    lastProc := none, epoch := 0, state := 0, selfUpd := 0 }
def capMsg (id created processed : Nat) : Msg :=
  { id := id, gid := 1, pk := 0, kind := 9, created := created, processed := processed, content := 1, contentLen := 8,
    tag := 0, wrapper := id, epoch := some 1, state := 1 }
def capStart (cap msgCap : Nat) : MemStore := (MemLru.okErr (MemLru.saveGroup (MemStore.empty cap msgCap) capGroup) (MemStore.empty cap msgCap)).1

theorem witness_equal_seconds_at_cap :
    let s := [capMsg 1 5 5, capMsg 2 5 5, capMsg 3 5 5].foldl trackedSave (capStart 4 2)
    (listing s.u 1 0).map (·.id) = [3, 2] ∧ (findGroup s.u 1).map ptr = some (some (5, 5, 3)) := by decide

/-- the hypothesis `2 ≤ max_messages_per_group` is needed: with a cap of ONE a new message that is OLDER than the
    stored one evicts the stored message — the head of the order — and the pointer keeps designating the message that
    is gone (`mem-cap-1-evicts-pointer-target`; corpus/C18/lru_cap1_pointer.trace) -/
theorem witness_cap_one_evicts_head :
    let s := [capMsg 1 200 200, capMsg 2 100 100].foldl trackedSave (capStart 4 1)
    (listing s.u 1 0).map (·.id) = [2] ∧ (findGroup s.u 1).map ptr = some (some (200, 200, 1)) ∧
    findMessage s.u 1 1 = none := by decide

def ptr_tracks_head_capped_full : Prop :=
  ∀ (s0 : MemStore) (gid : Nat), PtrInv s0 gid → ∀ ms : List Msg, (∀ m ∈ ms, m.gid = gid) → (ms.map (·.id)).Nodup →
    (∀ x ∈ groupMsgs s0.u gid, x.id ∉ ms.map (·.id)) →
    ∃ g, findGroup (ms.foldl trackedSave s0).u gid = some g ∧ ptr g = (listing (ms.foldl trackedSave s0).u gid 0).head?.map key

theorem ptr_tracks_head_capped_full_false : ¬ ptr_tracks_head_capped_full := by
  intro h
  obtain ⟨s0, hs0, hinv, _, hm⟩ := ptrInv_fresh 4 1 (by decide) capGroup (by unfold GroupWithin; decide) ⟨rfl, rfl, rfl⟩
  have e : s0 = capStart 4 1 := by simp only [capStart, hs0, MemLru.okErr]
  subst e
  have hm' : groupMsgs (capStart 4 1).u 1 = [] := hm
  have hfr : ∀ x ∈ groupMsgs (capStart 4 1).u 1, x.id ∉ [capMsg 1 200 200, capMsg 2 100 100].map (·.id) := by
    rw [hm']; intro x hx; cases hx
  obtain ⟨g, hg, hp⟩ := h _ 1 hinv [capMsg 1 200 200, capMsg 2 100 100] (by decide) (by decide) hfr
  have w := witness_cap_one_evicts_head
  simp only at w
  rw [hg] at w
  simp only [Option.map_some, Option.some.injEq] at w
  rw [w.2.1] at hp
  have hl : (listing (List.foldl trackedSave (capStart 4 1) [capMsg 1 200 200, capMsg 2 100 100]).u 1 0).head?.map key = some (100, 100, 2) := by decide
  rw [hl] at hp
  cases hp

end MdkVerif.Props.C18
