import MdkVerif.Generated
import MdkVerif.Model.Welcome
import MdkVerif.Proofs.Welcome
import MdkVerif.Proofs.WelcomeNid
/-
  C16 — Invitations are idempotent, consent-gated and cannot disturb existing groups.
  (What the operations keep because every storage write keeps it: Proofs/Welcome.lean, Proofs/WelcomeNid.lean.)

  State of the code (/repo 4010ddc + 0dcc511): a rumor without id is refused before any write; a rumor
  whose id is already stored is recognised under ANY wrapper id and touches no group; a welcome that is
  Accepted can be neither accepted again nor declined.  What is still FALSE of the code, and therefore
  kept as defs with closed witnesses: `no_disturb` (a DIFFERENT rumor for a held group id — from a
  foreign creator, or another genuine invitation delivered late — still overwrites the Active group's
  record, and accepting it replaces the MLS state), `accept_record_full`, `refused_has_no_effect`
  (only the store-limit refusals after the first write remain).
-/
namespace MdkVerif.Props.C16
open MdkVerif MdkVerif.Store MdkVerif.Welcome

abbrev IOp := MdkVerif.Welcome.Op
abbrev irun := MdkVerif.Welcome.run

/-- the invitation-relevant part of a client that no group operation may touch when nothing new arrived -/
def sameGroups (c c' : Client) : Prop :=
  c'.store.groups = c.store.groups ∧ c'.store.relays = c.store.relays ∧ c'.store.welcomes = c.store.welcomes ∧ c'.mls = c.mls

/-! ## 0. the fresh path of `process_welcome` -/

/-- a successful fresh processing leaves exactly: the dedup record, the stored welcome, the Pending record -/
theorem processFresh_ok (c c1 : Client) (wr : Nat) (m : Invite) (rid : Nat) (w : Store.Welcome)
    (h : processFresh c wr m rid = (c1, .welcome w)) :
    w = welcomeOf m rid wr ∧ findPw c1.store wr = some (okPw wr rid) ∧ findWelcome c1.store rid = some w ∧
    findGroup c1.store m.gid = some (pendingGroup m) ∧ c1.mls = c.mls := by
  unfold processFresh at h
  split at h; · cases h
  split at h; · cases h
  next s1 hs1 =>
  split at h; · cases h
  next s2 hs2 =>
  split at h; · cases h
  next s3 hs3 =>
  cases h
  obtain rfl := saveGroup_some hs1
  obtain rfl := replaceRelays_some hs2
  obtain rfl := saveWelcome_some hs3
  exact ⟨rfl, findPw_savePw _ (okPw wr rid), find_upsertWelcome_self (welcomeOf m rid wr) _,
    find_replaceGroup_self (pendingGroup m) _, rfl⟩

/-! ## 1. idempotence -/

/-- **same_wrapper_idempotent.**  Once `process_welcome` has succeeded under a wrapper id, processing
    ANY structurally valid rumor (with an id) under that wrapper id again returns the very same welcome and
    changes nothing at all — for every client state, invitation and backend. -/
theorem same_wrapper_idempotent (c c1 : Client) (wrapper : Nat) (m m' : Invite) (w : Store.Welcome)
    (h : process c wrapper m = (c1, .welcome w)) (hm' : m'.shape ≠ 1) (hr' : m'.rid.isSome = true) :
    process c1 wrapper m' = (c1, .welcome w) := by
  obtain ⟨rid', hrid'⟩ := Option.isSome_iff_exists.mp hr'
  -- it suffices that the wrapper's record answers with the stored welcome `w`
  have key : ∀ (cc : Client) (p : PW), findPw cc.store wrapper = some p → knownRes cc.store p = .welcome w →
      process cc wrapper m' = (cc, .welcome w) := by
    intro cc p h1 h2
    rw [process_known hm' hrid' h1, h2]
  have hc := process_cases c wrapper m
  generalize process c wrapper m = q at hc h
  cases hc with
  | invalid | noId => cases h
  | known _ _ hp =>
    obtain ⟨rfl, hk⟩ := Prod.mk.inj h
    exact key _ _ hp hk
  | @replay rid _ _ _ _ hsw =>
    obtain ⟨rfl, hk⟩ := Prod.mk.inj h
    cases hk
    exact key _ _ (findPw_savePw ..) (knownRes_okPw hsw)
  | @fresh rid _ _ _ _ =>
    obtain ⟨_, h1, h2, _, _⟩ := processFresh_ok c c1 wrapper m rid w h
    exact key c1 _ h1 (knownRes_okPw h2)

/-- **same_rumor_idempotent.**  A rumor whose id is already stored: `process_welcome` under ANY wrapper
    id — known or new, whatever the content behind that id decodes to now — writes no group record, no
    relay, no welcome and no MLS state; under a wrapper id not seen before it returns exactly the stored
    welcome (whatever its state: Pending, Accepted, Declined) and doing it again changes nothing. -/
theorem same_rumor_idempotent (c : Client) (wr rid : Nat) (m : Invite) (sw : Store.Welcome)
    (hr : m.rid = some rid) (hs : findWelcome c.store rid = some sw) :
    sameGroups c (process c wr m).1 ∧
    (m.shape ≠ 1 → findPw c.store wr = none →
      (process c wr m).2 = .welcome sw ∧ process (process c wr m).1 wr m = ((process c wr m).1, .welcome sw)) := by
  have hsame : sameGroups c (process c wr m).1 := by
    have hc := process_cases c wr m
    generalize process c wr m = q at hc
    cases hc with
    | fresh _ hr' _ hw => rw [hr] at hr'; cases hr'; rw [hs] at hw; cases hw
    | _ => exact ⟨rfl, rfl, rfl, rfl⟩
  refine ⟨hsame, fun hsh hpw => ?_⟩
  have h1 := process_replay hsh hr hpw hs
  rw [h1]
  exact ⟨rfl, same_wrapper_idempotent c _ wr m m sw h1 hsh (by rw [hr]; rfl)⟩

/-- **accepted_welcome_final.**  A welcome that is Accepted can be neither accepted again nor declined:
    both calls are refused and change nothing. -/
theorem accepted_welcome_final (c : Client) (m : Invite) (sw : Store.Welcome)
    (hs : m.rid.bind (findWelcome c.store) = some sw) (ha : sw.state = 1) :
    accept c m = (c, .err .welcome) ∧ decline c m = (c, .err .welcome) := by
  constructor
  · unfold accept; simp [hs, ha]
  · unfold decline; simp [hs, ha]

/-! ## 2. no Active group without consent -/

/-- one invitation op other than `accept` never turns a non-Active group Active: the records it writes are Pending
    (`process`) or Inactive (`decline`) -/
theorem nonaccept_keeps_inactive (c : Client) (o : IOp) (ho : o.isAccept = false) (gid : Nat)
    (h : isActive c gid = false) : isActive (apply c o).1 gid = false := by
  rw [isActive_false_iff] at h ⊢
  cases o with
  | accept m => cases ho
  | process wr m => exact process_kept (notActive_kept gid) c wr m (Nat.succ_ne_zero 1) trivial h
  | decline m => exact decline_kept (notActive_kept gid) c m (fun _ _ => Nat.succ_ne_zero 0) h

/-- **no_consent_no_active.**  For every history of received / re-received / failed / declined
    invitations (any wrapper ids, any contents, any order) that contains no `accept`, a group that was
    not Active is not Active afterwards. -/
theorem no_consent_no_active (c : Client) (ops : List IOp) (hna : ∀ o ∈ ops, o.isAccept = false) (gid : Nat)
    (h : isActive c gid = false) : isActive (irun c ops) gid = false := by
  induction ops generalizing c with
  | nil => exact h
  | cons o os ih =>
    simp only [irun, Welcome.run]
    exact ih _ (fun o' ho' => hna o' (List.mem_cons_of_mem _ ho')) (nonaccept_keeps_inactive c o (hna o (List.mem_cons_self ..)) gid h)

example : ∀ o ∈ ([Welcome.Op.process 1 default, Welcome.Op.decline default, Welcome.Op.process 2 default] : List IOp),
    o.isAccept = false := by decide +kernel

/-! ## 3. what `accept` establishes -/

/-- **accept_state.**  A successful `accept_welcome`: the client's MLS group of that id IS the
    invitation's (the inviter's post-commit token, epoch and member count — whatever was there before is
    replaced), the stored welcome (which was not Accepted before) is Accepted, and the group record of that
    id (if any) is Active with the self-update obligation pending. -/
theorem accept_state (c c' : Client) (m : Invite) (h : accept c m = (c', .done)) :
    alookup m.gid c'.mls = some { tok := m.tok, epoch := m.epoch, members := m.members } ∧
    (∃ sw, m.rid.bind (findWelcome c.store) = some sw ∧ sw.state ≠ 1 ∧ findWelcome c'.store sw.id = some { sw with state := 1 }) ∧
    (∀ g, findGroup c.store m.gid = some g → g.gid = m.gid →
      findGroup c'.store m.gid = some { g with state := 0, selfUpd := 0 }) := by
  unfold accept at h
  split at h; · cases h
  next sw hsw =>
  split at h; · cases h
  next hna =>
  split at h; · cases h
  simp only at h
  split at h; · cases h
  next s1 hs1 =>
  obtain rfl := saveWelcome_some hs1
  have hm := alookup_ainsert_self m.gid (⟨m.tok, m.epoch, m.members⟩ : MlsSt) c.mls
  have hw : (upsertWelcome { sw with state := 1 } c.store.welcomes).find? (·.id == sw.id) = some { sw with state := 1 } :=
    find_upsertWelcome_self { sw with state := 1 } _
  split at h
  · next hnone =>
    cases h
    exact ⟨hm, ⟨sw, hsw, hna, hw⟩, fun g hg _ => by rw [show findGroup c.store m.gid = none from hnone] at hg; cases hg⟩
  next g0 hg0 =>
  split at h; · cases h
  next s2 hs2 =>
  obtain rfl := saveGroup_some hs2
  split at h; · cases h
  next s3 hs3 =>
  obtain rfl := replaceRelays_some hs3
  cases h
  refine ⟨hm, ⟨sw, hsw, hna, hw⟩, fun g hg hgid => ?_⟩
  obtain rfl : g0 = g := Option.some.inj ((show findGroup c.store m.gid = some g0 from hg0).symm.trans hg)
  exact hgid ▸ find_replaceGroup_self { g0 with state := 0, selfUpd := 0 } _

/-- received for the first time (neither the wrapper id nor the rumor id known) and then accepted: the
    record is exactly the invitation's group data, Active, self-update Required, at the invitation's epoch -/
theorem accept_after_process (c c1 c2 : Client) (wr rid : Nat) (m : Invite) (w : Store.Welcome)
    (hrid : m.rid = some rid) (hfresh : findPw c.store wr = none) (hnew : findWelcome c.store rid = none)
    (hp : process c wr m = (c1, .welcome w)) (ha : accept c1 m = (c2, .done)) :
    findGroup c2.store m.gid = some { pendingGroup m with state := 0 } ∧
    alookup m.gid c2.mls = some { tok := m.tok, epoch := m.epoch, members := m.members } := by
  have hsh : m.shape ≠ 1 := fun e => by rw [process_invalid e] at hp; cases hp
  rw [process_fresh hsh hrid hfresh hnew] at hp
  have hrec := (processFresh_ok c c1 wr m rid w hp).2.2.2.1
  obtain ⟨h1, _, h3⟩ := accept_state c1 c2 m ha
  exact ⟨by simpa [pendingGroup] using h3 _ hrec rfl, h1⟩

/-! ## 4. invitations and the groups the user already holds -/

/-- **no_disturb** — the full-strength statement of the property: no invitation operation, whatever the
    invitation contains, changes (record, MLS state, relays of) a group in which the user is Active. -/
def no_disturb : Prop :=
  ∀ (c : Client) (o : IOp) (gid : Nat), isActive c gid = true → proj (apply c o).1 gid = proj c gid

theorem proj_of_sameGroups (c c' : Client) (h : sameGroups c c') (gid : Nat) : proj c' gid = proj c gid := by
  obtain ⟨h1, h2, _, h4⟩ := h
  simp [proj, findGroup, h1, h2, h4]

/-- **no_disturb_partial.**  An invitation operation can only touch the group whose MLS group id the
    invitation names.  Every OTHER group — Active or not — keeps its record, its MLS state and its relays,
    for every client state, operation, invitation content and backend. -/
theorem no_disturb_partial (c : Client) (o : IOp) (gid : Nat) (hne : gid ≠ o.invite.gid) :
    proj (apply c o).1 gid = proj c gid := by
  cases o with
  | process wr m => exact process_kept (proj_kept gid _) c wr m (Ne.symm hne) (Ne.symm hne) rfl
  | accept m => exact accept_kept (proj_kept gid _) c m (fun _ hg e => hne (e.symm.trans hg)) (Ne.symm hne) rfl
  | decline m => exact decline_kept (proj_kept gid _) c m (fun _ hg e => hne (e.symm.trans hg)) rfl

/-- the exact hypothesis under which an invitation operation is harmless: it names a group id the user
    does not hold Active, OR (for `process`) its rumor id is already stored, OR (for `accept` / `decline`)
    the stored welcome is already Accepted -/
def harmless (c : Client) : IOp → Prop
  | .process _ m => isActive c m.gid = false ∨ ∃ rid sw, m.rid = some rid ∧ findWelcome c.store rid = some sw
  | .accept m => isActive c m.gid = false ∨ ∃ sw, m.rid.bind (findWelcome c.store) = some sw ∧ sw.state = 1
  | .decline m => isActive c m.gid = false ∨ ∃ sw, m.rid.bind (findWelcome c.store) = some sw ∧ sw.state = 1

/-- **no_disturb_when_harmless.**  `no_disturb` holds for every invitation operation that satisfies
    `harmless` — in particular for EVERY replay of a rumor the client has stored (any wrapper id, any
    state of the group), for every second accept / late decline of an Accepted welcome, and for every
    invitation to a group the user is not Active in. -/
theorem no_disturb_when_harmless (c : Client) (o : IOp) (hH : harmless c o) (gid : Nat)
    (ha : isActive c gid = true) : proj (apply c o).1 gid = proj c gid := by
  have other : isActive c o.invite.gid = false → proj (apply c o).1 gid = proj c gid := by
    intro hna
    apply no_disturb_partial
    intro e; rw [e, hna] at ha; cases ha
  cases o with
  | process wr m =>
    rcases hH with h | ⟨rid, sw, hr, hs⟩
    · exact other h
    · exact proj_of_sameGroups _ _ (same_rumor_idempotent c wr rid m sw hr hs).1 gid
  | accept m =>
    rcases hH with h | ⟨sw, hs, hst⟩
    · exact other h
    · simp only [apply, (accepted_welcome_final c m sw hs hst).1]
  | decline m =>
    rcases hH with h | ⟨sw, hs, hst⟩
    · exact other h
    · simp only [apply, (accepted_welcome_final c m sw hs hst).2]

/-! ## 5. refusals -/

/-- the full-strength "a refused invitation has no effect on any group" -/
def refused_has_no_effect : Prop :=
  ∀ (c : Client) (wr : Nat) (m : Invite) (k : ErrK) (gid : Nat),
    (process c wr m).2 = .err k → proj (process c wr m).1 gid = proj c gid

/-- **refused_process_no_effect.**  Every refusal of `process_welcome` leaves every group untouched —
    invalid structure, missing rumor id (now checked first), known wrapper id, failing preview (which only
    adds its Failed dedup record) — provided the store does not refuse one of the writes AFTER the group
    record was saved (`hlim`: relay / welcome limits of the memory backend; see the next witness). -/
theorem refused_process_no_effect (c : Client) (wr : Nat) (m : Invite) (k : ErrK) (gid : Nat)
    (hlim : ∀ s1, saveGroup c.store (pendingGroup m) = some s1 →
      ∃ s2, replaceRelays s1 m.gid m.relays = some s2 ∧
        ∀ rid, (saveWelcome s2 (welcomeOf m rid wr)).isSome = true)
    (h : (process c wr m).2 = .err k) : proj (process c wr m).1 gid = proj c gid := by
  have pj : ∀ (p : PW), proj { c with store := savePw c.store p } gid = proj c gid := fun _ => rfl
  have hc := process_cases c wr m
  generalize process c wr m = q at hc h ⊢
  cases hc with
  | invalid | noId | known => rfl
  | replay => exact pj _
  | @fresh rid =>
    unfold processFresh at h ⊢
    by_cases h2 : m.shape = 2
    · simp only [h2, if_true]; exact pj _
    · simp only [h2, if_false] at h ⊢
      cases hs1 : saveGroup c.store (pendingGroup m) with
      | none => rfl
      | some s1 =>
        obtain ⟨s2, hr2, hw⟩ := hlim s1 hs1
        simp only [hs1, hr2] at h ⊢
        have hw' := hw rid
        cases hsw : saveWelcome s2 (welcomeOf m rid wr) with
        | none => rw [hsw] at hw'; cases hw'
        | some s4 => simp [hsw] at h

/-- the hypothesis is the ordinary case: for an invitation within the store limits all four writes go through -/
example : ∃ s1 s2, saveGroup (Client.empty .mem).store (pendingGroup (default : Invite)) = some s1 ∧
    replaceRelays s1 (default : Invite).gid [1, 2] = some s2 ∧
    (saveWelcome s2 (welcomeOf default 0 1)).isSome = true := ⟨_, _, rfl, rfl, rfl⟩

/-- … `refused_has_no_effect` in full is still false, by a store limit only: on the memory backend a
    welcome naming more relays than the store accepts is refused by `replace_group_relays` AFTER
    `save_group` wrote the Pending record.  (Model-level witness resting on the store model validated for
    C10; the harness does not generate 101-relay groups.) -/
theorem refused_store_limit_effect :
    let m : Invite := { (default : Invite) with rid := some 0, gid := 1, nid := 101, relays := List.range 101 }
    (process (Client.empty .mem) 7 m).2 = .err .group ∧
    findGroup (process (Client.empty .mem) 7 m).1.store 1 = some (pendingGroup m) := by
  decide +kernel

theorem refused_has_no_effect_false : ¬ refused_has_no_effect := by
  intro h
  have key := refused_store_limit_effect
  dsimp only at key
  have := congrArg Proj.record (h _ _ _ _ 1 key.1)
  simp only [proj, key.2] at this
  cases this

/-- the id-less rumor is now refused before anything is written (was `welcome-row-before-reject`) -/
theorem missing_id_no_effect (c : Client) (wr : Nat) (m : Invite) (h : m.rid = none) :
    (process c wr m).1 = c := by
  by_cases h1 : m.shape = 1
  · rw [process_invalid h1]
  · rw [process_noId h1 h]

/-! ## 6. witnesses: what the repair fixed, and what is still false of the code
    (each history is in `corpus/C16/` and replayed on the implementation on every run) -/

/-- an invitation to group 1: inviter's post-commit state token 0 at epoch 1, two members -/
def wInv : Invite :=
  { rid := some 0, shape := 0, gid := 1, nid := 101, nameLen := 5, descLen := 3, admins := 1, relays := [1, 2],
    epoch := 1, tok := 0, members := 2, welcomer := 0 }

/-- the group moves on: a commit from state 0 to state 1 (epoch 2) -/
def wCommit : Commit :=
  { gid := 1, nid := 101, toNid := 101, fromTok := 0, toTok := 1, toEpoch := 2, members := 2, nameLen := 5, removesMe := false }

/-- a client that received the invitation under wrapper 10, accepted it and followed the group to epoch 2 -/
def cJoined (b : Backend) : Client :=
  let c1 := (process (Client.empty b) 10 wInv).1
  let c2 := (accept c1 wInv).1
  (applyCommit c2 wCommit).getD c2

theorem cJoined_ok (b : Backend) :
    isActive (cJoined b) 1 = true ∧ ((findGroup (cJoined b).store 1).map (·.epoch)) = some 2 ∧
    alookup 1 (cJoined b).mls = some { tok := 1, epoch := 2, members := 2 } ∧ canDecrypt (cJoined b) 1 101 1 = true := by
  cases b <;> decide +kernel

/-- regression facts (witnesses of the defect until /repo 4010ddc): the SAME welcome under a new wrapper id (11)
    leaves the Active member's group as it is; accepting or declining it afterwards is refused -/
theorem replay_fixed (b : Backend) :
    let c1 := (apply (cJoined b) (.process 11 wInv)).1
    proj c1 1 = proj (cJoined b) 1 ∧
    (apply c1 (.accept wInv)).2 = .err .welcome ∧ proj (apply c1 (.accept wInv)).1 1 = proj (cJoined b) 1 ∧
    (apply c1 (.decline wInv)).2 = .err .welcome ∧ proj (apply c1 (.decline wInv)).1 1 = proj (cJoined b) 1 ∧
    canDecrypt (apply c1 (.accept wInv)).1 1 101 1 = true := by
  cases b <;> decide +kernel

/-- **C16_witness_foreign_creator** (OPEN).  Somebody who is NOT in the group but knows its MLS group id
    creates a new MLS group with that id (own group data: nostr group id 777, another name) and invites the
    member.  It is a DIFFERENT rumor, so neither dedup applies: merely PROCESSING it — no consent —
    overwrites the Active group's record with the foreign group data, and the real group's events are no
    longer routed to it (`canDecrypt` false although the MLS state is intact).  Accepting it replaces the
    MLS state by the foreign group's; declining it leaves the group Inactive. -/
theorem C16_witness_foreign_creator (b : Backend) :
    let forged : Invite := { wInv with rid := some 9, nid := 777, nameLen := 9, tok := 50, welcomer := 2 }
    let c1 := (apply (cJoined b) (.process 30 forged)).1
    let c2 := (apply c1 (.accept forged)).1
    let c3 := (apply c1 (.decline forged)).1
    (apply (cJoined b) (.process 30 forged)).2 = .welcome (welcomeOf forged 9 30) ∧
    ((findGroup c1.store 1).map (fun g => (g.state, g.nid, g.nameLen))) = some (2, 777, 9) ∧
    alookup 1 c1.mls = some { tok := 1, epoch := 2, members := 2 } ∧ canDecrypt c1 1 101 1 = false ∧
    isActive c2 1 = true ∧ alookup 1 c2.mls = some { tok := 50, epoch := 1, members := 2 } ∧
    ((findGroup c3.store 1).map (·.state)) = some 1 := by
  cases b <;> decide +kernel

/-- **C16_witness_other_invitation** (OPEN).  ANOTHER genuine invitation to the same group — here an
    older one (rumor 3, epoch 0 state 7) that is delivered only after the member joined through rumor 0 and
    the group moved on — is not a replay either: processing it resets the Active group to Pending at the
    old epoch, and accepting it replaces the current MLS state by the stale one. -/
theorem C16_witness_other_invitation (b : Backend) :
    let older : Invite := { wInv with rid := some 3, epoch := 0, tok := 7 }
    let c1 := (apply (cJoined b) (.process 40 older)).1
    let c2 := (apply c1 (.accept older)).1
    ((findGroup c1.store 1).map (fun g => (g.state, g.epoch))) = some (2, 0) ∧
    alookup 1 c2.mls = some { tok := 7, epoch := 0, members := 2 } ∧ canDecrypt c2 1 101 1 = false := by
  cases b <;> decide +kernel

/-- the full-strength statement is false of the code -/
theorem no_disturb_false : ¬ no_disturb := by
  intro h
  have := h (cJoined .sql) (.process 30 { wInv with rid := some 9, nid := 777, nameLen := 9, tok := 50, welcomer := 2 }) 1 (by decide +kernel)
  revert this; decide +kernel

/-- the witnesses lie outside `harmless`, as they must -/
example : ¬ harmless (cJoined .sql) (.process 30 { wInv with rid := some 9, nid := 777 }) := by
  intro h
  rcases h with h | ⟨rid, sw, hr, hs⟩
  · revert h; decide
  · cases hr
    have : findWelcome (cJoined .sql).store 9 = none := by decide +kernel
    rw [this] at hs; cases hs

/-- the full-strength reading of "accept puts the joiner in exactly the inviter's post-commit state" for
    the group RECORD: after a successful accept the record is at the accepted invitation's epoch … -/
def accept_record_full : Prop :=
  ∀ (c : Client) (m : Invite), (accept c m).2 = .done →
    ∀ g, findGroup (accept c m).1.store m.gid = some g → g.epoch = m.epoch

/-- … is false (OPEN): `accept_welcome` keeps whatever record is stored under that group id.  Two
    invitations to the same group are pending (eviction and re-invitation before either was looked at); the
    newer one (epoch 3) was processed last; accepting the older one (epoch 1) joins MLS state 0 at epoch 1
    while the record stays at epoch 3.  `accept_after_process` is the partial statement.
    Replayed by `corpus/C16/accept_older_invitation.trace`. -/
theorem accept_record_full_false : ¬ accept_record_full := by
  intro h
  let newer : Invite := { wInv with rid := some 1, epoch := 3, tok := 5 }
  let c1 := (process (Client.empty .sql) 10 wInv).1
  let c2 := (process c1 20 newer).1
  have := h c2 wInv (by decide +kernel) { pendingGroup newer with state := 0 } (by decide +kernel)
  revert this; decide +kernel

/-! ## 7. the tie to the source -/

/-- **welcome_step_order.**  The order of validation, storage and MLS steps the model transcribes is the
    order `tools/gen_model.py` extracts from `process_welcome` / `accept_welcome` / `decline_welcome` on
    every run; the rumor-id dedup precedes preview and every group write; accept and decline refuse an
    Accepted welcome before preview; the staged welcome is built with `.replace_old_group()`; and
    `process_welcome` still does not look for an Active group of that id before writing (the open
    findings).  A change of any of these facts breaks this theorem. -/
theorem welcome_step_order :
    Welcome.processOrder = Generated.welcomeProcessOrder ∧ Welcome.acceptOrder = Generated.welcomeAcceptOrder ∧
    Welcome.declineOrder = Generated.welcomeDeclineOrder ∧ Generated.welcomeProcessDedupsByRumorId = true ∧
    Generated.acceptRefusesAccepted = true ∧ Generated.welcomeReplacesOldGroup = true ∧
    Generated.welcomeProcessChecksHeldGroup = false := by decide +kernel

/-- **save_group_uniqueness_as_modelled.**  The uniqueness rule `Model.Store.saveGroup` transcribes is what
    the source says on this run: the SQLite upsert of `save_group` names `mls_group_id` as its conflict target
    (a bare `ON CONFLICT DO UPDATE` would turn a conflict on the UNIQUE index of `nostr_group_id` into an UPDATE of
    the OTHER group's row), the UNIQUE index on `groups(nostr_group_id)` exists, and the memory backend looks the
    new id up in its by-id index and refuses a foreign owner before it writes; `save_group(Pending)` is the first
    storage write of `process_welcome` after the dedup lookups (positions of step 3 in `welcomeProcessOrder`). -/
theorem save_group_uniqueness_as_modelled :
    Generated.sqlSaveGroupConflictTarget = ["mls_group_id"] ∧ Generated.sqlNostrGroupIdUnique = true ∧
    Generated.memSaveGroupRefusesForeignNostrId = true ∧
    (Generated.welcomeProcessOrder.takeWhile (· ≠ 3)).all (fun x => x ∈ [0, 5, 1, 10, 6, 2]) = true := by decide +kernel


/-! ## 8. the nostr group id: collisions, uniqueness, routing

    The invitation's group data (and with it the nostr group id, the key by which kind-445 events are routed
    to a group: `find_group_by_nostr_group_id` is the first step of `process_message`) is chosen by the inviter;
    the id of any group is public (it is the `h` tag).  A hostile inviter can therefore hand the user an
    invitation to its OWN group M that carries the id of a group G the user holds.  What stands between that
    invitation and G's record is the uniqueness rule of `save_group` (Model.Store.saveGroup, both backends;
    tied to the source by `save_group_uniqueness_as_modelled`). -/

/-- the routing invariant of a client's store (`Proofs/WelcomeNid.lean`): no two records share a nostr group
    id, no two records share an MLS group id, and the memory backend's by-id index answers every record's id with
    that record -/
abbrev NidOK (c : Client) : Prop := NidInv c.store

/-- the invitation collides: its nostr group id is carried by the record of ANOTHER group of the recipient
    (in any state: Active, Pending, Inactive) -/
def collides (c : Client) (m : Invite) : Prop := HeldByOther c.store m.nid m.gid

theorem processFresh_collision (c : Client) (wr rid : Nat) (m : Invite) (hinv : NidOK c) (hc : collides c m) :
    processFresh c wr m rid =
      if m.shape = 2 then ({ c with store := savePw c.store (failedPw wr m) }, .err .welcome) else (c, .err .group) := by
  have : saveGroup c.store (pendingGroup m) = none := saveGroup_collision c.store (pendingGroup m) hinv hc
  unfold processFresh
  simp [this]

/-- **collision_refused.**  A decodable invitation met for the first time (neither its wrapper id nor its
    rumor id known) whose nostr group id is held by another group of the recipient is REFUSED by
    `process_welcome` (`Error::Group`), on both backends, whatever else the invitation contains — and the
    client is literally unchanged.  (The first conjunct names the facts of the source the uniqueness rule of
    the storage model transcribes: the SQLite upsert names its conflict target `mls_group_id`, the UNIQUE index
    on `groups(nostr_group_id)` exists, the memory backend checks its by-id index before writing.) -/
theorem collision_refused (c : Client) (wr rid : Nat) (m : Invite) (hinv : NidOK c) (hc : collides c m)
    (hs1 : m.shape ≠ 1) (hs2 : m.shape ≠ 2) (hrid : m.rid = some rid)
    (hpw : findPw c.store wr = none) (hnw : findWelcome c.store rid = none) :
    (Generated.sqlSaveGroupConflictTarget = ["mls_group_id"] ∧ Generated.sqlNostrGroupIdUnique = true ∧
      Generated.memSaveGroupRefusesForeignNostrId = true) ∧
    process c wr m = (c, .err .group) := by
  refine ⟨by decide, ?_⟩
  rw [process_fresh hs1 hrid hpw hnw, processFresh_collision c wr rid m hinv hc, if_neg hs2]

/-- **collision_leftovers** (what a colliding invitation leaves behind, ALL cases).  Whatever the
    invitation's shape and whatever is already known of it, `process_welcome` of a colliding invitation
    leaves the client unchanged or adds exactly one processed-welcome (dedup) record — the Failed record of an
    undecodable rumor or the Processed record of a replayed, already stored rumor, as for any other
    invitation; a refused decodable one leaves NOTHING (`collision_refused`): no record, no welcome, no group,
    no MLS state.  So it can be retried under the same wrapper id, it is refused the same way for as long as
    the collision lasts, and it can be neither accepted nor declined (there is no stored welcome). -/
theorem collision_leftovers (c : Client) (wr : Nat) (m : Invite) (hinv : NidOK c) (hc : collides c m) :
    ((process c wr m).1 = c ∨ ∃ p, (process c wr m).1 = { c with store := savePw c.store p }) ∧
    (∀ rid, m.shape ≠ 1 → m.shape ≠ 2 → m.rid = some rid → findPw c.store wr = none → findWelcome c.store rid = none →
      process (process c wr m).1 wr m = (c, .err .group) ∧
      accept (process c wr m).1 m = (c, .err .noStored) ∧ decline (process c wr m).1 m = (c, .err .noStored)) := by
  constructor
  · have hq := process_cases c wr m
    generalize process c wr m = q at hq
    cases hq with
    | invalid | noId | known => exact .inl rfl
    | replay => exact .inr ⟨_, rfl⟩
    | @fresh rid =>
      rw [processFresh_collision c wr rid m hinv hc]
      split
      · exact .inr ⟨_, rfl⟩
      · exact .inl rfl
  · intro rid hs1 hs2 hrid hpw hnw
    have h := (collision_refused c wr rid m hinv hc hs1 hs2 hrid hpw hnw).2
    rw [h]
    refine ⟨h, ?_, ?_⟩
    · unfold accept; simp [hrid, hnw]
    · unfold decline; simp [hrid, hnw]

/-- **collision_frame.**  `process_welcome` of a colliding invitation — any shape, any wrapper id, any
    dedup state, whatever it contains — changes NO group of the recipient: the list of group records (every
    field of every record incl. nostr group id, state, epoch, name, admins), the relays, the stored welcomes,
    the messages, the MLS states and the memory backend's by-id index are the same; hence the projection of
    the held group and of every other group is unchanged, the store answers every nostr group id as before
    (routing), and the routing invariant still holds.  This extends `no_disturb_when_harmless` (which covers the
    collision only when the invitation's OWN group is not Active) to every state of the invitation's group. -/
theorem collision_frame (c : Client) (wr : Nat) (m : Invite) (hinv : NidOK c) (hc : collides c m) :
    sameGroups c (process c wr m).1 ∧ (process c wr m).1.store.byNid = c.store.byNid ∧
    (process c wr m).1.store.msgs = c.store.msgs ∧
    (∀ gid, proj (process c wr m).1 gid = proj c gid) ∧
    (∀ n, findGroupNostr (process c wr m).1.store n = findGroupNostr c.store n) ∧
    NidOK (process c wr m).1 := by
  have key : ∀ c' : Client, (c' = c ∨ ∃ p, c' = { c with store := savePw c.store p }) →
      sameGroups c c' ∧ c'.store.byNid = c.store.byNid ∧ c'.store.msgs = c.store.msgs ∧
      (∀ gid, proj c' gid = proj c gid) ∧ (∀ n, findGroupNostr c'.store n = findGroupNostr c.store n) ∧ NidOK c' := by
    intro c' h
    rcases h with rfl | ⟨p, rfl⟩
    · exact ⟨⟨rfl, rfl, rfl, rfl⟩, rfl, rfl, fun _ => rfl, fun _ => rfl, hinv⟩
    · exact ⟨⟨rfl, rfl, rfl, rfl⟩, rfl, rfl, fun _ => rfl, fun _ => rfl, savePw_nidInv _ _ hinv⟩
  exact key _ (collision_leftovers c wr m hinv hc).1

/-- `harmless`, widened by the collision case: an invitation (to any group, also one the user is Active in) whose
    nostr group id another record of the recipient carries -/
def harmlessOrColliding (c : Client) (o : IOp) : Prop :=
  harmless c o ∨ (NidOK c ∧ ∃ wr m, o = .process wr m ∧ collides c m)

/-- **no_disturb_when_harmless_or_colliding.**  `no_disturb` for every operation in `harmless` and, in addition,
    for `process_welcome` of every colliding invitation. -/
theorem no_disturb_when_harmless_or_colliding (c : Client) (o : IOp) (hH : harmlessOrColliding c o) (gid : Nat)
    (ha : isActive c gid = true) : proj (apply c o).1 gid = proj c gid := by
  rcases hH with h | ⟨hinv, wr, m, rfl, hc⟩
  · exact no_disturb_when_harmless c o h gid ha
  · exact (collision_frame c wr m hinv hc).2.2.2.1 gid

/-- a client that holds group 1 Active (`cJoined`) satisfies the hypotheses: the routing invariant holds and an
    invitation to ANOTHER group (2) carrying group 1's nostr group id (101) collides -/
example (b : Backend) : collides (cJoined b) { wInv with rid := some 9, gid := 2, nid := 101 } :=
  ⟨1, _, (by cases b <;> decide : findGroup (cJoined b).store 1 = some
      { gid := 1, nid := 101, nameLen := 5, descLen := 3, admins := 1, img := 0, lastId := none, lastAt := none,
        lastProc := none, epoch := 2, state := 0, selfUpd := 0 }), rfl, by decide⟩

/-- one step of any history keeps the routing invariant -/
theorem nid_inv_step (c : Client) (o : TOp) (h : NidOK c) : NidOK (tapply c o) := by
  cases o with
  | inv o =>
    cases o with
    | process wr m => exact process_nidInv c wr m h
    | accept m => exact accept_nidInv c m h
    | decline m => exact decline_nidInv c m h
  | commit k => exact deliverCommit_nidInv c k h
  | probe gid nid tok seq => exact deliverApp_nidInv c gid nid tok seq h

theorem nid_inv_run (c : Client) (ops : List TOp) (h : NidOK c) : NidOK (trun c ops) := by
  induction ops generalizing c with
  | nil => exact h
  | cons o os ih => exact ih _ (nid_inv_step c o h)

/-- **nid_unique_inv.**  Over ALL histories of invitation operations (process / accept / decline of any
    invitations under any wrapper ids), deliveries of commits of any group (incl. commits that rotate the nostr
    group id, onto any value) and stored application messages, in any order and of any length, on both
    backends: no two groups of the client ever carry the same nostr group id — the routing key of C08 — and the
    store answers the id of every record with that record's group. -/
theorem nid_unique_inv (b : Backend) (ops : List TOp) :
    (∀ a a' g g', findGroup (trun (Client.empty b) ops).store a = some g →
      findGroup (trun (Client.empty b) ops).store a' = some g' → g.nid = g'.nid → a = a') ∧
    (∀ a g, findGroup (trun (Client.empty b) ops).store a = some g →
      ∃ x, findGroupNostr (trun (Client.empty b) ops).store g.nid = some x ∧ x.gid = a) := by
  have h : NidOK (trun (Client.empty b) ops) := nid_inv_run _ ops (nidInv_empty b)
  exact ⟨h.uniq, nidInv_routes _ h⟩

/-- … and `cJoined`, the client of the closed witnesses, is reachable, hence satisfies `NidOK` -/
example (b : Backend) : NidOK (cJoined b) := by
  have : cJoined b = trun (Client.empty b) [.inv (.process 10 wInv), .inv (.accept wInv), .commit wCommit] := by
    cases b <;> rfl
  rw [this]; exact nid_inv_run _ _ (nidInv_empty b)

/-- the invariant is not vacuous: a history in which the recipient joins group 1, group 1 rotates to id 300,
    and the recipient then holds group 2 under group 1's FORMER id 101 -/
example : ((trun (Client.empty .sql)
    [.inv (.process 10 wInv), .inv (.accept wInv),
     .commit { wCommit with toNid := 300 },
     .inv (.process 20 { wInv with rid := some 5, gid := 2, nid := 101 })]).store.groups.map (fun g => (g.gid, g.nid)))
    = [(1, 300), (2, 101)] := by decide +kernel

/-! ### closed witnesses (replayed on the implementation: `corpus/C16/nid_collision_*.trace`) -/

/-- every table of the client an invitation could touch is the same (decidable, for closed witnesses) -/
def sameAll (c c' : Client) : Prop :=
  c'.store.groups = c.store.groups ∧ c'.store.byNid = c.store.byNid ∧ c'.store.relays = c.store.relays ∧
  c'.store.welcomes = c.store.welcomes ∧ c'.store.pws = c.store.pws ∧ c'.store.msgs = c.store.msgs ∧ c'.mls = c.mls

instance (c c' : Client) : Decidable (sameAll c c') := by unfold sameAll; infer_instance

/-- the hostile invitation: ANOTHER group (2), carrying the nostr group id 101 of the group the user is in, other
    name, other inviter -/
def wHostile : Invite := { wInv with rid := some 9, gid := 2, nid := 101, nameLen := 9, tok := 50, welcomer := 2 }

/-- **C16_witness_collision_refused.**  On both backends the hostile invitation is refused, under the first and
    under any other wrapper id, the client — record, MLS state, routing of group 1 — is literally unchanged and
    can still read group 1; accept / decline have nothing to act on.  Once group 1 has rotated away (to id 300)
    and the recipient has followed, the SAME invitation under the SAME wrapper id is stored, can be accepted,
    and both groups are routed by their own ids. -/
theorem C16_witness_collision_refused (b : Backend) :
    let c := cJoined b
    (process c 30 wHostile).2 = .err .group ∧ sameAll c (process c 30 wHostile).1 ∧
    (process c 31 wHostile).2 = .err .group ∧ sameAll c (process c 31 wHostile).1 ∧
    (accept c wHostile).2 = .err .noStored ∧ sameAll c (accept c wHostile).1 ∧
    (decline c wHostile).2 = .err .noStored ∧ sameAll c (decline c wHostile).1 ∧
    canDecrypt c 1 101 1 = true ∧
    (let c1 := (deliverCommit c { gid := 1, nid := 101, toNid := 300, fromTok := 1, toTok := 2, toEpoch := 3, members := 2, nameLen := 5, removesMe := false }).1
     let c2 := (process c1 30 wHostile).1
     let c3 := (accept c2 wHostile).1
     (process c1 30 wHostile).2 = .welcome (welcomeOf wHostile 9 30) ∧ (accept c2 wHostile).2 = .done ∧
     (c3.store.groups.map (fun g => (g.gid, g.nid, g.state))) = [(1, 300, 0), (2, 101, 0)] ∧
     canDecrypt c3 1 300 2 = true ∧ canDecrypt c3 2 101 50 = true) := by
  cases b <;> decide +kernel

/-- the squat (observation, not a violation of C16's text: no group the user is Active in is touched): a
    stranger's invitation that is merely RECEIVED — Pending, never consented to, even declined — occupies its
    nostr group id; the genuine invitation to the group that really uses this id is refused for as long as that
    record exists. -/
theorem C16_witness_squat (b : Backend) :
    let c1 := (process (Client.empty b) 30 wHostile).1
    let c2 := (decline c1 wHostile).1
    (process (Client.empty b) 30 wHostile).2 = .welcome (welcomeOf wHostile 9 30) ∧
    (process c1 10 wInv).2 = .err .group ∧ sameAll c1 (process c1 10 wInv).1 ∧ (decline c1 wHostile).2 = .done ∧
    (process c2 10 wInv).2 = .err .group ∧ sameAll c2 (process c2 10 wInv).1 := by
  cases b <;> decide +kernel

/-- the full-strength reading "an invitation the user never consented to has no influence on the groups the user
    IS in, now or later" … -/
def unconsented_invitation_inert : Prop :=
  ∀ (c : Client) (wr : Nat) (m : Invite) (k : Commit), isActive c k.gid = true → isActive c m.gid = false →
    (deliverCommit c k).2 = .applied → (deliverCommit (process c wr m).1 k).2 = .applied

/-- … is false of the code (the known mechanism store-limit-sync-failure of C06 / C08 through a new door): a
    merely received invitation occupies nostr group id 300; when the group the user is Active in later rotates
    to 300, the commit is merged into the MLS state and the store then refuses the synced record — the group
    is one epoch ahead of its record and is no longer routed by the id its other members use. -/
theorem unconsented_invitation_inert_false : ¬ unconsented_invitation_inert := by
  intro h
  have := h (cJoined .sql) 30 { wHostile with nid := 300 }
    { gid := 1, nid := 101, toNid := 300, fromTok := 1, toTok := 2, toEpoch := 3, members := 2, nameLen := 5, removesMe := false }
    (by decide +kernel) (by decide +kernel) (by decide +kernel)
  revert this; decide +kernel

/-! ### the exporter-secret cache (found by the correspondence run of the thorough tier) -/

def isWelcome : Res → Bool
  | .welcome _ => true
  | _ => false

/-- the full-strength reading of "accepting a valid invitation puts the joiner in exactly the inviter's post-commit
    group state": … and the joiner reads what the inviter sends from that state under the group's id -/
def accept_then_readable : Prop :=
  ∀ (c : Client) (wr : Nat) (m : Invite), isWelcome (process c wr m).2 = true →
    (accept (process c wr m).1 m).2 = .done → canDecrypt (accept (process c wr m).1 m).1 m.gid m.nid m.tok = true

/-- … is false of the code (OBSERVATION `joined-but-unreadable:stale-exporter-secret`; it needs the open finding
    welcome-foreign-creator-replaces-mls first).  `exporter_secret` is get-or-create on (group id, epoch NUMBER).  The
    user accepted a foreign creator's group carrying group 1's MLS group id (epoch 1, state 50), and one event was routed
    to it — any event tagged with its id, here one of another group: `decrypt_message` caches the secret of the group it
    routes to before it knows anything else.  The genuine invitation (epoch 1, state 0) is then processed and accepted:
    the MLS state IS the inviter's (`accept_state`), the record is the invitation's — and the outer layer of every event
    of the group is opened with the cached secret of state 50: nothing the group sends is ever read, the commit to
    epoch 2 included.  Replayed by `corpus/C16/stale_exporter_secret_after_foreign_accept.trace`. -/
theorem accept_then_readable_false : ¬ accept_then_readable := by
  intro h
  let forged : Invite := { wInv with rid := some 9, nid := 777, nameLen := 9, tok := 50, welcomer := 2 }
  let c1 := (process (Client.empty .sql) 30 forged).1
  let c2 := (accept c1 forged).1
  let c3 := (deliverApp c2 5 777 99 1).1
  have := h c3 10 wInv (by decide +kernel) (by decide +kernel)
  revert this; decide +kernel

/-- the control: without an event routed to the foreign group nothing is cached and the genuine group is readable;
    and in the witness the joiner's MLS state is exactly the inviter's -/
example :
    let forged : Invite := { wInv with rid := some 9, nid := 777, nameLen := 9, tok := 50, welcomer := 2 }
    let c2 := (accept (process (Client.empty .sql) 30 forged).1 forged).1
    let c3 := (deliverApp c2 5 777 99 1).1
    canDecrypt (accept (process c2 10 wInv).1 wInv).1 1 101 0 = true ∧
    alookup 1 (accept (process c3 10 wInv).1 wInv).1.mls = some { tok := 0, epoch := 1, members := 2 } ∧
    canDecrypt (accept (process c3 10 wInv).1 wInv).1 1 101 0 = false := by decide +kernel

end MdkVerif.Props.C16
