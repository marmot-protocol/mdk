import MdkVerif.Model.Crash
import MdkVerif.Model.CrashCore
import MdkVerif.Model.CrashSeq
import MdkVerif.Proofs.Crash
/-
  C12 — A crash at any storage step leaves a recoverable database.  Claimed PARTIAL.  Three parts:

  1. Statement level (`Model.Crash`, SQLite backend): the calls that are bracketed by BEGIN … COMMIT or
     SAVEPOINT … RELEASE (`Generated.sql*In*`, re-extracted from the source on every run) are all-or-nothing at
     EVERY crash point, for every database contents `d0 : δ` (in particular every `Store`), every list of data
     statements `body` and every number of preceding SELECTs.  That an interrupted transaction is rolled back on
     reopening and a COMMIT is all-or-nothing (journal / WAL recovery, fsync) is SQLite's guarantee.
  2. mdk-core level (`Model.CrashCore`): which crash points inside `process_message`, `process_welcome`,
     `merge_pending_commit` — many separate auto-committed writes — are recovered by handing the event over again.
  3. Every entry point of the regenerated table of write sequences (`Model.CrashSeq`): soundness of the decision
     procedure applied to the real store, and the exact list of unrecovered prefixes.
-/
namespace MdkVerif.Props.C12
open MdkVerif MdkVerif.Crash

variable {δ : Type}

/-- BEGIN … COMMIT: a process death after any number `k` of statements leaves either the contents
    before the call or the contents after all of it — and the latter only if the whole call,
    COMMIT included, was executed -/
theorem txn_atomic (d0 : δ) (reads : Nat) (body : List (δ → δ)) (k : Nat) :
    crashAt k (txnCall true reads body) d0 = d0 ∨
    (crashAt k (txnCall true reads body) d0 = effect body d0 ∧ (txnCall true reads body).length ≤ k) :=
  bracket_atomic .begin .commit d0 reads body rfl (fun _ => rfl) k

/-- the same for SAVEPOINT … RELEASE issued outside a transaction -/
theorem savepoint_atomic (d0 : δ) (reads : Nat) (body : List (δ → δ)) (k : Nat) :
    crashAt k (savepointCall true reads body) d0 = d0 ∨
    (crashAt k (savepointCall true reads body) d0 = effect body d0 ∧ (savepointCall true reads body).length ≤ k) :=
  bracket_atomic .savepoint .release d0 reads body rfl (fun _ => rfl) k

/-- uninterrupted, both forms have the effect of their body -/
theorem txn_complete (d0 : δ) (reads : Nat) (body : List (δ → δ)) :
    complete (txnCall true reads body) d0 = effect body d0 ∧ complete (savepointCall true reads body) d0 = effect body d0 :=
  ⟨complete_bracket .begin .commit d0 reads body rfl (fun _ => rfl),
   complete_bracket .savepoint .release d0 reads body rfl (fun _ => rfl)⟩

/-- `create_group_snapshot` (sqlite): all its writes are inside one transaction
    (`Generated.sqlSnapshotInTransaction`), so it is all-or-nothing at every crash point -/
theorem snapshot_create_atomic (d0 : δ) (body : List (δ → δ)) (k : Nat) :
    let call := txnCall Generated.sqlSnapshotInTransaction 0 body
    crashAt k call d0 = d0 ∨ crashAt k call d0 = effect body d0 :=
  (txn_atomic d0 0 body k).imp_right And.left

/-- `rollback_group_to_snapshot` (sqlite): the snapshot rows are SELECTed BEFORE `BEGIN`
    (`Generated.sqlRestoreReadsBeforeBegin`; `reads` statements — they change nothing and run on the
    same connection, under the same connection-lock hold, as the transaction), the deletes and
    re-inserts computed from them are inside one transaction: all-or-nothing at every crash point -/
theorem restore_atomic (d0 : δ) (reads : Nat) (body : List (δ → δ)) (k : Nat) :
    let call := txnCall Generated.sqlRestoreInTransaction (if Generated.sqlRestoreReadsBeforeBegin then reads else 0) body
    crashAt k call d0 = d0 ∨ crashAt k call d0 = effect body d0 :=
  (txn_atomic d0 _ body k).imp_right And.left

/-- `replace_group_relays` (sqlite): DELETE + INSERTs between SAVEPOINT and RELEASE
    (`Generated.sqlReplaceRelaysInSavepoint`): all-or-nothing at every crash point -/
theorem replace_relays_atomic (d0 : δ) (body : List (δ → δ)) (k : Nat) :
    let call := savepointCall Generated.sqlReplaceRelaysInSavepoint 0 body
    crashAt k call d0 = d0 ∨ crashAt k call d0 = effect body d0 :=
  (savepoint_atomic d0 0 body k).imp_right And.left

/-- what the tick hook can observe: every tick precedes its statement, so a death at ANY tick of a
    bracketed call (fewer than all statements executed) leaves exactly the contents before the call -/
theorem crash_inside_is_pre (d0 : δ) (reads : Nat) (body : List (δ → δ)) (k : Nat)
    (hk : k < (txnCall true reads body).length) : crashAt k (txnCall true reads body) d0 = d0 :=
  (txn_atomic d0 reads body k).resolve_right fun x => Nat.not_le_of_lt hk x.2

/-- re-executing the interrupted call after reopening reaches the uninterrupted result -/
theorem retry_reaches_post (d0 : δ) (reads : Nat) (body : List (δ → δ)) (k : Nat)
    (hk : k < (txnCall true reads body).length) :
    complete (txnCall true reads body) (crashAt k (txnCall true reads body) d0) = effect body d0 := by
  rw [crash_inside_is_pre d0 reads body k hk]; exact (txn_complete d0 reads body).1

/-- full-strength statement: EVERY multi-statement call is all-or-nothing.  False without the
    bracket — which is the situation of the calls that are not wrapped (mdk-core's commit merge) -/
def C12_full : Prop :=
  ∀ (inTxn : Bool) (d0 : Nat) (body : List (Nat → Nat)) (k : Nat),
    crashAt k (txnCall inTxn 0 body) d0 = d0 ∨ crashAt k (txnCall inTxn 0 body) d0 = effect body d0

theorem C12_full_false : ¬ C12_full := by
  intro h
  have := h false 0 [(· + 1), (· + 1)] 1
  revert this
  decide

/-- non-vacuity: a three-statement transaction cut after BEGIN + 2 statements -/
example : crashAt 3 (txnCall true 0 [(· + 1), (· + 1), (· + 1)]) 10 = 10 ∧
    complete (txnCall true 0 [(· + 1), (· + 1), (· + 1)]) 10 = 13 := by decide

/-! ## mdk-core level: death inside `process_message`, `process_welcome`, `merge_pending_commit`

`Model.CrashCore`: a call is the ordered list of its storage effects as RECORDED on the real code (the
observed sequence of crash classes along the ticks of every call must equal `CrashCore.classes kind` — the
correspondence obligation checked on every run by `vlib/crashweng.py`).  None of these calls is bracketed
by a transaction.  All statements below are for EVERY store on which the call runs for the first time. -/

open CrashCore in
/-- the abstract store, with the dedup record absent, nothing decrypted yet, record and MLS state in step -/
def coreFresh (kind : CrashCore.Kind) (d : CrashCore.Db) : Prop := CrashCore.fresh kind d = true

/-- **hand_sequence_matches_source.**  The effect sequences the core-level theorems below talk about ARE the
    sequences of durable write steps translated from the current source (`Generated.writeSeq`, regenerated on
    every run by tools/writeseq.py), step by step replaced by their effect on the projection.  A source change
    that reorders, adds or drops a durable write of one of these calls changes the generated table; then this
    statement no longer checks, and with it every prefix statement below that rewrites with it. -/
theorem hand_sequence_matches_source :
    CrashCore.writes .application = [.saveSecret, .consume, .saveMsg, .savePm 1, .setPtr] ∧
    CrashCore.writes .commit = [.saveSecret, .consume, .snapshot, .bumpMls, .saveSecret, .syncRecord, .savePm 2] ∧
    CrashCore.writes .welcome = [.saveGroup, .saveRelays, .saveWelcome, .savePw] ∧
    CrashCore.writes .merge = [.dropPending, .bumpMls, .syncRecord] := by decide +kernel

/-- On a store on which the call runs for the first time, the crash point after `k` of its writes is recovered
    exactly if the class `classify` gives it is harmless.  Each unrecovered point is shown by the field in which
    what the application sees after the refused retry differs from the end of the call. -/
theorem recovered_eq_harmless (kind : CrashCore.Kind) (d : CrashCore.Db) (hf : coreFresh kind d) (k : Nat) :
    CrashCore.recovered kind k d = (CrashCore.classify kind k).harmless := by
  obtain ⟨writes_application, writes_commit, writes_welcome, writes_merge⟩ := hand_sequence_matches_source
  cases kind with
  | application =>
    simp only [coreFresh, CrashCore.fresh, Bool.and_eq_true, beq_iff_eq, Bool.not_eq_true'] at hf
    obtain ⟨⟨⟨⟨h1, h2⟩, _⟩, _⟩, h5⟩ := hf
    have R := CrashCore.retry_core (.inl rfl) writes_application
    rw [CrashCore.recovered, CrashCore.crashAt, CrashCore.complete, writes_application]
    match k with
    | 0 => exact R.zero h1 h2
    | 1 => exact R.one rfl h1 h2
    | 2 => rw [R.consumed _ (by rfl)]; cases d; exact beq_false_of_apply_ne (·.msgs) (Nat.ne_of_lt (Nat.lt_succ_self _))
    | 3 | 4 => rw [R.consumed _ (by rfl)]; cases d; exact beq_false_of_apply_ne (·.ptr) (ne_true_of_eq_false h5)
    | k + 5 => exact R.past (Nat.le_add_left 5 k) rfl
  | commit =>
    simp only [coreFresh, CrashCore.fresh, Bool.and_eq_true, beq_iff_eq, Bool.not_eq_true'] at hf
    obtain ⟨⟨⟨h1, h2⟩, h3⟩, _⟩ := hf
    have hrec : d.recE ≠ d.mlsE + 1 := by omega
    have R := CrashCore.retry_core (.inr rfl) writes_commit
    rw [CrashCore.recovered, CrashCore.crashAt, CrashCore.complete, writes_commit]
    match k with
    | 0 => exact R.zero h1 h2
    | 1 => exact R.one rfl h1 h2
    | 2 => rw [R.consumed _ (by rfl)]; cases d; exact beq_false_of_apply_ne (·.snaps) (Nat.ne_of_lt (Nat.lt_succ_self _))
    | 3 => rw [R.consumed _ (by rfl)]; cases d; exact beq_false_of_apply_ne (·.mlsE) (Nat.ne_of_lt (Nat.lt_succ_self _))
    | 4 | 5 => rw [R.consumed _ (by rfl)]; cases d; exact beq_false_of_apply_ne (·.recE) hrec
    | 6 => rw [R.consumed _ (by rfl)]; exact beq_iff_eq.mpr (R.run_savePm d _ 2).symm
    | k + 7 => exact R.past (Nat.le_add_left 7 k) rfl
  | welcome =>
    cases d
    simp only [coreFresh, CrashCore.fresh, Bool.and_eq_true, Bool.not_eq_true'] at hf
    obtain ⟨⟨_, rfl⟩, rfl⟩ := hf
    rw [CrashCore.recovered, CrashCore.crashAt, CrashCore.complete, writes_welcome]
    -- the retry starts over until the welcome row is there, then adds the record, then is answered from it
    match k with
    | 0 | 1 | 2 | 3 => exact beq_iff_eq.mpr rfl
    | k + 4 => rw [List.take_of_length_le (Nat.le_add_left 4 k)]; exact beq_iff_eq.mpr rfl
  | merge =>
    cases d
    simp only [coreFresh, CrashCore.fresh, Bool.and_eq_true, beq_iff_eq] at hf
    obtain ⟨rfl, rfl⟩ := hf
    rw [CrashCore.recovered, CrashCore.crashAt, CrashCore.complete, writes_merge]
    match k with
    | 0 => exact beq_iff_eq.mpr rfl
    | 1 => exact beq_false_of_apply_ne (·.mlsE) (Nat.ne_of_lt (Nat.lt_succ_self _))
    | 2 => exact beq_false_of_apply_ne (·.recE) (Nat.ne_of_lt (Nat.lt_succ_self _))
    | k + 3 => rw [List.take_of_length_le (Nat.le_add_left 3 k)]; exact beq_iff_eq.mpr rfl

/-- **core_application_prefix.**  An application message: a death is recoverable exactly BEFORE OpenMLS
    decrypts (after at most the lazily created exporter secret was saved): `save_processed_message` is not
    the protecting write — the ratchet secret the decryption consumed is persisted first, so from then on
    the retry is refused (`Unprocessable`, recorded as Failed) and the message is lost, whether or not its
    row or its dedup record had been written. -/
theorem core_application_prefix (d : CrashCore.Db) (hf : coreFresh .application d) :
    CrashCore.recovered .application 0 d = true ∧ CrashCore.recovered .application 1 d = true ∧
    CrashCore.recovered .application 2 d = false ∧ CrashCore.recovered .application 3 d = false ∧
    CrashCore.recovered .application 4 d = false :=
  have t := recovered_eq_harmless .application d hf
  ⟨t 0, t 1, t 2, t 3, t 4⟩

/-- **core_commit_prefix.**  A commit of another member: recoverable only before the decryption; afterwards
    the retry is refused in every prefix — with the snapshot left behind, with the MLS rows already at the
    next epoch while the group record (and possibly the exporter secret) are still at the old one, or with
    everything applied except the dedup record. -/
theorem core_commit_prefix (d : CrashCore.Db) (hf : coreFresh .commit d) :
    CrashCore.recovered .commit 0 d = true ∧ CrashCore.recovered .commit 1 d = true ∧
    (∀ k, 2 ≤ k → k ≤ 5 → CrashCore.recovered .commit k d = false) ∧ CrashCore.recovered .commit 6 d = true := by
  have t := recovered_eq_harmless .commit d hf
  refine ⟨t 0, t 1, fun k h2 h5 => ?_, t 6⟩
  have hk : k = 2 ∨ k = 3 ∨ k = 4 ∨ k = 5 := by omega
  rcases hk with rfl | rfl | rfl | rfl <;> exact t _

/-- **core_welcome_prefix.**  `process_welcome`: every prefix is recoverable — the group record and the
    relays are idempotent upserts, and since /repo fed41a9 the welcome is stored BEFORE its processed-welcome
    record, so the retry either starts over or finds the welcome by its rumor id and adds the record.
    (`welcome_record_first_unrecoverable` below keeps the former order's failure as a closed witness.) -/
theorem core_welcome_prefix (d : CrashCore.Db) (hf : coreFresh .welcome d) :
    ∀ k, CrashCore.recovered .welcome k d = true :=
  recovered_eq_harmless .welcome d hf

/-- **core_merge_prefix.**  `merge_pending_commit`: the pending commit is deleted FIRST; a death right after
    loses it (the commit was published, the others move on, this client can never apply its own commit); a
    death after the MLS rows moved leaves the record one epoch behind. -/
theorem core_merge_prefix (d : CrashCore.Db) (hf : coreFresh .merge d) :
    CrashCore.recovered .merge 0 d = true ∧ CrashCore.recovered .merge 1 d = false ∧
    CrashCore.recovered .merge 2 d = false :=
  have t := recovered_eq_harmless .merge d hf
  ⟨t 0, t 1, t 2⟩

/-- the classification function is sound: whatever it calls recoverable is recovered, and nothing else is -/
theorem core_classify_sound (kind : CrashCore.Kind) (d : CrashCore.Db) (hf : coreFresh kind d) (k : Nat)
    (hk : k < (CrashCore.writes kind).length) :
    (CrashCore.classify kind k).harmless = true ↔ CrashCore.recovered kind k d = true := by
  rw [recovered_eq_harmless kind d hf k]

/-- the full-strength property at the mdk-core level: EVERY crash point of EVERY call is recoverable -/
def C12_core_full : Prop :=
  ∀ (kind : CrashCore.Kind) (d : CrashCore.Db) (k : Nat), coreFresh kind d → CrashCore.recovered kind k d = true

/-- a store with a joined group at epoch 5 -/
def coreDemo : CrashCore.Db :=
  { mlsE := 5, recE := 5, secrets := [4, 5], pm := 0, msgs := 3, snaps := 1, pending := false, consumed := false,
    groupRow := true, pwRow := true, welcomeRow := true, ptr := false }

/-- **C12_witness_torn_merge.**  Death inside the processing of a commit after OpenMLS merged it: the MLS
    rows are at epoch 6, the group record at 5, no exporter secret for 6, the snapshot is left behind; the
    retry of the same commit is refused and recorded as Failed.  (`corpus/C12/core_invitee.wtrace`) -/
theorem C12_witness_torn_merge :
    let c := CrashCore.crashAt .commit 4 coreDemo
    c.mlsE = 6 ∧ c.recE = 5 ∧ c.secrets = [4, 5] ∧ c.snaps = 2 ∧
    (CrashCore.retry .commit c).pm = 3 ∧ (CrashCore.retry .commit c).recE = 5 ∧
    CrashCore.recovered .commit 4 coreDemo = false := by decide +kernel

/-- **C12_witness_message_lost.**  Death between OpenMLS's decryption of an application message and the
    message row: nothing visible changed, yet the message can never be read. -/
theorem C12_witness_message_lost :
    let c := CrashCore.crashAt .application 2 coreDemo
    c.msgs = 3 ∧ c.pm = 0 ∧ (CrashCore.retry .application c).msgs = 3 ∧ (CrashCore.retry .application c).pm = 3 ∧
    (CrashCore.complete .application coreDemo).msgs = 4 := by decide

theorem C12_witness_pending_commit_lost :
    let d := { coreDemo with pending := true }
    (CrashCore.crashAt .merge 1 d).pending = false ∧ (CrashCore.crashAt .merge 1 d).mlsE = 5 ∧
    (CrashCore.retry .merge (CrashCore.crashAt .merge 1 d)).mlsE = 5 ∧ (CrashCore.complete .merge d).mlsE = 6 := by decide

/-- the former order of `process_welcome` (record first): the prefix with the record and without the welcome
    is answered from the dedup record for ever — what the reordering in /repo fed41a9 removed -/
theorem welcome_record_first_unrecoverable :
    let d : CrashCore.Db := { coreDemo with groupRow := false, pwRow := false, welcomeRow := false }
    let torn := CrashCore.run d [.saveGroup, .saveRelays, .savePw]
    (CrashCore.retry .welcome torn).welcomeRow = false ∧ (CrashCore.complete .welcome d).welcomeRow = true := by decide

/-- a death after the message row and its Processed record, before the group's last-message pointer moved:
    the retry is refused (the ciphertext is consumed) and the pointer never names the message -/
theorem C12_witness_pointer_never_set :
    let c := CrashCore.crashAt .application 4 coreDemo
    c.msgs = 4 ∧ c.pm = 1 ∧ (CrashCore.retry .application c).ptr = false ∧ (CrashCore.complete .application coreDemo).ptr = true := by decide

theorem C12_core_full_false : ¬ C12_core_full := by
  intro h
  have := h .commit coreDemo 4 (by simp [coreFresh]; decide)
  revert this; decide

/-! ## every entry point of the regenerated table (`Model.CrashSeq`)

`Generated.writeSeq` is re-extracted from the source on every run; everything below is a statement about that
table.  A store is one of `CrashSeq.freshStores case`: the store on which the call runs for the first time, with
the exporter secret of the current epoch cached or not (the only pre-state unknown the effects depend on). -/

theorem soundAll_true : CrashSeq.soundAll = true := by decide +kernel

open CrashSeq in
/-- **classify_sound_all.**  For EVERY classified case of the regenerated table, every success path, every proper
    prefix `k` and every fresh store `d`, with `c` the class the decision procedure `classifyG` assigns (the one
    `vlib/crashweng.py` applies to the real store) and `r` = the crash point is recovered (a re-delivered event ends
    in the uninterrupted run's observable state; an interrupted local call leaves a usable store):
    a class called harmless is recovered; a recovered point is called harmless or differs in the dedup record of
    the event only; a point that is not recovered carries a named mechanism; and neither `c` nor `r` depends on
    which fresh store it is. -/
theorem classify_sound_all (case : Nat) (paths : List (List Nat)) (hc : (case, paths) ∈ Generated.writeSeq)
    (hm : CrashSeq.modelled case = true) (p : List Nat) (hp : p ∈ paths) (k : Nat)
    (hk : k < (CrashCore.expand case p).length) (d : CrashCore.Db) (hd : d ∈ CrashSeq.freshStores case) :
    let ws := CrashCore.expand case p
    let c := CrashSeq.classifyG (CrashSeq.modeOf case) ws k d
    let r := CrashSeq.recoveredG (CrashSeq.modeOf case) ws k d
    (c.harmless = true → r = true) ∧
    (r = true → c.harmless = true ∨ CrashSeq.recordOnly (CrashSeq.modeOf case) ws k d = true) ∧
    (r = false → c ≠ .other ∧ c ≠ .recoverable) ∧
    c = CrashSeq.classifyG (CrashSeq.modeOf case) ws k (CrashSeq.freshStore case false) ∧
    r = CrashSeq.recoveredG (CrashSeq.modeOf case) ws k (CrashSeq.freshStore case false) := by
  have h := List.all_eq_true.mp (List.all_eq_true.mp (List.all_eq_true.mp (List.all_eq_true.mp soundAll_true
    (case, paths) (List.mem_filter.mpr ⟨hc, hm⟩)) p hp) k (List.mem_range.mpr hk)) d hd
  simp only [CrashSeq.soundAt, Bool.and_eq_true, Bool.or_eq_true, Bool.not_eq_true', beq_iff_eq, bne_iff_ne] at h
  obtain ⟨⟨⟨⟨a1, a2⟩, a3⟩, a4⟩, a5⟩ := h
  refine ⟨fun hh => ?_, fun hr => ?_, fun hr => ?_, a4, a5⟩
  · exact a1.resolve_left (by rw [hh]; decide)
  · exact (a2.imp_left fun x => x.resolve_left (by rw [hr]; decide))
  · exact a3.resolve_left (by rw [hr]; decide)

/-- **unrecoverable_prefixes.**  The exact set of (case, path, number of effects performed, mechanism) of the
    regenerated table at which a process death is NOT recovered.  A source change that opens a new such prefix — or
    closes one — changes this list: the obligation has a name. -/
theorem unrecoverable_prefixes :
    CrashSeq.openPrefixes =
      [(0, 0, 2, .decryptConsumed), (0, 0, 3, .msgSavedNoRecord), (0, 0, 4, .dedupBlocks), (0, 1, 2, .decryptConsumed),
       (1, 0, 2, .decryptConsumed), (1, 0, 3, .snapshotLeft), (1, 0, 4, .tornMerge), (1, 0, 5, .tornMerge),
       (4, 0, 2, .decryptConsumed), (5, 0, 2, .decryptConsumed), (5, 0, 3, .decryptConsumed), (5, 1, 2, .decryptConsumed),
       (14, 0, 2, .tornAccept),
       (23, 0, 1, .pendingLost), (23, 0, 2, .tornMerge), (23, 1, 1, .pendingLost), (23, 1, 2, .tornMerge)] := by decide +kernel

/-- **unrecoverable_signatures.**  Mechanism × call kind of the open prefixes: the open crash findings of
    known_findings.jsonl (`<mechanism>:<call>`; `./check C12` compares the two lists: `tie:c12-open-findings`).
    Call kinds: 0 process_application, 1 process_commit, 2 process_proposal, 4 accept_welcome, 11 merge_pending_commit. -/
theorem unrecoverable_signatures :
    CrashSeq.openSignatures =
      [(.msgSavedNoRecord, 0), (.dedupBlocks, 0), (.decryptConsumed, 0), (.decryptConsumed, 1), (.snapshotLeft, 1), (.tornMerge, 1),
       (.decryptConsumed, 2), (.tornAccept, 4), (.pendingLost, 11), (.tornMerge, 11)] := by
  rw [CrashSeq.openSignatures, unrecoverable_prefixes]; decide +kernel

/-- every other classified entry point — process_welcome (both cases), create_message, add_members, remove_members,
    update_group_data, self_update, leave_group, clear_pending_commit, the failure-recording paths, the start-up
    prune and the step functions — has NO unrecoverable prefix -/
theorem other_entry_points_recoverable :
    ∀ x ∈ CrashSeq.openPrefixes, x.1 ∈ [0, 1, 4, 5, 14, 23] := by
  rw [unrecoverable_prefixes]; decide

def coreClass : CrashCore.Class → CrashSeq.ClassG
  | .recoverable => .recoverable
  | .decryptConsumed => .decryptConsumed
  | .msgSavedNoRecord => .msgSavedNoRecord
  | .dedupBlocks => .dedupBlocks
  | .snapshotLeft => .snapshotLeft
  | .tornMerge => .tornMerge
  | .appliedNoRecord => .appliedNoRecord
  | .pendingLost => .pendingLost

/-- the generic procedure agrees with the table of the four calls whose prefix theorems above hold for EVERY store -/
theorem generic_agrees_with_core (kind : CrashCore.Kind) (k : Nat) (hk : k < (CrashCore.writes kind).length) :
    CrashSeq.classifyG (CrashSeq.modeOf kind.case) (CrashCore.writes kind) k (CrashSeq.freshStore kind.case false)
      = coreClass (CrashCore.classify kind k) := by
  revert k
  cases kind <;> decide +kernel

/-! ### the two other calls with an open mechanism, for EVERY store (not only the fresh stores of `Model.CrashSeq`) -/

/-- the regenerated sequences of accept_welcome and of a leave proposal that the receiving admin auto-commits -/
theorem accept_and_autocommit_sequences_match_source :
    CrashCore.expand 14 ((CrashCore.sourcePaths 14).headD []) = [.joinMls, .acceptWelcome, .activate, .saveRelays] ∧
    CrashCore.expand 5 ((CrashCore.sourcePaths 5).headD []) = [.saveSecret, .consume, .storeProposal, .setPending, .saveSecret, .savePm 1] := by
  decide +kernel

/-- **accept_prefix_all_stores.**  `accept_welcome` on ANY store whose welcome is not yet Accepted: a death is
    recovered before the welcome record is turned Accepted (OpenMLS's `into_group` may have stored the group: the
    retry replaces it) and after the group record is Active; in between — welcome Accepted, group record still
    Pending — the retry is refused ("already accepted") and the group never becomes Active: `torn-accept`. -/
theorem accept_prefix_all_stores (d : CrashCore.Db) (h : d.accepted = false) (ha : d.active = false) :
    let ws : List CrashCore.W := [.joinMls, .acceptWelcome, .activate, .saveRelays]
    CrashSeq.recoveredG .accept ws 0 d = true ∧ CrashSeq.recoveredG .accept ws 1 d = true ∧
    CrashSeq.recoveredG .accept ws 2 d = false ∧ CrashSeq.recoveredG .accept ws 3 d = true := by
  cases d
  subst h ha
  exact ⟨beq_iff_eq.mpr rfl, beq_iff_eq.mpr rfl, beq_false_of_apply_ne (·.active) Bool.false_ne_true, beq_iff_eq.mpr rfl⟩

/-- **autocommit_prefix_all_stores.**  A leave proposal that the receiving admin auto-commits, on ANY store that
    has not seen the event: recovered before OpenMLS decrypts; after the decryption and before the pending commit
    is stored the retry is refused and the proposal (or its commit) is lost — `decrypt-consumed-retry-refused`;
    once the commit is stored only the dedup record of the event differs. -/
theorem autocommit_prefix_all_stores (d : CrashCore.Db) (h1 : d.pm = 0) (h2 : d.consumed = false) (h3 : d.pending = false) :
    let ws : List CrashCore.W := [.saveSecret, .consume, .storeProposal, .setPending, .saveSecret, .savePm 1]
    CrashSeq.recoveredG .message ws 0 d = true ∧ CrashSeq.recoveredG .message ws 1 d = true ∧
    CrashSeq.recoveredG .message ws 2 d = false ∧ CrashSeq.recoveredG .message ws 3 d = false ∧
    CrashSeq.recoveredG .message ws 4 d = true ∧ CrashSeq.recoveredG .message ws 5 d = true := by
  intro ws
  have R := CrashSeq.retry_message ws
  refine ⟨R.zero h1 h2, R.one rfl h1 h2, ?_, ?_, ?_, ?_⟩ <;>
    simp only [CrashSeq.recoveredG] <;> rw [R.consumed _ (by rfl)]
  · exact beq_false_of_apply_ne (·.props) (Nat.ne_of_lt (Nat.lt_succ_self _))
  · exact beq_false_of_apply_ne (·.pending) (ne_true_of_eq_false h3)
  -- the second `saveSecret` finds the secret the first one stored
  · have e : CrashCore.run d (ws.take 5) = CrashSeq.crashAtG ws 4 d := by
      cases d; exact CrashCore.saveSecret_noop (CrashCore.saveSecret_has _)
    rw [← e]; exact beq_iff_eq.mpr (R.run_savePm d (ws.take 5) 1).symm
  · exact beq_iff_eq.mpr (R.run_savePm d (ws.take 5) 1).symm

/-- non-vacuity: the hypotheses of the three statements above hold of concrete stores and of the table -/
example : (CrashSeq.freshStore 14 false).accepted = false ∧ (CrashSeq.freshStore 14 false).active = false ∧
    (CrashSeq.freshStore 5 true).pm = 0 ∧ (CrashSeq.freshStore 5 true).consumed = false ∧ (CrashSeq.freshStore 5 true).pending = false ∧
    (1, [[1, 40, 15, 41, 1, 17, 22]]) ∈ Generated.writeSeq ∧ CrashSeq.modelled 1 = true ∧
    CrashSeq.freshStore 1 true ∈ CrashSeq.freshStores 1 := by decide +kernel

end MdkVerif.Props.C12
