import MdkVerif.Model.StoreLimits
import MdkVerif.Proofs.Store
/-
  C06 (storage part) / C10 (limit boundary) — theorems about the validation the two backends perform before a
  write (`Model/StoreLimits.lean`).  The numbers and the lists of checks are regenerated from the source on every
  run; the statements below name them literally, so a changed limit, a deleted check or a changed comparison
  operator in either backend breaks a theorem here (besides changing what the driver predicts).
-/
namespace MdkVerif.Props.C10Limits
open MdkVerif MdkVerif.Store MdkVerif.StoreLimits

/-! ### 0. the regenerated tables are the ones the statements below talk about -/

/-- the checks of the SQLite backend: per saving function, what is measured against which documented constant -/
theorem sql_checks_as_modelled :
    Generated.sqlSaveGroupChecks =
      [(3, Generated.sqlMaxGroupNameLength, true), (4, Generated.sqlMaxGroupDescriptionLength, true),
       (5, Generated.sqlMaxAdminPubkeysJsonSize, true)] ∧
    Generated.sqlSaveMessageChecks =
      [(0, Generated.sqlMaxMessageContentSize, true), (1, Generated.sqlMaxTagsJsonSize, true),
       (2, Generated.sqlMaxEventJsonSize, true)] ∧
    Generated.sqlSaveWelcomeChecks =
      [(3, Generated.sqlMaxGroupNameLength, true), (4, Generated.sqlMaxGroupDescriptionLength, true),
       (5, Generated.sqlMaxAdminPubkeysJsonSize, true), (6, Generated.sqlMaxGroupRelaysJsonSize, true),
       (2, Generated.sqlMaxEventJsonSize, true)] ∧
    Generated.sqlReplaceRelaysChecks = [] := by decide +kernel

/-- the checks of the memory backend (built with `ValidationLimits::default()`) -/
theorem mem_checks_as_modelled :
    Generated.memSaveGroupChecks =
      [(3, Generated.memMaxGroupNameLength, true), (4, Generated.memMaxGroupDescriptionLength, true),
       (7, Generated.memMaxAdminsPerGroup, true)] ∧
    Generated.memSaveMessageChecks = [] ∧
    Generated.memSaveWelcomeChecks =
      [(8, Generated.memMaxRelaysPerWelcome, true), (9, Generated.memMaxRelayUrlLength, true),
       (7, Generated.memMaxAdminsPerWelcome, true)] ∧
    Generated.memReplaceRelaysChecks =
      [(8, Generated.memMaxRelaysPerGroup, true), (9, Generated.memMaxRelayUrlLength, true)] := by decide +kernel

/-! ### 1. C06 at storage level: a call refused by validation has no effect -/

/-- for every store, op and measured sizes: a call the backend's validation refuses answers `err` and leaves the
    store exactly as it was -/
theorem refused_store_call_no_effect (s : Store) (op : Op) (z : Sizes)
    (h : validate s.backend op z = false) : stepL s op z = (s, "err") := by
  simp [stepL, h]

/-- the same over histories: refused calls can be deleted from any history without changing the final store -/
theorem refused_calls_deletable (ops : List (Op × Sizes)) (s : Store) :
    runL s ops = runL s (ops.filter (fun o => validate s.backend o.1 o.2)) := by
  induction ops generalizing s with
  | nil => rfl
  | cons o t ih =>
    have hb : (stepL s o.1 o.2).1.backend = s.backend := by
      unfold stepL
      split
      · exact Store.step_backend s o.1
      · rfl
    by_cases hv : validate s.backend o.1 o.2 = true
    · have e1 : runL s (o :: t) = runL (stepL s o.1 o.2).1 t := rfl
      rw [e1, ih, hb, List.filter_cons_of_pos (by simpa using hv)]
      rfl
    · have hv' : validate s.backend o.1 o.2 = false := by simpa using hv
      have e1 : runL s (o :: t) = runL (stepL s o.1 o.2).1 t := rfl
      rw [e1, refused_store_call_no_effect s o.1 o.2 hv', List.filter_cons_of_neg (by simpa using hv')]
      exact ih s

/-! ### 2. within the limits nothing changes -/

/-- an op that passes validation is executed by the store model of `Model/Store.lean` unchanged, so every theorem
    about `Store.step` carries over -/
theorem within_limits_as_before (s : Store) (op : Op) (z : Sizes)
    (h : validate s.backend op z = true) : stepL s op z = step s op := by
  simp [stepL, h]

/-- the literal reading of the memory backend's validation (default limits) -/
def memAccepts (op : Op) (_z : Sizes) : Prop :=
  match op with
  | .saveGroup g => g.nameLen ≤ 256 ∧ g.descLen ≤ 4096 ∧ g.admins ≤ 100
  | .saveWelcome w => w.relays ≤ 100 ∧ (if w.relays > 0 then w.relayLen else 0) ≤ 512 ∧ w.admins ≤ 100
  | .replaceRelays _ rs => (sortBy natLt rs.eraseDups).length ≤ 100 ∧ maxUrl rs ≤ 512
  | _ => True

/-- the literal reading of the SQLite backend's validation -/
def sqlAccepts (op : Op) (z : Sizes) : Prop :=
  match op with
  | .saveGroup g => g.nameLen ≤ 255 ∧ g.descLen ≤ 2000 ∧ z.adminsJson ≤ 51200
  | .saveMessage m => m.contentLen ≤ 1048576 ∧ z.tagsJson ≤ 102400 ∧ z.eventJson ≤ 102400
  | .saveWelcome w => w.nameLen ≤ 255 ∧ w.descLen ≤ 2000 ∧ z.adminsJson ≤ 51200 ∧ z.relaysJson ≤ 51200 ∧ z.eventJson ≤ 102400
  | _ => True

theorem mem_validation_exact (op : Op) (z : Sizes) : validate .mem op z = true ↔ memAccepts op z := by
  cases op with
  | saveGroup g =>
    simp [validate, checksOf, quantity, passes, memAccepts, Generated.memSaveGroupChecks]
  | saveWelcome w =>
    simp [validate, checksOf, quantity, passes, memAccepts, Generated.memSaveWelcomeChecks]
  | replaceRelays g rs =>
    simp [validate, checksOf, quantity, passes, memAccepts, Generated.memReplaceRelaysChecks]
  | _ => exact ⟨fun _ => trivial, fun _ => rfl⟩

theorem sql_validation_exact (op : Op) (z : Sizes) : validate .sql op z = true ↔ sqlAccepts op z := by
  cases op with
  | saveGroup g =>
    simp [validate, checksOf, quantity, passes, sqlAccepts, Generated.sqlSaveGroupChecks]
  | saveMessage m =>
    simp [validate, checksOf, quantity, passes, sqlAccepts, Generated.sqlSaveMessageChecks]
  | saveWelcome w =>
    simp [validate, checksOf, quantity, passes, sqlAccepts, Generated.sqlSaveWelcomeChecks]
  | _ => exact ⟨fun _ => trivial, fun _ => rfl⟩

/-! ### 3. C10: where the two backends' documented limits differ -/

/-- the EXACT set of calls on which the validation of the two backends disagrees: those one backend's literal limits
    accept and the other's refuse.  Everything else is accepted by both or refused by both. -/
theorem limits_differ (op : Op) (z : Sizes) :
    validate .mem op z ≠ validate .sql op z ↔
      (memAccepts op z ∧ ¬ sqlAccepts op z) ∨ (sqlAccepts op z ∧ ¬ memAccepts op z) := by
  rw [← mem_validation_exact, ← sql_validation_exact]
  cases validate .mem op z <;> cases validate .sql op z <;> simp

/-- spelled out per operation (numbers as documented by the two crates) -/
theorem limits_differ_save_group (g : Group) (z : Sizes) :
    validate .mem (.saveGroup g) z ≠ validate .sql (.saveGroup g) z ↔
      (g.nameLen ≤ 256 ∧ g.descLen ≤ 4096 ∧ g.admins ≤ 100 ∧ (g.nameLen = 256 ∨ 2000 < g.descLen ∨ 51200 < z.adminsJson)) ∨
      (g.nameLen ≤ 255 ∧ g.descLen ≤ 2000 ∧ z.adminsJson ≤ 51200 ∧ 100 < g.admins) := by
  rw [limits_differ]; simp only [memAccepts, sqlAccepts]; omega

theorem limits_differ_save_message (m : Msg) (z : Sizes) :
    validate .mem (.saveMessage m) z ≠ validate .sql (.saveMessage m) z ↔
      (1048576 < m.contentLen ∨ 102400 < z.tagsJson ∨ 102400 < z.eventJson) := by
  rw [limits_differ]; simp [memAccepts, sqlAccepts]; omega

theorem limits_differ_replace_relays (gid : Nat) (rs : List Nat) (z : Sizes) :
    validate .mem (.replaceRelays gid rs) z ≠ validate .sql (.replaceRelays gid rs) z ↔
      (100 < (sortBy natLt rs.eraseDups).length ∨ 512 < maxUrl rs) := by
  rw [limits_differ]; simp [memAccepts, sqlAccepts]; omega

theorem limits_differ_save_welcome (w : Welcome) (z : Sizes) :
    validate .mem (.saveWelcome w) z ≠ validate .sql (.saveWelcome w) z ↔
      ((w.relays ≤ 100 ∧ (if w.relays > 0 then w.relayLen else 0) ≤ 512 ∧ w.admins ≤ 100) ∧
        (255 < w.nameLen ∨ 2000 < w.descLen ∨ 51200 < z.adminsJson ∨ 51200 < z.relaysJson ∨ 102400 < z.eventJson)) ∨
      ((w.nameLen ≤ 255 ∧ w.descLen ≤ 2000 ∧ z.adminsJson ≤ 51200 ∧ z.relaysJson ≤ 51200 ∧ z.eventJson ≤ 102400) ∧
        (100 < w.relays ∨ 512 < (if w.relays > 0 then w.relayLen else 0) ∨ 100 < w.admins)) := by
  rw [limits_differ]; simp only [memAccepts, sqlAccepts, Decidable.not_and_iff_not_or_not, Nat.not_le]

/-- every other operation is validated alike (not at all) by both backends -/
theorem limits_agree_elsewhere (op : Op) (z : Sizes)
    (h : ∀ g, op ≠ .saveGroup g) (h2 : ∀ m, op ≠ .saveMessage m) (h3 : ∀ w, op ≠ .saveWelcome w)
    (h4 : ∀ g rs, op ≠ .replaceRelays g rs) : validate .mem op z = true ∧ validate .sql op z = true := by
  cases op with
  | saveGroup g => exact absurd rfl (h g)
  | saveMessage m => exact absurd rfl (h2 m)
  | saveWelcome w => exact absurd rfl (h3 w)
  | replaceRelays g rs => exact absurd rfl (h4 g rs)
  | _ => exact ⟨rfl, rfl⟩

/-- within BOTH backends' limits (the smaller of each pair) a call passes validation on either backend, hence
    `stepL = step` on both: the hypothesis under which C10's equalities are stated -/
theorem within_both_limits_as_before (s : Store) (op : Op) (z : Sizes)
    (hm : memAccepts op z) (hs : sqlAccepts op z) : stepL s op z = step s op := by
  apply within_limits_as_before
  cases hb : s.backend
  · exact (mem_validation_exact op z).2 hm
  · exact (sql_validation_exact op z).2 hs

/-! ### 4. closed boundary witnesses: each limit itself is accepted, limit + 1 is refused -/

def g0 : Group := { gid := 1, nid := 11, nameLen := 5, descLen := 7, admins := 2, img := 0, lastId := none, lastAt := none,
                    lastProc := none, epoch := 0, state := 0, selfUpd := 0 }
def m0 : Msg := { id := 1, gid := 1, pk := 0, kind := 9, created := 100, processed := 100, content := 1, contentLen := 8,
                  tag := 0, wrapper := 1, epoch := some 0, state := 1 }
def w0 : Welcome := { id := 1, gid := 1, nid := 11, nameLen := 5, descLen := 7, admins := 2, relays := 2, relayLen := 24,
                      welcomer := 0, memberCount := 2, state := 0, wrapper := 1 }
def z0 : Sizes := { tagsJson := 2, eventJson := 300, adminsJson := 135, relaysJson := 60 }

theorem boundary_sql_save_group :
    (validate .sql (.saveGroup { g0 with nameLen := 255 }) z0 = true ∧ validate .sql (.saveGroup { g0 with nameLen := 256 }) z0 = false) ∧
    (validate .sql (.saveGroup { g0 with descLen := 2000 }) z0 = true ∧ validate .sql (.saveGroup { g0 with descLen := 2001 }) z0 = false) ∧
    (validate .sql (.saveGroup g0) { z0 with adminsJson := 51200 } = true ∧ validate .sql (.saveGroup g0) { z0 with adminsJson := 51201 } = false) := by
  decide +kernel

theorem boundary_sql_save_message :
    (validate .sql (.saveMessage { m0 with contentLen := 1048576 }) z0 = true ∧ validate .sql (.saveMessage { m0 with contentLen := 1048577 }) z0 = false) ∧
    (validate .sql (.saveMessage m0) { z0 with tagsJson := 102400 } = true ∧ validate .sql (.saveMessage m0) { z0 with tagsJson := 102401 } = false) ∧
    (validate .sql (.saveMessage m0) { z0 with eventJson := 102400 } = true ∧ validate .sql (.saveMessage m0) { z0 with eventJson := 102401 } = false) := by
  decide +kernel

theorem boundary_sql_save_welcome :
    (validate .sql (.saveWelcome { w0 with nameLen := 255 }) z0 = true ∧ validate .sql (.saveWelcome { w0 with nameLen := 256 }) z0 = false) ∧
    (validate .sql (.saveWelcome { w0 with descLen := 2000 }) z0 = true ∧ validate .sql (.saveWelcome { w0 with descLen := 2001 }) z0 = false) ∧
    (validate .sql (.saveWelcome w0) { z0 with adminsJson := 51200 } = true ∧ validate .sql (.saveWelcome w0) { z0 with adminsJson := 51201 } = false) ∧
    (validate .sql (.saveWelcome w0) { z0 with relaysJson := 51200 } = true ∧ validate .sql (.saveWelcome w0) { z0 with relaysJson := 51201 } = false) ∧
    (validate .sql (.saveWelcome w0) { z0 with eventJson := 102400 } = true ∧ validate .sql (.saveWelcome w0) { z0 with eventJson := 102401 } = false) := by
  decide +kernel

theorem boundary_mem_save_group :
    (validate .mem (.saveGroup { g0 with nameLen := 256 }) z0 = true ∧ validate .mem (.saveGroup { g0 with nameLen := 257 }) z0 = false) ∧
    (validate .mem (.saveGroup { g0 with descLen := 4096 }) z0 = true ∧ validate .mem (.saveGroup { g0 with descLen := 4097 }) z0 = false) ∧
    (validate .mem (.saveGroup { g0 with admins := 100 }) z0 = true ∧ validate .mem (.saveGroup { g0 with admins := 101 }) z0 = false) := by
  decide +kernel

/-- name length 256 is accepted by the memory backend and refused by SQLite (the C08 / C06 finding
    `store-limit-sync-failure` lives exactly on this boundary) -/
theorem name_256_mem_only :
    validate .mem (.saveGroup { g0 with nameLen := 256 }) z0 = true ∧
    validate .sql (.saveGroup { g0 with nameLen := 256 }) z0 = false :=
  ⟨boundary_mem_save_group.1.1, boundary_sql_save_group.1.2⟩

theorem boundary_mem_save_welcome :
    (validate .mem (.saveWelcome { w0 with relays := 100 }) z0 = true ∧ validate .mem (.saveWelcome { w0 with relays := 101 }) z0 = false) ∧
    (validate .mem (.saveWelcome { w0 with relayLen := 512 }) z0 = true ∧ validate .mem (.saveWelcome { w0 with relayLen := 513 }) z0 = false) ∧
    (validate .mem (.saveWelcome { w0 with admins := 100 }) z0 = true ∧ validate .mem (.saveWelcome { w0 with admins := 101 }) z0 = false) ∧
    -- a URL length is only looked at when there is a relay
    validate .mem (.saveWelcome { w0 with relays := 0, relayLen := 513 }) z0 = true := by
  decide +kernel

theorem boundary_mem_replace_relays :
    (validate .mem (.replaceRelays 1 (List.range 100)) z0 = true ∧ validate .mem (.replaceRelays 1 (List.range 101)) z0 = false) ∧
    (validate .mem (.replaceRelays 1 [1, 512000002]) z0 = true ∧ validate .mem (.replaceRelays 1 [1, 513000002]) z0 = false) ∧
    -- SQLite has no limit on relays of a group
    validate .sql (.replaceRelays 1 (List.range 101)) z0 = true ∧ validate .sql (.replaceRelays 1 [513000002]) z0 = true := by
  decide +kernel

/-- the hypotheses of the theorems above are satisfiable by non-trivial values -/
example : memAccepts (.saveGroup g0) z0 ∧ sqlAccepts (.saveGroup g0) z0 ∧ memAccepts (.saveWelcome w0) z0 ∧
    sqlAccepts (.saveWelcome w0) z0 ∧ sqlAccepts (.saveMessage m0) z0 := by
  simp [memAccepts, sqlAccepts, g0, w0, m0, z0]

/-- a refused call in the middle of a history: the final store is the one of the history without it -/
example : (runL (Store.empty .sql) [(.saveGroup g0, z0), (.saveGroup { g0 with nameLen := 256 }, z0)]).groups = [g0] := by decide

end MdkVerif.Props.C10Limits
