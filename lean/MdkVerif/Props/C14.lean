import MdkVerif.Model.Leak
import MdkVerif.GeneratedLeak
/-
  C14 — Logs and errors never carry group identifiers or secrets.
  `GeneratedLeak.*` is re-extracted from the current /repo source by
  tools/gen_leak.py on every run, so the `decide` theorems below are re-checked against what the
  code says NOW.  The classification of an argument expression into a class is the translator's
  (trusted, listed in evidence/C14.json); everything after that is proved here.

  History: on mdk @6826ab1 the full statements were false (`ensure_hydrated` logged an unparsable
  snapshot name verbatim; `GroupResult`, `UpdateGroupResult`, `NostrGroupConfigData`,
  `NostrGroupDataUpdate`, `WelcomePreview`, `JoinedGroupResult` derived `Debug` over ids / keys) and this
  file carried `_partial` theorems with witnesses.  Both were repaired in /repo (4eb675f, 5bf1e8a); the
  model follows the repaired code, the full theorems replace the partial ones, and the old witnesses are
  regression traces in corpus/C14 that the oracle replays.
-/
namespace MdkVerif.Props.C14
open MdkVerif MdkVerif.Leak MdkVerif.GeneratedLeak List

/-! ### 1. `render_clean` — structural: a value of a clean class, and a record whose argument classes
    are all clean, contain no secret atom — for ALL tables whose builder rows are clean, all sites,
    all values (no size bound; values are arbitrarily deeply nested texts). -/

theorem allPub_append (a b : List Atom) : allPub (a ++ b) = (allPub a && allPub b) := by
  simp [allPub, List.all_append]

theorem findSite_mem {id : Nat} {l : List Site} {s : Site} (h : findSite id l = some s) : s ∈ l := by
  induction l with
  | nil => simp [findSite] at h
  | cons x r ih =>
    simp only [findSite] at h
    split at h
    · simp at h; simp [h]
    · exact List.mem_cons_of_mem _ (ih h)

mutual
  theorem render_clean_val (T : Tables) (hT : T.buildersClean = true) :
      ∀ (c : Cls) (v : Val), c.sensitive = false → fits T c v = true → allPub v.render = true
    | c, .leaf c' atoms, hc, hf => by
        simp only [Val.render]
        simp only [fits] at hf
        split at hf
        · simp at hf
        · split at hf
          · simp at hf; exact hf.2
          · simp [hc] at hf; exact hf.2
    | c, .built sid args, hc, hf => by
        simp only [Val.render]
        simp only [fits] at hf
        have hb := hT
        simp only [Tables.buildersClean, Bool.and_eq_true, List.all_eq_true] at hb
        split at hf
        · split at hf
          · rename_i s hs
            exact render_clean_list T hT s.args args (hb.2 s (findSite_mem hs)) hf
          · simp at hf
        · split at hf
          · split at hf
            · rename_i s hs
              exact render_clean_list T hT s.args args (hb.1 s (findSite_mem hs)) hf
            · simp at hf
          · simp at hf
    | c, .wrapped _, _, _ => by simp [Val.render, allPub]
  theorem render_clean_list (T : Tables) (hT : T.buildersClean = true) :
      ∀ (cs : List Cls) (vs : List Val), cs.all (fun c => !c.sensitive) = true → fitsL T cs vs = true →
        allPub (renderL vs) = true
    | [], [], _, _ => by simp [renderL, allPub]
    | c :: cs, v :: vs, hc, hf => by
        simp only [fitsL, Bool.and_eq_true] at hf
        simp only [List.all_cons, Bool.and_eq_true, Bool.not_eq_true'] at hc
        simp only [renderL, allPub_append, Bool.and_eq_true]
        exact ⟨render_clean_val T hT c v hc.1 hf.1, render_clean_list T hT cs vs hc.2 hf.2⟩
    | [], _ :: _, _, hf => by simp [fitsL] at hf
    | _ :: _, [], _, hf => by simp [fitsL] at hf
end

/-- **render_clean.**  A record produced by a site of ANY table whose argument classes are all clean
    contains no secret atom, whatever the argument values are. -/
theorem render_clean (T : Tables) (hT : T.buildersClean = true) (tbl : List Site) (r : Record)
    (hclean : ∀ s ∈ tbl, s.clean = true) (hem : emittedBy T tbl r = true) :
    allPub r.render = true := by
  unfold emittedBy at hem
  split at hem
  · rename_i s hs
    exact render_clean_list T hT s.args r.args (hclean s (findSite_mem hs)) hem
  · simp at hem

/-- the hypotheses of `render_clean` are satisfiable by a non-trivial table and record … -/
example : ∃ (T : Tables) (tbl : List Site) (r : Record),
    T.buildersClean = true ∧ (∀ s ∈ tbl, s.clean = true) ∧ emittedBy T tbl r = true ∧ r.render ≠ [] :=
  ⟨⟨[], [], [⟨1, .errCtor, [.number]⟩], []⟩, [⟨0, .log, [.eventId, .text]⟩],
   ⟨0, [.leaf .eventId [.pub 7], .built 1 [.leaf .number [.pub 3]]]⟩, by decide⟩

/-- … and the semantics is not vacuous the other way: a table WITH a sensitive argument admits an
    emitted record that carries a secret atom (this is what the theorem excludes for clean tables) -/
example : ∃ (T : Tables) (tbl : List Site) (r : Record),
    emittedBy T tbl r = true ∧ allPub r.render = false :=
  ⟨⟨[], [], [], []⟩, [⟨0, .log, [.snapshotName]⟩], ⟨0, [.leaf .snapshotName [.pub 0, .sec .mlsGroupId 1]]⟩, by decide⟩

/-- a redacting wrapper renders nothing of what it holds (`Secret(***)`, `[REDACTED]`) -/
theorem wrapper_clean (v : Val) : (Val.wrapped v).render = [] := rfl

/-- … and any value at all — a secret included — is a legal content of a redacted argument -/
theorem wrapper_accepts_secret (T : Tables) (k : SecKind) (n : Nat) :
    fits T .redacted (.wrapped (.leaf .secret [.sec k n])) = true := by simp [fits]

/-! ### 2. `sites_clean` — the finite tables regenerated from the source (`decide`). -/

/-- every `#[error]` row / manual error Display row has only clean field classes -/
theorem errorFormats_clean : ∀ s ∈ errorFormats, s.clean = true :=
  List.all_eq_true.mp (by decide +kernel)

/-- every non-test construction of a free-text error payload interpolates only clean classes -/
theorem errorCtors_clean : ∀ s ∈ errorCtors, s.clean = true :=
  List.all_eq_true.mp (by decide +kernel)

theorem builders_clean : tables.buildersClean = true := by decide +kernel

/-- **sites_clean.**  Every tracing call site of the five crates renders only clean classes. -/
theorem sites_clean : ∀ s ∈ logSites, s.clean = true :=
  List.all_eq_true.mp (by decide +kernel)

/-- the table is not trivially clean: some tracing sites do interpolate arguments -/
example : (logSites.any (fun s => !s.args.isEmpty)) = true := by decide +kernel

/-! ### 3. `redaction_sound` — the manual `Debug` / `Display` impls (EpochSnapshot, EpochSnapshotManager,
    MessageProcessingResult, GroupResult, UpdateGroupResult, NostrGroupConfigData, NostrGroupDataUpdate,
    WelcomePreview, JoinedGroupResult, EncryptionConfig, Secret<T>, the storage error and state enums, the
    memory-storage MLS maps) render only clean classes: their sensitive fields are absent or replaced
    by a literal. -/

theorem fmtImpls_clean : ∀ s ∈ fmtImpls, s.clean = true :=
  List.all_eq_true.mp (by decide +kernel)

theorem redaction_sound (r : Record) (hem : emittedBy tables fmtImpls r = true) : allPub r.render = true :=
  render_clean tables builders_clean fmtImpls r fmtImpls_clean hem

/-- **results_redact.**  No result / configuration type of the crates (`…Result`, `…Config…`) has a derived
    `Debug` that prints a sensitive field: `derivedResultDebug` lists the types that do, and it is empty or
    clean.  (Data records the caller asked for — `Group`, `Message`, `Welcome` … — are in
    `derivedRecordDebug` and are outside the property.) -/
theorem results_redact : ∀ s ∈ derivedResultDebug, s.clean = true :=
  List.all_eq_true.mp (by decide +kernel)

/-! ### 4. the property — no modelled execution emits a secret. -/

/-- an emitted item of a modelled execution: a log record, a returned error value (formatted by an
    `errFmt` row) or the Debug/Display of a value with a manual impl -/
def emitted (r : Record) : Bool :=
  emittedBy tables logSites r || emittedBy tables errorFormats r || emittedBy tables fmtImpls r

/-- **C14_full.**  Nothing a modelled execution emits — log record at any level, error value, manual
    Debug/Display of a result or configuration value — contains a secret atom; for all sites and all
    argument values. -/
theorem C14_full (r : Record) (hem : emitted r = true) : allPub r.render = true := by
  unfold emitted at hem
  simp only [Bool.or_eq_true] at hem
  rcases hem with (h | h) | h
  · exact render_clean tables builders_clean logSites r sites_clean h
  · exact render_clean tables builders_clean errorFormats r errorFormats_clean h
  · exact redaction_sound r h

/-- non-vacuity: a non-trivial record (the `record_failure` warning: an event id and a sanitized
    reason) is emitted by the generated tables and renders something -/
example : ∃ r : Record, emitted r = true ∧ r.args ≠ [] ∧ r.render ≠ [] := by
  refine ⟨⟨(logSites.find? (fun s => s.args == [.eventId, .const])).get!.id,
           [.leaf .eventId [.pub 7], .leaf .const [.pub 1]]⟩, ?_⟩
  decide +kernel

end MdkVerif.Props.C14
