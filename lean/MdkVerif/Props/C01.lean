import MdkVerif.Model.Client
import MdkVerif.Proofs.Client
import MdkVerif.Props.C01Fork
import MdkVerif.Props.C01Chain
/-
  C01 — Members converge on one MIP-03-selected group state under races and reordering.
  This file: the MIP-03 order and its agreement with `is_better_candidate`; what one client does with
  two competing commits in either order; the closed witnesses of the mechanisms that break convergence
  on the current tree (each is an open known finding and is replayed on the implementation).
  `Props/C01Fork.lean` carries the general single-fork theorem (any number of siblings, any order,
  any repetition), `Props/C01Chain.lean` its lift to many clients and chains of forks; both are restated at the end of
  this file.
-/
namespace MdkVerif.Props.C01
open MdkVerif MdkVerif.Client

/-- MIP-03: earliest wrapper timestamp wins, then the smallest event id (the order `Fork.klt` of the fork machine) -/
def mip03Lt (a b : Nat × Nat) : Bool := a.1 < b.1 || (a.1 == b.1 && a.2 < b.2)

theorem mip03_irrefl (a : Nat × Nat) : mip03Lt a a = false := Fork.klt_irrefl a
theorem mip03_trans (a b c : Nat × Nat) (h1 : mip03Lt a b = true) (h2 : mip03Lt b c = true) : mip03Lt a c = true :=
  Fork.klt_trans h1 h2
theorem mip03_total (a b : Nat × Nat) (h : a ≠ b) : mip03Lt a b = true ∨ mip03Lt b a = true := Fork.klt_total h
theorem mip03_asymm (a b : Nat × Nat) (h : mip03Lt a b = true) : mip03Lt b a = false := Fork.klt_asymm h

/-- `is_better_candidate` IS the MIP-03 comparison with the commit applied at that epoch — as long as the
    snapshot's timestamp is known (non-zero: not a hydrated entry) -/
theorem isBetter_iff_mip03 (c : Cl) (ee : Nat) (e : Ev) (s : Snap)
    (hf : c.mgr.find? (·.epoch == ee) = some s) (hts : s.ts ≠ 0) :
    isBetter c ee e = mip03Lt (e.ts, e.idnum) (s.ts, s.commit) := Fork.isBetter_eq_klt c ee e s hf hts

/-- without a snapshot for that epoch nothing is ever 'better' -/
theorem isBetter_no_snapshot (c : Cl) (ee : Nat) (e : Ev) (h : c.mgr.find? (·.epoch == ee) = none) :
    isBetter c ee e = false := by
  simp [isBetter, h]

/-- a hydrated entry (timestamp lost in a restart) is never compared -/
theorem isBetter_hydrated (c : Cl) (ee : Nat) (e : Ev) (s : Snap)
    (hf : c.mgr.find? (·.epoch == ee) = some s) (hts : s.ts = 0) : isBetter c ee e = false := by
  simp [isBetter, hf, hts]

/-! ### one bystander, two competing commits: both delivery orders end on the MIP-03 winner -/

def by0 : Cl := initCl 2 false 5 [0, 1, 2] [0, 1] 1
def cA : Ev := { n := 1, ts := 20, idnum := 7, cipher := 1, sender := 1, path := [], kind := .commit .selfUpdate [] }
def cB : Ev := { n := 2, ts := 19, idnum := 9, cipher := 2, sender := 0, path := [], kind := .commit (.setData { initData [0, 1] 1 with name := 4 }) [] }

theorem two_orders_converge :
    (deliver (deliver by0 cA 0).1 cB 0).1.g.path = [2] ∧ (deliver (deliver by0 cB 0).1 cA 0).1.g.path = [2] ∧
    (deliver (deliver by0 cA 0).1 cB 0).1.g.name = 4 ∧ (deliver (deliver by0 cB 0).1 cA 0).1.g.name = 4 := by decide +kernel

/-- … and offering the loser again afterwards changes nothing -/
theorem loser_stays_out :
    proj (deliver (deliver (deliver by0 cA 0).1 cB 0).1 cA 0).1 = proj (deliver (deliver by0 cA 0).1 cB 0).1 := by decide +kernel

/-! ### the full statement and the mechanisms that refute it on the current tree -/

/-- the convergence statement for one fork: whatever the order in which two sibling commits reach a
    client (and however it applies its own), it ends on the MIP-03 winner -/
def single_fork_full : Prop :=
  ∀ (c : Cl) (a b : Ev) (pre : Cl → Cl), a.path = c.g.path → b.path = c.g.path →
    mip03Lt (b.ts, b.idnum) (a.ts, a.idnum) = true →
    (deliver (deliver (pre c) a 0).1 b 0).1.g.path = c.g.path ++ [b.n]

/-- (1) a committer that merges its own commit immediately (`merge_pending_commit` takes no snapshot)
    cannot roll back when the better competitor arrives: signature `immediate-merge-no-snapshot` -/
def committer : Cl := (stageCommit (initCl 1 false 5 [0, 1, 2] [0, 1] 1) 1 20 7 .selfUpdate false).1
theorem witness_immediate_merge :
    (deliver (merge committer).1 cB 0).2 = .unprocessable ∧ (deliver (merge committer).1 cB 0).1.g.path = [1] := by decide +kernel

/-- (2) a commit offered before its predecessor fails the outer layer, is recorded Failed, and the dedup
    step blocks it for ever, even after the predecessor was applied: `handshake-before-predecessor-blocked` -/
def cB2 : Ev := { n := 3, ts := 30, idnum := 5, cipher := 3, sender := 0, path := [2], kind := .commit .selfUpdate [] }
theorem witness_ahead_of_predecessor :
    (deliver by0 cB2 0).2 = .err eMessage ∧
    (deliver (deliver (deliver by0 cB2 0).1 cB 0).1 cB2 0).2 = .unprocessable ∧
    (deliver (deliver (deliver by0 cB2 0).1 cB 0).1 cB2 0).1.g.path = [2] := by decide +kernel

/-- (3) after a restart the manager's timestamps are gone (hydration), so a better competitor that
    arrives after the restart is refused: `hydrated-timestamp-zero` -/
def by0p : Cl := initCl 2 true 5 [0, 1, 2] [0, 1] 1
theorem witness_hydrated :
    (deliver (restart (deliver by0p cA 0).1).1 cB 0).2 = .unprocessable ∧
    (deliver (deliver by0p cA 0).1 cB 0).2 = .commit := by decide +kernel

theorem single_fork_full_false : ¬ single_fork_full := by
  intro h
  have h2 := h (initCl 1 false 5 [0, 1, 2] [0, 1] 1) { cA with n := 9 } cB
    (fun c => (merge (stageCommit c 1 20 7 .selfUpdate false).1).1) rfl rfl (by decide)
  -- false of the committer that merged immediately
  revert h2; decide +kernel

/-! ### the general single-fork theorems (proved in Props/C01Fork.lean; restated here so that this
    module's audit — `#print axioms` on every theorem of the file — covers them) -/

open MdkVerif.Fork MdkVerif.Props.C01Fork in
theorem single_fork_bystander (c : Cl) (S : List Ev) (l : List Ev) (nx : Nat)
    (hg : c.hasGroup = true) (ha : c.g.active = true) (hr : 1 ≤ c.retention) (hsec : SecretsOK c.g) (hm : NoForkSnapshot c)
    (hn : c.g.recNid = c.g.nid)
    (hS : Siblings c S) (hl : ∀ e ∈ l, e ∈ S) (hne : l ≠ []) :
    ∃ w ∈ l, (∀ e ∈ l, e = w ∨ klt (key w) (key e) = true) ∧
      (l.foldl (fun c e => (deliver c e nx).1) c).g.path = c.g.path ++ [w.cipher] ∧
      wc (l.foldl (fun c e => (deliver c e nx).1) c).g [] = wc (childG c w) [] ∧
      (getRec (l.foldl (fun c e => (deliver c e nx).1) c) w.n).map (·.state) = some 2 ∧
      ∀ e ∈ l, e ≠ w → ∃ r, getRec (l.foldl (fun c e => (deliver c e nx).1) c) e.n = some r ∧ (r.state = 3 ∨ r.state = 4) :=
  C01Fork.single_fork_bystander c S l nx hg ha hr hsec hm hn hS hl hne

open MdkVerif.Fork MdkVerif.Props.C01Fork in
theorem single_fork_committer (c : Cl) (o : Ev) (S : List Ev) (l : List Ev) (nx : Nat)
    (hg : c.hasGroup = true) (ha : c.g.active = true) (hr : 1 ≤ c.retention) (hsec : SecretsOK c.g) (hm : NoForkSnapshot c)
    (hn : c.g.recNid = c.g.nid)
    (ho : OwnCommit c o) (hS : Siblings c S)
    (hd : ∀ e ∈ S, e.n ≠ o.n ∧ (e.ts, e.idnum) ≠ (o.ts, o.idnum))
    (hl : ∀ e ∈ l, e ∈ o :: S) (hne : l ≠ []) :
    ∃ w ∈ l, (∀ e ∈ l, e = w ∨ klt (key w) (key e) = true) ∧
      (l.foldl (fun c e => (deliver c e nx).1) c).g.path = c.g.path ++ [w.cipher] ∧
      wc (l.foldl (fun c e => (deliver c e nx).1) c).g [] = wc (childG c w) [] ∧
      (l.foldl (fun c e => (deliver c e nx).1) c).g.pending = none ∧
      (getRec (l.foldl (fun c e => (deliver c e nx).1) c) w.n).map (·.state) = some 2 ∧
      ∀ e ∈ l, e ≠ w → e ≠ o → ∃ r, getRec (l.foldl (fun c e => (deliver c e nx).1) c) e.n = some r ∧ (r.state = 3 ∨ r.state = 4) :=
  C01Fork.single_fork_committer c o S l nx hg ha hr hsec hm hn ho hS hd hl hne

/-- DESIGN's `secrets_follow_path` (and "no snapshot of the current epoch"): invariants of every history -/
theorem secrets_follow_path (id : Nat) (p : Bool) (r : Nat) (ms as : List Nat) (name : Nat) (ops : List C08.COp) :
    C01Fork.SecretsOK (ops.foldl C08.cstep (initCl id p r ms as name)).g ∧
    C01Fork.NoForkSnapshot (ops.foldl C08.cstep (initCl id p r ms as name)) ∧
    ∀ s ∈ (ops.foldl C08.cstep (initCl id p r ms as name)).mgr, C01Fork.SecretsOK s.saved :=
  C01Fork.secrets_follow_path id p r ms as name ops

open MdkVerif.Fork MdkVerif.Props.C01Fork in
/-- staging + publishing a commit establishes the committer theorem's hypotheses -/
theorem stage_own_commit (c : Cl) (n ts idn : Nat) (b : Body) (na : Bool) (o : Ev)
    (hts : ts ≠ 0) (hsec : SecretsOK c.g) (hm : NoForkSnapshot c)
    (hk : ∀ d, b = .setData d → d.nid = c.g.recNid) (hme : removesMe c.id b c.g.props = false)
    (h : (stageCommit c n ts idn b na).2 = .ev o) :
    OwnCommit (stageCommit c n ts idn b na).1 o ∧ SecretsOK (stageCommit c n ts idn b na).1.g ∧
    NoForkSnapshot (stageCommit c n ts idn b na).1 ∧ (stageCommit c n ts idn b na).1.g.path = c.g.path ∧
    (stageCommit c n ts idn b na).1.g.recNid = c.g.recNid ∧ (stageCommit c n ts idn b na).1.g.nid = c.g.nid :=
  C01Fork.stage_own_commit c n ts idn b na o hts hsec hm hk hme h

open MdkVerif.Fork MdkVerif.Props.C01Fork in
/-- the bystander theorem for every client state reachable by any history of API calls -/
theorem single_fork_reachable (id : Nat) (p : Bool) (r : Nat) (ms as : List Nat) (name : Nat) (ops : List C08.COp)
    (S l : List Ev) (nx : Nat)
    (hg : (ops.foldl C08.cstep (initCl id p r ms as name)).hasGroup = true)
    (ha : (ops.foldl C08.cstep (initCl id p r ms as name)).g.active = true)
    (hr : 1 ≤ (ops.foldl C08.cstep (initCl id p r ms as name)).retention)
    (hS : Siblings (ops.foldl C08.cstep (initCl id p r ms as name)) S) (hl : ∀ e ∈ l, e ∈ S) (hne : l ≠ []) :
    ∃ w ∈ l, (∀ e ∈ l, e = w ∨ klt (key w) (key e) = true) ∧
      (l.foldl (fun c e => (deliver c e nx).1) (ops.foldl C08.cstep (initCl id p r ms as name))).g.path =
        (ops.foldl C08.cstep (initCl id p r ms as name)).g.path ++ [w.cipher] :=
  C01Fork.single_fork_reachable id p r ms as name ops S l nx hg ha hr hS hl hne

/-- the excluded sibling of the bystander theorem: one that rotates the nostr group id (`h-rotation-in-flight`) -/
theorem single_fork_needs_fixed_id : ¬ C01Fork.single_fork_any_id_full := C01Fork.single_fork_any_id_full_false

/-- the excluded sibling of the bystander theorem: one that removes the receiver (`evicted-by-losing-commit`) -/
theorem single_fork_needs_membership : ¬ C01Fork.single_fork_any_target_full := C01Fork.single_fork_any_target_full_false

/-- the excluded configuration of the bystander theorem: retention 0 -/
theorem single_fork_needs_retention : ¬ C01Fork.single_fork_bystander_full := C01Fork.single_fork_bystander_full_false


/-! ### many clients and chains of forks (proved in Props/C01Chain.lean over Proofs/Chain.lean; restated here
    so that this module's audit covers them).  Common hypothesis: LEVEL-BY-LEVEL delivery, every client
    offered every sibling of every level; the statement for every schedule is `C01Chain.C01_full`, refuted
    by `chain_needs_level_by_level`.  Hypotheses on the client and the events: the client is active, its record's id is
    the extension's, every event carries the id in force, no commit of the chain rotates the id or removes
    the receiver (`ChainEv` / `LevelEv`: conditions on the events and the core of the start state). -/

open MdkVerif.Fork MdkVerif.Chain MdkVerif.Props.C01Fork in
/-- two clients at one fork, any combination of roles, own orders and repetitions: same MLS state, same group state -/
theorem fork_agree (c1 c2 : Cl) (T l1 l2 : List Ev) (nx1 nx2 : Nat)
    (h1 : AtFork c1 T) (h2 : AtFork c2 T) (hp : SameParent c1.g c2.g) (hmp : c1.maxPast = c2.maxPast)
    (hl1 : Covers T l1) (hl2 : Covers T l2) (hne : T ≠ []) :
    ∃ w, IsMin w T ∧
      (run nx1 c1 l1).g.path = c1.g.path ++ [w.cipher] ∧
      (run nx1 c1 l1).g.path = (run nx2 c2 l2).g.path ∧
      wc (run nx1 c1 l1).g [] = wc (run nx2 c2 l2).g [] :=
  C01Chain.fork_agree c1 c2 T l1 l2 nx1 nx2 h1 h2 hp hmp hl1 hl2 hne

open MdkVerif.Fork MdkVerif.Chain MdkVerif.Props.C01Fork in
/-- two clients offered the same SET of siblings (not necessarily all) agree -/
theorem fork_agree_sameset (c1 c2 : Cl) (T l1 l2 : List Ev) (nx1 nx2 : Nat)
    (h1 : AtFork c1 T) (h2 : AtFork c2 T) (hp : SameParent c1.g c2.g) (hmp : c1.maxPast = c2.maxPast)
    (hl1 : ∀ e ∈ l1, e ∈ T) (hl2 : ∀ e ∈ l2, e ∈ T) (hset : ∀ e, e ∈ l1 ↔ e ∈ l2) (hne : l1 ≠ []) :
    ∃ w, IsMin w l1 ∧
      (run nx1 c1 l1).g.path = c1.g.path ++ [w.cipher] ∧
      (run nx1 c1 l1).g.path = (run nx2 c2 l2).g.path ∧
      wc (run nx1 c1 l1).g [] = wc (run nx2 c2 l2).g [] :=
  C01Chain.fork_agree_sameset c1 c2 T l1 l2 nx1 nx2 h1 h2 hp hmp hl1 hl2 hset hne

open MdkVerif.Fork MdkVerif.Chain MdkVerif.Props.C01Fork in
/-- same epoch, MLS state, member set, whole group data, stored record, activity -/
theorem fork_agree_data (c1 c2 : Cl) (T l1 l2 : List Ev) (nx1 nx2 : Nat)
    (h1 : AtFork c1 T) (h2 : AtFork c2 T) (hp : SameParent c1.g c2.g) (hmp : c1.maxPast = c2.maxPast)
    (hl1 : Covers T l1) (hl2 : Covers T l2) (hne : T ≠ []) :
    epochOf (run nx1 c1 l1).g.path = epochOf (run nx2 c2 l2).g.path ∧
    (run nx1 c1 l1).g.path = (run nx2 c2 l2).g.path ∧
    (run nx1 c1 l1).g.members = (run nx2 c2 l2).g.members ∧
    dataOf (run nx1 c1 l1).g = dataOf (run nx2 c2 l2).g ∧
    (run nx1 c1 l1).g.recEpoch = (run nx2 c2 l2).g.recEpoch ∧
    (run nx1 c1 l1).g.recName = (run nx2 c2 l2).g.recName ∧
    (run nx1 c1 l1).g.recAdmins = (run nx2 c2 l2).g.recAdmins ∧
    (run nx1 c1 l1).g.recDesc = (run nx2 c2 l2).g.recDesc ∧
    (run nx1 c1 l1).g.recRelays = (run nx2 c2 l2).g.recRelays ∧
    (run nx1 c1 l1).g.recNid = (run nx2 c2 l2).g.recNid ∧
    (run nx1 c1 l1).g.pending = (run nx2 c2 l2).g.pending ∧
    (run nx1 c1 l1).g.props = (run nx2 c2 l2).g.props ∧
    (run nx1 c1 l1).g.active = (run nx2 c2 l2).g.active :=
  C01Chain.fork_agree_data c1 c2 T l1 l2 nx1 nx2 h1 h2 hp hmp hl1 hl2 hne

open MdkVerif.Fork MdkVerif.Chain MdkVerif.Props.C01Fork in
/-- … with only path, members and group data shared at the start -/
theorem fork_agree_core (c1 c2 : Cl) (T l1 l2 : List Ev) (nx1 nx2 : Nat)
    (h1 : AtFork c1 T) (h2 : AtFork c2 T) (hp : core c1.g = core c2.g)
    (hl1 : Covers T l1) (hl2 : Covers T l2) (hne : T ≠ []) :
    ∃ w, IsMin w T ∧ core (run nx1 c1 l1).g = coreStep (core c1.g) w ∧ core (run nx2 c2 l2).g = coreStep (core c1.g) w :=
  C01Chain.fork_agree_core c1 c2 T l1 l2 nx1 nx2 h1 h2 hp hl1 hl2 hne

open MdkVerif.Fork MdkVerif.Chain MdkVerif.Props.C01Fork in
/-- n clients at one fork -/
theorem fork_agree_all (cs : List (Cl × List Ev × Nat)) (T : List Ev) (w : Ev) (g0 : GState) (mp : Nat)
    (hw : IsMin w T)
    (h : ∀ p ∈ cs, AtFork p.1 T ∧ SameParent p.1.g g0 ∧ p.1.maxPast = mp ∧ Covers T p.2.1) :
    (∀ p ∈ cs, (run p.2.2 p.1 p.2.1).g.path = g0.path ++ [w.cipher] ∧
      wc (run p.2.2 p.1 p.2.1).g [] = wc (childOfG mp g0 w) []) ∧
    (∀ p ∈ cs, ∀ q ∈ cs, (run p.2.2 p.1 p.2.1).g.path = (run q.2.2 q.1 q.2.1).g.path ∧
      wc (run p.2.2 p.1 p.2.1).g [] = wc (run q.2.2 q.1 q.2.1).g []) :=
  C01Chain.fork_agree_all cs T w g0 mp hw h

open MdkVerif.Fork MdkVerif.Chain MdkVerif.Props.C01Fork in
/-- frame of `process_message`, every state / event / fuel -/
theorem deliver_frame (fuel nx : Nat) (c : Cl) (e : Ev) :
    (deliverN fuel nx c e).1.id = c.id ∧ (deliverN fuel nx c e).1.persistent = c.persistent ∧
    (deliverN fuel nx c e).1.retention = c.retention ∧ (deliverN fuel nx c e).1.maxPast = c.maxPast ∧
    (deliverN fuel nx c e).1.hasGroup = c.hasGroup ∧
    (∀ n, n ≠ e.n → getRec c n = none → getRec (deliverN fuel nx c e).1 n = none) ∧
    (∀ n r, n ≠ e.n → getRec c n = some r → rbRec (epochOf e.path) r = r → getRec (deliverN fuel nx c e).1 n = some r) ∧
    (∀ n, n ≠ e.n → (getRec (deliverN fuel nx c e).1 n).isSome = (getRec c n).isSome) :=
  C01Chain.deliver_frame fuel nx c e

open MdkVerif.Fork MdkVerif.Chain MdkVerif.Props.C01Fork in
/-- frame on the consumed ratchet generations (for every state satisfying the snapshot invariant `ConsMono`) -/
theorem consumed_frame (fuel nx : Nat) (c : Cl) (e : Ev) (h : ConsMono c) :
    (∀ x ∈ (deliverN fuel nx c e).1.g.consumed, x ∈ c.g.consumed ∨ x = e.cipher) ∧ ConsMono (deliverN fuel nx c e).1 :=
  C01Chain.consumed_frame fuel nx c e h

open MdkVerif.Fork MdkVerif.Chain MdkVerif.Props.C01Fork in
/-- `ConsMono` holds of every reachable client state -/
theorem consMono_reachable (id : Nat) (p : Bool) (r : Nat) (ms as : List Nat) (name : Nat) (ops : List C08.COp) :
    ConsMono (ops.foldl C08.cstep (initCl id p r ms as name)) :=
  C01Chain.consMono_reachable id p r ms as name ops

open MdkVerif.Fork MdkVerif.Chain MdkVerif.Props.C01Fork in
/-- … and the consumed frame does not hold for every state -/
theorem consumed_frame_needs_inv :
    ¬ (∀ (c : Cl) (e : Ev) (nx : Nat), ∀ x ∈ (deliver c e nx).1.g.consumed, x ∈ c.g.consumed ∨ x = e.cipher) :=
  C01Chain.consumed_frame_needs_inv

open MdkVerif.Fork MdkVerif.Chain MdkVerif.Props.C01Fork in
/-- after a fork level the per-client hypotheses hold again one epoch later -/
theorem fork_restores (c : Cl) (T l : List Ev) (nx : Nat) (hat : AtFork c T) (hb : Below c)
    (hl : ∀ e ∈ l, e ∈ T) (hne : l ≠ []) :
    (run nx c l).hasGroup = true ∧ (run nx c l).g.active = true ∧ 1 ≤ (run nx c l).retention ∧
    SecretsOK (run nx c l).g ∧ Below (run nx c l) ∧
    NoForkSnapshot (run nx c l) ∧ (run nx c l).id = c.id ∧ (run nx c l).maxPast = c.maxPast ∧
    Synced (run nx c l).g ∧ (run nx c l).g.recNid = (run nx c l).g.nid ∧ (run nx c l).g.recNid = c.g.recNid ∧
    (∃ w ∈ l, core (run nx c l).g = coreStep (core c.g) w) ∧
    epochOf (run nx c l).g.path = epochOf c.g.path + 1 ∧
    (∀ x ∈ (run nx c l).g.consumed, x ∈ c.g.consumed ∨ ∃ e ∈ T, e.cipher = x) :=
  C01Chain.fork_restores c T l nx hat hb hl hne

open MdkVerif.Fork MdkVerif.Chain MdkVerif.Props.C01Fork in
/-- a chain of forks, one client, every level-by-level schedule -/
theorem chain_bystander (c : Cl) (Ls : List Level) (ls : List (List Ev)) (nx : Nat)
    (hg : c.hasGroup = true) (ha : c.g.active = true) (hr : 1 ≤ c.retention) (hsec : SecretsOK c.g) (hbelow : Below c)
    (hn : c.g.recNid = c.g.nid)
    (hch : ChainEv c.id (core c.g) Ls)
    (hu : ∀ e ∈ evs Ls, getRec c e.n = none ∧ e.cipher ∉ c.g.consumed)
    (hw : LevelWise Ls ls) :
    (run nx c ls.flatten).g.path = c.g.path ++ Ls.map (·.1.cipher) ∧
    wc (run nx c ls.flatten).g [] = wc (chainG c.maxPast c.g (Ls.map (·.1))) [] ∧
    (∀ L ∈ Ls, (getRec (run nx c ls.flatten) L.1.n).map (·.state) = some 2) ∧
    (∀ L ∈ Ls, ∀ e ∈ L.2, e ≠ L.1 →
      ∃ r, getRec (run nx c ls.flatten) e.n = some r ∧ (r.state = 3 ∨ r.state = 4)) :=
  C01Chain.chain_bystander c Ls ls nx hg ha hr hsec hbelow hn hch hu hw

open MdkVerif.Fork MdkVerif.Chain MdkVerif.Props.C01Fork in
/-- members and the whole group data after the chain: the winners' commits applied in order -/
theorem chain_bystander_data (c : Cl) (Ls : List Level) (ls : List (List Ev)) (nx : Nat)
    (hg : c.hasGroup = true) (ha : c.g.active = true) (hr : 1 ≤ c.retention) (hsec : SecretsOK c.g) (hbelow : Below c)
    (hn : c.g.recNid = c.g.nid)
    (hch : ChainEv c.id (core c.g) Ls)
    (hu : ∀ e ∈ evs Ls, getRec c e.n = none ∧ e.cipher ∉ c.g.consumed)
    (hw : LevelWise Ls ls) :
    core (run nx c ls.flatten).g = (Ls.map (·.1)).foldl coreStep (core c.g) ∧
    dataOf (run nx c ls.flatten).g = ((Ls.map (·.1)).foldl coreStep (core c.g)).2.2 ∧
    (run nx c ls.flatten).g.members = ((Ls.map (·.1)).foldl coreStep (core c.g)).2.1 ∧
    epochOf (run nx c ls.flatten).g.path = epochOf c.g.path + Ls.length ∧
    (run nx c ls.flatten).g.active = true ∧
    (run nx c ls.flatten).g.recNid = (run nx c ls.flatten).g.nid :=
  C01Chain.chain_bystander_data c Ls ls nx hg ha hr hsec hbelow hn hch hu hw

open MdkVerif.Fork MdkVerif.Chain MdkVerif.Props.C01Fork in
/-- the chain theorem for every reachable client state -/
theorem chain_reachable (id : Nat) (p : Bool) (r : Nat) (ms as : List Nat) (name : Nat) (ops : List C08.COp)
    (Ls : List Level) (ls : List (List Ev)) (nx : Nat)
    (hg : (ops.foldl C08.cstep (initCl id p r ms as name)).hasGroup = true)
    (ha : (ops.foldl C08.cstep (initCl id p r ms as name)).g.active = true)
    (hr : 1 ≤ (ops.foldl C08.cstep (initCl id p r ms as name)).retention)
    (hch : ChainEv (ops.foldl C08.cstep (initCl id p r ms as name)).id (core (ops.foldl C08.cstep (initCl id p r ms as name)).g) Ls)
    (hu : ∀ e ∈ evs Ls, getRec (ops.foldl C08.cstep (initCl id p r ms as name)) e.n = none ∧
      e.cipher ∉ (ops.foldl C08.cstep (initCl id p r ms as name)).g.consumed)
    (hw : LevelWise Ls ls) :
    (run nx (ops.foldl C08.cstep (initCl id p r ms as name)) ls.flatten).g.path =
      (ops.foldl C08.cstep (initCl id p r ms as name)).g.path ++ Ls.map (·.1.cipher) :=
  C01Chain.chain_reachable id p r ms as name ops Ls ls nx hg ha hr hch hu hw

open MdkVerif.Fork MdkVerif.Chain MdkVerif.Props.C01Fork in
/-- a chain of forks, many clients (bystanders and committers of the first level), own schedules -/
theorem chain_converges (ps : List C01Chain.Party) (g0 : GState) (mp : Nat) (w : Ev) (T : List Ev) (rest : List Level)
    (hmin : IsMin w T) (hcross : ∀ e1 ∈ T, ∀ e2 ∈ evs rest, e1.n ≠ e2.n ∧ e1.cipher ≠ e2.cipher)
    (h : ∀ p ∈ ps, C01Chain.PartyOK g0 mp w T rest p) :
    (∀ p ∈ ps, p.final.g.path = g0.path ++ (w :: rest.map (·.1)).map (·.cipher) ∧
      wc p.final.g [] = wc (chainG mp g0 (w :: rest.map (·.1))) []) ∧
    (∀ p ∈ ps, ∀ q ∈ ps, p.final.g.path = q.final.g.path ∧ wc p.final.g [] = wc q.final.g []) :=
  C01Chain.chain_converges ps g0 mp w T rest hmin hcross h

open MdkVerif.Fork MdkVerif.Chain MdkVerif.Props.C01Fork in
/-- same epoch, MLS state, member set, whole group data, stored record, activity for any two parties -/
theorem chain_converges_data (ps : List C01Chain.Party) (g0 : GState) (mp : Nat) (w : Ev) (T : List Ev) (rest : List Level)
    (hmin : IsMin w T) (hcross : ∀ e1 ∈ T, ∀ e2 ∈ evs rest, e1.n ≠ e2.n ∧ e1.cipher ≠ e2.cipher)
    (h : ∀ p ∈ ps, C01Chain.PartyOK g0 mp w T rest p) :
    ∀ p ∈ ps, ∀ q ∈ ps,
      epochOf p.final.g.path = epochOf q.final.g.path ∧ p.final.g.path = q.final.g.path ∧
      p.final.g.members = q.final.g.members ∧ dataOf p.final.g = dataOf q.final.g ∧
      p.final.g.recEpoch = q.final.g.recEpoch ∧ p.final.g.recName = q.final.g.recName ∧
      p.final.g.recAdmins = q.final.g.recAdmins ∧ p.final.g.recDesc = q.final.g.recDesc ∧
      p.final.g.recRelays = q.final.g.recRelays ∧ p.final.g.recNid = q.final.g.recNid ∧
      p.final.g.pending = q.final.g.pending ∧ p.final.g.props = q.final.g.props ∧
      p.final.g.active = q.final.g.active ∧
      epochOf p.final.g.path = epochOf g0.path + (rest.length + 1) ∧
      core p.final.g = (w :: rest.map (·.1)).foldl coreStep (core g0) :=
  C01Chain.chain_converges_data ps g0 mp w T rest hmin hcross h

open MdkVerif.Fork MdkVerif.Chain MdkVerif.Props.C01Fork in
/-- … with only path, members and group data shared at the start -/
theorem chain_converges_core (ps : List C01Chain.Party) (k0 : Core) (w : Ev) (T : List Ev) (rest : List Level)
    (hmin : IsMin w T) (hcross : ∀ e1 ∈ T, ∀ e2 ∈ evs rest, e1.n ≠ e2.n ∧ e1.cipher ≠ e2.cipher)
    (h : ∀ p ∈ ps, AtFork p.c T ∧ Below p.c ∧ core p.c.g = k0 ∧ Covers T p.l ∧
      ChainEv p.c.id (coreStep k0 w) rest ∧
      (∀ e ∈ evs rest, getRec p.c e.n = none ∧ e.cipher ∉ p.c.g.consumed) ∧ LevelWise rest p.ls) :
    ∀ p ∈ ps, core p.final.g = (w :: rest.map (·.1)).foldl coreStep k0 :=
  C01Chain.chain_converges_core ps k0 w T rest hmin hcross h

open MdkVerif.Fork MdkVerif.Chain MdkVerif.Props.C01Fork in
/-- an event created on a branch the client is not on is refused and changes nothing but its own record -/
theorem stale_refused (c : Cl) (e : Ev) (nx : Nat) (hs : SecretsOK c.g)
    (hst : ¬ e.path <+: c.g.path) :
    proj (deliver c e nx).1 = proj c ∧
    ((deliver c e nx).1.g = c.g ∨ (deliver c e nx).1.g = ensureSecret c.g) ∧
    (deliver c e nx).1.mgr = c.mgr ∧
    (∀ m, m ≠ e.n → getRec (deliver c e nx).1 m = getRec c m) ∧
    (∃ r, getRec (deliver c e nx).1 e.n = some r ∧ (r.state = 3 ∨ r.state = 4)) ∧
    ((deliver c e nx).2 = .unprocessable ∨ (deliver c e nx).2 = .previouslyFailed ∨
      (deliver c e nx).2 = .err eGroupNotFound ∨ (deliver c e nx).2 = .err eExportSecret ∨
      (deliver c e nx).2 = .err eMessage) ∧
    (routes c e = true → c.g.active = true →
      (deliver c e nx).2 = .unprocessable ∨ (deliver c e nx).2 = .err eMessage) :=
  C01Chain.stale_refused c e nx hs hst

open MdkVerif.Fork MdkVerif.Chain MdkVerif.Props.C01Fork in
/-- the chain theorem with stale events interleaved freely inside every level's delivery list -/
theorem chain_bystander_stale (c : Cl) (Ls : List Level) (ls : List (List Ev)) (nx : Nat)
    (hg : c.hasGroup = true) (ha : c.g.active = true) (hr : 1 ≤ c.retention) (hsec : SecretsOK c.g) (hbelow : Below c)
    (hn : c.g.recNid = c.g.nid)
    (hch : ChainEv c.id (core c.g) Ls)
    (hu : ∀ e ∈ evs Ls, getRec c e.n = none ∧ e.cipher ∉ c.g.consumed)
    (hw : LevelWiseS (evs Ls) c.g.path Ls ls) :
    (run nx c ls.flatten).g.path = c.g.path ++ Ls.map (·.1.cipher) ∧
    wc (run nx c ls.flatten).g [] = wc (chainG c.maxPast c.g (Ls.map (·.1))) [] ∧
    (∀ L ∈ Ls, (getRec (run nx c ls.flatten) L.1.n).map (·.state) = some 2) ∧
    (∀ L ∈ Ls, ∀ e ∈ L.2, e ≠ L.1 →
      ∃ r, getRec (run nx c ls.flatten) e.n = some r ∧ (r.state = 3 ∨ r.state = 4)) :=
  C01Chain.chain_bystander_stale c Ls ls nx hg ha hr hsec hbelow hn hch hu hw

open MdkVerif.Fork MdkVerif.Chain MdkVerif.Props.C01Fork in
/-- many clients, own schedules, stale events interleaved -/
theorem chain_converges_stale (ps : List C01Chain.Party) (g0 : GState) (mp : Nat) (w : Ev) (T : List Ev) (rest : List Level)
    (hmin : IsMin w T) (hcross : ∀ e1 ∈ T, ∀ e2 ∈ evs rest, e1.n ≠ e2.n ∧ e1.cipher ≠ e2.cipher)
    (h : ∀ p ∈ ps, C01Chain.PartyOKS g0 mp w T rest p) :
    (∀ p ∈ ps, p.final.g.path = g0.path ++ (w :: rest.map (·.1)).map (·.cipher) ∧
      wc p.final.g [] = wc (chainG mp g0 (w :: rest.map (·.1))) []) ∧
    (∀ p ∈ ps, ∀ q ∈ ps, p.final.g.path = q.final.g.path ∧ wc p.final.g [] = wc q.final.g []) :=
  C01Chain.chain_converges_stale ps g0 mp w T rest hmin hcross h

open MdkVerif.Fork MdkVerif.Chain MdkVerif.Props.C01Fork in
/-- a rollback over two epochs (retention ≥ 2) -/
theorem depth2_rollback (c : Cl) (a b a' : Ev) (nx : Nat)
    (hg : c.hasGroup = true) (ha : c.g.active = true) (hr : 2 ≤ c.retention) (hsec : SecretsOK c.g) (hbelow : Below c)
    (hnid : c.g.recNid = c.g.nid)
    (hS : Siblings c [a, b]) (hab : a ≠ b) (hlt : klt (key b) (key a) = true)
    (hc : ChildOf c a a') (hn : a'.n ≠ a.n ∧ a'.n ≠ b.n) (hci : a'.cipher ≠ a.cipher) :
    (run nx c [a, a', b]).g.path = c.g.path ++ [b.cipher] ∧
    wc (run nx c [a, a', b]).g [] = wc (childG c b) [] ∧
    (getRec (run nx c [a, a', b]) b.n).map (·.state) = some 2 ∧
    (getRec (run nx c [a, a', b]) a.n).map (·.state) = some 4 ∧
    (getRec (run nx c [a, a', b]) a'.n).map (·.state) = some 4 :=
  C01Chain.depth2_rollback c a b a' nx hg ha hr hsec hbelow hnid hS hab hlt hc hn hci

/-- the level-by-level hypothesis is needed: convergence for every schedule is false of the code
    (`handshake-before-predecessor-blocked`) -/
theorem chain_needs_level_by_level : ¬ C01Chain.C01_full := C01Chain.C01_full_false

end MdkVerif.Props.C01
