import MdkVerif.Model.Client
import MdkVerif.Proofs.Client
import MdkVerif.Proofs.Fork
import MdkVerif.Proofs.ForkInv
import MdkVerif.Proofs.Chain
import MdkVerif.Proofs.ChainMsg
import MdkVerif.Props.C01Fork
/-
  C02 — application messages at the level of HISTORIES, on top of the chain theorems of C01
  (Proofs/Chain.lean, Props/C01Chain.lean; DESIGN §13.7, §13.12).

  Vocabulary (Proofs/Chain.lean, Proofs/ChainMsg.lean):
    `run nx c l`              deliver the list `l` to client `c`, one event after the other
    `findRow m rows`          the stored row of message id `m`;  `Uniq rows`: ids are unique in the table
                              (with it, `rows.filter (·.mid == m) = [row]` says: stored exactly once)
    `Level = (w, S)`, `ChainEv id k Ls`, `AtFork c T`, `IsMin w T`   as in C01Chain
    `SlotEv id k M`           conditions on the EVENTS of one slot: application messages created in the state with
                              core `k`, by others than `id`, tagged with that state's nostr group id, pairwise distinct
                              event numbers / ciphertexts / message ids
    `SlotsEv id k Ls Ms`      slot j (`Ms[j]`) holds messages created in the state the winners of levels 1..j+1 lead to;
                              numbers and ciphertexts distinct from the chain's commits and from later slots
    `MLevelWise all p Ls Ms sched`   the schedule: `sched[j] = (l, m)`; `l` is the delivery list of level j+1 (all its
                              commits, any order, any repetition, events stale for the level interleaved), `m` the delivery
                              list of slot j (messages of the slot — any of them, any order, any repetition — and events
                              that are stale for the winner's state, e.g. messages and commits of branches that lost)
    `flat sched`              the whole delivery list `l₁ ++ m₁ ++ l₂ ++ m₂ ++ …`

  HYPOTHESIS of the history theorems, and the reason the property is only PARTIAL: a message is delivered while the
  client is in the epoch the message was created in (slot j lies between level j+1 and level j+2), on top of the
  level-by-level hypothesis of C01.  The statement for arbitrary interleavings is `C02_history_full`; it is false of the
  code (`C02_history_full_false`: a message offered before the commit that creates its epoch is recorded Failed and
  refused for ever; `C02_history_full_false_epoch_tag`: a message processed while the receiver sits on a losing sibling
  of a LATER level is filed under the receiver's epoch, invalidated by the rollback and refused afterwards).
  The second sentence of the property (messages of a losing branch are never left valid) needs NO schedule hypothesis:
  `losing_messages_never_valid` holds for every list of foreign events.
-/
namespace MdkVerif.Props.C02Chain
open MdkVerif MdkVerif.Client MdkVerif.Fork MdkVerif.Chain MdkVerif.ChainMsg MdkVerif.Props.C01Fork

/-! ### 1. one message, every state -/

/-- **app_deliver_stored** (every state, every event).  A client that is offered an application message which passes
    the tests of `process_message` — not blocked by its dedup record, routed by its `h` tag to an active group, opened by
    the outer layer, created in the client's current epoch or in a retained past state (`past.contains e.path`: the
    past-epoch window), by another member, its ratchet generation unused — stores EXACTLY ONE row for the message id:
    author = the sender, the message's own timestamp and content token, the wrapper's event number, state Processed,
    filed under the RECEIVER's current epoch; ids stay unique and no other row is touched.  A second offer is answered
    Unprocessable and changes neither the message table, the group state nor the snapshots (it only turns the event's own
    dedup record to Failed); every further offer changes nothing at all. -/
theorem app_deliver_stored (c : Cl) (e : Ev) (mid ts tok nx : Nat)
    (hk : e.kind = .app mid ts tok) (hroutes : routes c e = true) (hact : c.g.active = true)
    (hopen : outerOpens (ensureSecret c.g) e = true)
    (hle : epochOf e.path ≤ epochOf c.g.path)
    (hpast : epochOf e.path < epochOf c.g.path → c.g.past.contains e.path = true)
    (hf : e.sender ≠ c.id) (hc : e.cipher ∉ c.g.consumed) (hnb : NotBlocked c e.n) (hu : Uniq c.msgs) :
    (deliver c e nx).2 = .app mid ∧
    (deliver c e nx).1.msgs.filter (·.mid == mid) =
      [{ mid := mid, author := e.sender, state := 1, epoch := epochOf c.g.path, wrapper := e.n, msgTs := ts, tok := tok }] ∧
    Uniq (deliver c e nx).1.msgs ∧
    (∀ m, m ≠ mid → findRow m (deliver c e nx).1.msgs = findRow m c.msgs) ∧
    (deliver (deliver c e nx).1 e nx).2 = .unprocessable ∧
    (deliver (deliver c e nx).1 e nx).1.msgs = (deliver c e nx).1.msgs ∧
    (deliver (deliver c e nx).1 e nx).1.g = (deliver c e nx).1.g ∧
    (deliver (deliver c e nx).1 e nx).1.mgr = (deliver c e nx).1.mgr ∧
    (deliver (deliver (deliver c e nx).1 e nx).1 e nx).1 = (deliver (deliver c e nx).1 e nx).1 := by
  obtain ⟨hres, hs⟩ := deliverN_app_stored 3 nx hnb ⟨⟨hroutes, hact, hopen⟩, hk, hle, hpast⟩ hf hc
  change (deliver c e nx).2 = _ at hres
  change AppStored c e _ (deliver c e nx).1 at hs
  generalize hc1 : (deliver c e nx).1 = c1 at hs
  have hu1 : Uniq c1.msgs := by rw [hs.msgs]; exact uniq_upsertRow _ _ hu
  have hfound := findRow_upsert_self { mid := mid, author := e.sender, state := 1, epoch := epochOf c.g.path, wrapper := e.n, msgTs := ts, tok := tok } c.msgs
  rw [← hs.msgs] at hfound
  -- the second offer
  have hroutes1 : routes c1 e = true := by
    simp only [routes, hs.hasGroup, hs.recNid] at hroutes ⊢; exact hroutes
  have hopen1 : outerOpens (ensureSecret c1.g) e = true := by
    rw [hs.fix, outerOpens_congr (ensureSecret c.g) c1.g e (by rw [hs.path, ensureSecret_path]) hs.secrets]
    exact hopen
  have hnb1 : NotBlocked c1 e.n := by
    intro r hr; rw [hs.record] at hr; cases hr; simp
  have h2 : deliver c1 e nx = failUnprocessable (withSecret c1) e :=
    (deliverN_app 3 nx hnb1 ⟨⟨hroutes1, hs.active.trans hact, hopen1⟩, hk, by rw [hs.path]; exact hle,
      by rw [hs.path, hs.past]; exact hpast⟩).trans
      ((if_neg (by rw [hs.id]; exact hf)).trans (if_pos (by rw [hs.consumed]; exact List.mem_cons_self)))
  have hw1 : withSecret c1 = c1 := withSecret_eq c1 hs.fix
  rw [hw1] at h2
  refine ⟨hres, uniq_filter hu1 hfound, hu1, fun m hm => by rw [hs.msgs]; exact findRow_upsert_ne _ m _ hm, ?_, ?_, ?_, ?_, ?_⟩
  · rw [h2]; rfl
  · rw [h2]; rfl
  · rw [h2]; rfl
  · rw [h2]; rfl
  · rw [h2]
    obtain ⟨retry3, hd3⟩ := deliverN_once 3 nx (failUnprocessable c1 e).1 e
    show (deliverN 3 nx (failUnprocessable c1 e).1 e).1 = _
    rw [hd3]
    exact deliverOnce_blocked retry3 nx _ e _
      (by simp only [failUnprocessable, getRec, recordFailure, setRec]; exact Store.alookup_ainsert_self _ _ _) (Or.inl rfl)

/-- … in particular a message created in the client's CURRENT state: the outer layer opens it because the stored
    exporter secrets follow the client's path (`SecretsOK`) -/
theorem app_deliver_stored_current (c : Cl) (e : Ev) (mid ts tok nx : Nat)
    (hk : e.kind = .app mid ts tok) (hg : c.hasGroup = true) (htag : e.tag = c.g.recNid) (hact : c.g.active = true)
    (hsec : SecretsOK c.g) (hp : e.path = c.g.path)
    (hf : e.sender ≠ c.id) (hc : e.cipher ∉ c.g.consumed) (hnb : NotBlocked c e.n) (hu : Uniq c.msgs) :
    (deliver c e nx).2 = .app mid ∧
    (deliver c e nx).1.msgs.filter (·.mid == mid) =
      [{ mid := mid, author := e.sender, state := 1, epoch := epochOf c.g.path, wrapper := e.n, msgTs := ts, tok := tok }] ∧
    (deliver (deliver c e nx).1 e nx).1.msgs = (deliver c e nx).1.msgs := by
  have h := app_deliver_stored c e mid ts tok nx hk (by simp [routes, hg, htag]) hact (outerOpens_current c.g e hsec hp)
    (by rw [hp]; exact Nat.le_refl _) (by rw [hp]; intro a; exact absurd a (Nat.lt_irrefl _)) hf hc hnb hu
  exact ⟨h.1, h.2.1, h.2.2.2.2.2.1⟩

/-! ### the running example

  receiver 2 in a group of four (admins 0, 1).
  level 1, created in the start state (path []):   A (by 1, ts 20), B (by 0, ts 19)                      — B wins
  slot 1, created in the state reached by B ([2]): X (by 0: id 10), Y (by 3: id 11)
  losing branch, created in A's state ([1]):       L (by 1: id 12)
  level 2, created in [2]:                         F (by 3, ts 31), C (by 0, ts 30)                      — C wins
  slot 2, created in the state reached by C ([2,6]): Z (by 0: id 13) -/

def r2 : Cl := initCl 2 false 5 [0, 1, 2, 3] [0, 1] 1
def cA : Ev := { n := 1, ts := 20, idnum := 7, cipher := 1, sender := 1, path := [], kind := .commit .selfUpdate [] }
def cB : Ev := { n := 2, ts := 19, idnum := 9, cipher := 2, sender := 0, path := [], kind := .commit .selfUpdate [] }
def mX : Ev := { n := 3, ts := 25, idnum := 3, cipher := 3, sender := 0, path := [2], kind := .app 10 101 5 }
def mY : Ev := { n := 4, ts := 26, idnum := 4, cipher := 4, sender := 3, path := [2], kind := .app 11 102 6 }
def mL : Ev := { n := 5, ts := 27, idnum := 5, cipher := 5, sender := 1, path := [1], kind := .app 12 103 7 }
def cC : Ev := { n := 6, ts := 30, idnum := 6, cipher := 6, sender := 0, path := [2], kind := .commit .selfUpdate [] }
def mZ : Ev := { n := 7, ts := 35, idnum := 8, cipher := 7, sender := 0, path := [2, 6], kind := .app 13 104 8 }
def cF : Ev := { n := 8, ts := 31, idnum := 2, cipher := 8, sender := 3, path := [2], kind := .commit .selfUpdate [] }
def T1 : List Ev := [cA, cB]
def T2 : List Ev := [cF, cC]
def chain2 : List Level := [(cB, T1), (cC, T2)]
def slots2 : List (List Ev) := [[mX, mY], [mZ]]
/-- level 1: A, B, A again; slot 1: Y, the losing L, X, Y again; level 2: L once more, F, C; slot 2: Z twice -/
def sched2 : List (List Ev × List Ev) := [([cA, cB, cA], [mY, mL, mX, mY]), ([mL, cF, cC], [mZ, mZ])]

theorem r2_secrets : SecretsOK r2.g := by intro ep q h; simp [r2, initCl, initG, alookup] at h
theorem r2_below : Below r2 := by intro s hs; cases hs
theorem r2_uniq : Uniq r2.msgs := by decide +kernel

theorem chain2_ev : ChainEv r2.id (core r2.g) chain2 := by decide +kernel

theorem r2_atFork : AtFork r2 T1 :=
  .bystander rfl rfl (by decide) r2_secrets r2_below.noFork rfl
    (siblings_of_levelEv r2 T1 rfl (by decide) (by decide))

/-- non-vacuity of `app_deliver_stored_current`: X offered to the receiver at B's state -/
example : ((deliver (run 0 r2 [cA, cB]) mX 0).1.msgs.filter (·.mid == 10)) =
    [{ mid := 10, author := 0, state := 1, epoch := 2, wrapper := 3, msgTs := 101, tok := 5 }] := by
  obtain ⟨w, _, _, hd⟩ := fork_level r2 T1 [cA, cB] 0 r2_atFork (by decide) (by decide)
  exact (app_deliver_stored_current (run 0 r2 [cA, cB]) mX 10 101 5 0 rfl (by decide) (by decide) (by decide)
    (hd.secrets r2_secrets) (by decide) (by decide) (by decide) (notBlocked_of_none (by decide)) (by decide)).2.1

/-! ### 2. the message table through deliveries and fork levels -/

/-- **deliver_msgs_frame** (every state, every foreign event, every fuel): apart from the row of the message the event
    carries, a delivery changes the message table only by the re-marking of a rollback to the event's epoch — a row of
    another message id filed under an epoch up to the event's is exactly as it was, no row of another id appears, no row of
    another id is (re-)validated, and ids stay unique -/
theorem deliver_msgs_frame (fuel nx : Nat) (c : Cl) (e : Ev) (hf : e.sender ≠ c.id) :
    (∀ m row, appMid e ≠ some m → findRow m c.msgs = some row → row.epoch ≤ epochOf e.path →
      findRow m (deliverN fuel nx c e).1.msgs = some row) ∧
    (∀ m, appMid e ≠ some m → findRow m c.msgs = none → findRow m (deliverN fuel nx c e).1.msgs = none) ∧
    (∀ m row, appMid e ≠ some m → findRow m (deliverN fuel nx c e).1.msgs = some row → row.state ≠ 3 →
      findRow m c.msgs = some row) ∧
    (Uniq c.msgs → Uniq (deliverN fuel nx c e).1.msgs) := by
  have h := mtrans_deliverN fuel nx c e
  have hok : ∀ m, appMid e ≠ some m → ∀ r, OkRow c.id e (recMid c e.n) r → r.mid ≠ m := by
    intro m hm r hr
    rcases hr with ⟨_, h2⟩ | ⟨h1, _⟩
    · exact fun x => hm (x ▸ h2)
    · exact absurd h1 hf
  refine ⟨?_, ?_, ?_, h.uniq⟩
  · intro m row hm hrow hle
    exact h.frame m (hok m hm) (· = some row) (fun o ho => by rw [ho]; simp [rbRow_le hle]) hrow
  · intro m hm hn
    exact h.frame m (hok m hm) (· = none) (fun o ho => by rw [ho]; rfl) hn
  · intro m row hm
    refine h.frame m (hok m hm) (fun o => o = some row → row.state ≠ 3 → findRow m c.msgs = some row) ?_ (fun x _ => x)
    intro o ho hx hv
    cases o with
    | none => cases hx
    | some r =>
      simp only [Option.map_some, Option.some.injEq] at hx
      by_cases hgt : r.epoch > epochOf e.path
      · rw [← hx] at hv; exact absurd (rbRow_gt hgt) hv
      · rw [rbRow_le (by omega)] at hx
        exact ho (by rw [hx]) hv

/-- **fork_keeps_earlier_messages** (one fork level, either role, any delivery list over the fork's commits with stale
    events interleaved): every row filed under an epoch up to the PARENT's is still there afterwards, unchanged (in
    particular still valid); no row appears; the only change a row can undergo is invalidation, and only if its epoch tag is
    later than the parent's (it was filed while the client sat on a sibling that lost); ids stay unique -/
theorem fork_keeps_earlier_messages (c : Cl) (T l : List Ev) (nx : Nat) (hat : AtFork c T)
    (hl : ∀ e ∈ l, e ∈ T ∨ StaleAt c T e) :
    (∀ m row, findRow m c.msgs = some row → row.epoch ≤ epochOf c.g.path → findRow m (run nx c l).msgs = some row) ∧
    (∀ m, findRow m c.msgs = none → findRow m (run nx c l).msgs = none) ∧
    (∀ x ∈ (run nx c l).msgs, ∃ y ∈ c.msgs, x = y ∨ (x = { y with state := 3 } ∧ y.epoch > epochOf c.g.path)) ∧
    (Uniq c.msgs → Uniq (run nx c l).msgs) := by
  have h : MTrans (epochOf c.g.path) (fun _ => False) c.msgs (run nx c l).msgs := by
    have := level_rows c T nx hat l [] (by simpa using hl) (ownRec_atFork hat)
    simpa using this
  refine ⟨?_, ?_, h.rows_noupsert, h.uniq⟩
  · intro m row hrow hle
    exact h.frame m (fun r hr => hr.elim) (· = some row) (fun o ho => by rw [ho]; simp [rbRow_le hle]) hrow
  · intro m hn
    exact h.frame m (fun r hr => hr.elim) (· = none) (fun o ho => by rw [ho]; rfl) hn

/-- non-vacuity: the receiver with X and Y stored at B's state is at the fork {F, C}; the level keeps both rows -/
example : (run 0 (run 0 r2 [cA, cB, mX, mY]) [cF, cC, cF]).msgs.map (fun r => (r.mid, r.state, r.epoch)) = [(10, 1, 2), (11, 1, 2)] := by
  decide +kernel

/-! ### 3. messages of a losing branch: every schedule of foreign events -/

/-- **losing_messages_never_valid**.  `P` is the MLS path of a fork's parent state, `w` the ciphertext of one of its
    commits, `LM` a set of message ids such that every application message carrying one of them was created on a branch
    through ANOTHER child of `P` (`LosingEv`).  For a client whose state satisfies the history invariants (`HInv`, `PrefInv`:
    stored secrets and snapshots follow the client's path — they hold of a fresh client and are kept by every delivery) and
    whose rows are filed under epochs it has not rolled back beyond (`RowInv`), and for EVERY list of events of other members
    — any kinds, any order, any repetition, no level-by-level hypothesis — : if the client ends on the branch through `w`,
    every stored row with an id of `LM` is invalidated.  (`losing_never_valid` of Props/C02.lean, lifted from one rollback
    to whole histories.) -/
theorem losing_messages_never_valid (P : Path) (w : Nat) (LM : Nat → Prop) (c : Cl) (l : List Ev) (nx : Nat)
    (hh : HInv c) (hpref : PrefInv c) (hrows : RowInv P w LM c)
    (hl : ∀ e ∈ l, e.sender ≠ c.id ∧ LosingEv P w LM e)
    (hfin : (P ++ [w]) <+: (run nx c l).g.path) :
    ∀ r ∈ (run nx c l).msgs, LM r.mid → r.state = 3 := by
  obtain ⟨_, _, h2⟩ := li_run nx l c hl hh ⟨hpref, hrows⟩
  intro r hr hlm
  apply Classical.byContradiction
  intro hv
  exact (h2.losing r hr hlm hv).2 hfin

/-- the invariants hold of a client that has just joined or created the group (no snapshots, no messages) -/
theorem fresh_client_inv (P : Path) (w : Nat) (LM : Nat → Prop) (id : Nat) (p : Bool) (r : Nat) (ms as : List Nat) (name : Nat) :
    HInv (initCl id p r ms as name) ∧ PrefInv (initCl id p r ms as name) ∧ RowInv P w LM (initCl id p r ms as name) :=
  ⟨hinv_init id p r ms as name, ⟨fun s hs => (by cases hs), List.Pairwise.nil⟩, ⟨fun r hr => (by cases hr), fun r hr => (by cases hr)⟩⟩

/-- non-vacuity: the receiver follows the loser A, stores L there (epoch tag 2), then B arrives; X is stored on the winning
    branch; L offered again.  The theorem applies (parent [], winner B = 2, losing ids {12}) … -/
example : ∀ r ∈ (run 0 r2 [cA, mL, cB, mX, mL]).msgs, r.mid = 12 → r.state = 3 := by
  obtain ⟨h1, h2, h3⟩ := fresh_client_inv [] 2 (· = 12) 2 false 5 [0, 1, 2, 3] [0, 1] 1
  refine losing_messages_never_valid [] 2 (· = 12) r2 [cA, mL, cB, mX, mL] 0 h1 h2 h3 ?_ (by decide)
  intro e he
  simp only [List.mem_cons, List.not_mem_nil, or_false] at he
  rcases he with rfl | rfl | rfl | rfl | rfl
  · exact ⟨by decide, fun m hm => by simp [appMid, cA] at hm⟩
  · exact ⟨by decide, fun m _ _ => ⟨1, by decide, by decide⟩⟩
  · exact ⟨by decide, fun m hm => by simp [appMid, cB] at hm⟩
  · refine ⟨by decide, fun m hm hl => ?_⟩
    simp [appMid, mX] at hm
    omega
  · exact ⟨by decide, fun m _ _ => ⟨1, by decide, by decide⟩⟩

/-- … and this is what happens: L's row (filed under epoch 2 on the losing branch) is invalidated, X is valid -/
example : (run 0 r2 [cA, mL]).msgs.map (fun r => (r.mid, r.state, r.epoch)) = [(12, 1, 2)] ∧
    (run 0 r2 [cA, mL, cB, mX, mL]).msgs.map (fun r => (r.mid, r.state, r.epoch)) = [(12, 3, 2), (10, 1, 2)] ∧
    (run 0 r2 [cA, mL, cB, mX, mL]).g.path = [2] := by decide +kernel

/-! ### 4. the history theorem: chains of forks with message slots -/

theorem rowOf_app {ep : Nat} {e : Ev} {mid ts tok : Nat} (hk : e.kind = .app mid ts tok) :
    rowOf ep e = some { mid := mid, author := e.sender, state := 1, epoch := ep, wrapper := e.n, msgTs := ts, tok := tok } := by
  simp [rowOf, hk]

/-- the conclusions of the history theorems, from what the induction over levels and slots gives (`MsgDone`) -/
theorem msgDone_rows {c c' : Cl} {Ls : List Level} {Ms : List (List Ev)} {sched : List (List Ev × List Ev)}
    (h : MsgDone c Ls Ms sched c') :
    c'.g.path = c.g.path ++ Ls.map (·.1.cipher) ∧ Uniq c'.msgs ∧
    (∀ k lm M, sched[k]? = some lm → Ms[k]? = some M → ∀ e ∈ lm.2, e ∈ M → ∀ mid ts tok, e.kind = .app mid ts tok →
      c'.msgs.filter (·.mid == mid) =
        [{ mid := mid, author := e.sender, state := 1, epoch := epochOf c.g.path + k + 1, wrapper := e.n, msgTs := ts, tok := tok }]) ∧
    (∀ mid, (∀ e ∈ Ms.flatten, appMid e ≠ some mid) →
      (findRow mid c.msgs = none → c'.msgs.filter (·.mid == mid) = []) ∧
      (∀ row, findRow mid c.msgs = some row → row.epoch ≤ epochOf c.g.path → c'.msgs.filter (·.mid == mid) = [row])) := by
  refine ⟨h.path, h.uniq, ?_, ?_⟩
  · intro k lm M hk hM e he heM mid ts tok hkind
    exact uniq_filter h.uniq (h.stored k lm M hk hM e he heM _ (rowOf_app hkind))
  · intro mid hmid
    obtain ⟨h1, h2⟩ := h.kept mid hmid
    exact ⟨fun hn => filter_nil_of_findRow_none (h1 hn), fun row hrow hle => by
      have := h2 row hrow hle
      have hm := (findRow_mid this).1
      rw [← hm]
      exact uniq_filter h.uniq (hm ▸ this)⟩

/-- **messages_on_winning_branch_partial**.  A client (group present and active, retention ≥ 1, stored secrets following
    the path, no snapshot of the current or a later epoch, id in force = the extension's id, message ids unique) and a chain
    of forks `Ls = [(w₁,S₁), …, (wₙ,Sₙ)]` starting at its state (`ChainEv`: conditions on the EVENTS, see C01Chain), with
    message slots `Ms = [M₁, …, Mₙ]` (`SlotsEv`): `M_k` are application messages created in the state the MIP-03 winners
    `w₁ … w_k` lead to, by members other than the receiver, tagged with that state's nostr group id, with distinct event
    numbers, ciphertexts and message ids (within the slot, against later slots, against the chain's commits), everything
    unseen and unconsumed at the START.  For EVERY schedule `sched = [(l₁,m₁), …, (lₙ,mₙ)]` (`MLevelWise`) in which
      `l_k` delivers level k — every commit of `S_k` at least once, any order, any repetition, with events that are stale
            for the level interleaved (descendants and messages of branches that lost earlier, …) — and
      `m_k` delivers slot k, BETWEEN level k and level k+1 (after the last level for k = n) — any of the messages of `M_k`,
            any order, any repetition, with events that are stale for the winner's state interleaved (messages created on a
            sibling that lost level k, for instance) —
    the client ends on the path of the winners, message ids are still unique, and
    (a) every message of `M_k` that was delivered in `m_k` is stored EXACTLY ONCE, with the author, message timestamp and
        content token its sender gave it, the event number of its wrapper, state Processed (valid: neither invalidated nor
        failed), filed under the epoch of the state it was created in — whatever levels and slots followed;
    (b) for every message id that belongs to no slot (the id of a message created on a losing branch, say): if there was no
        row for it at the start there is none at the end, and a row filed under an epoch up to the start epoch is the only
        row of its id and unchanged.
    The per-client conditions of the later levels and slots are derived, not assumed. -/
theorem messages_on_winning_branch_partial (c : Cl) (Ls : List Level) (Ms : List (List Ev))
    (sched : List (List Ev × List Ev)) (nx : Nat)
    (hg : c.hasGroup = true) (ha : c.g.active = true) (hr : 1 ≤ c.retention) (hsec : SecretsOK c.g) (hbelow : Below c)
    (hn : c.g.recNid = c.g.nid) (hu : Uniq c.msgs)
    (hch : ChainEv c.id (core c.g) Ls) (hms : SlotsEv c.id (core c.g) Ls Ms)
    (hfresh : ∀ e ∈ evs Ls ++ Ms.flatten, getRec c e.n = none ∧ e.cipher ∉ c.g.consumed)
    (hw : MLevelWise (evs Ls ++ Ms.flatten) c.g.path Ls Ms sched) :
    (run nx c (flat sched)).g.path = c.g.path ++ Ls.map (·.1.cipher) ∧ Uniq (run nx c (flat sched)).msgs ∧
    (∀ k lm M, sched[k]? = some lm → Ms[k]? = some M → ∀ e ∈ lm.2, e ∈ M → ∀ mid ts tok, e.kind = .app mid ts tok →
      (run nx c (flat sched)).msgs.filter (·.mid == mid) =
        [{ mid := mid, author := e.sender, state := 1, epoch := epochOf c.g.path + k + 1, wrapper := e.n, msgTs := ts, tok := tok }]) ∧
    (∀ mid, (∀ e ∈ Ms.flatten, appMid e ≠ some mid) →
      (findRow mid c.msgs = none → (run nx c (flat sched)).msgs.filter (·.mid == mid) = []) ∧
      (∀ row, findRow mid c.msgs = some row → row.epoch ≤ epochOf c.g.path →
        (run nx c (flat sched)).msgs.filter (·.mid == mid) = [row])) :=
  msgDone_rows (msg_chain_rest nx (evs Ls ++ Ms.flatten) Ls c Ms sched ⟨hg, ha, hr, hsec, hbelow, hn⟩ hu hch hms
    (fun _ h => h) hfresh hw)

/-- messages created on a branch that LOST are never stored by such a schedule, wherever they are offered in it: an
    application message whose id belongs to no slot (all ids of the winning branch's messages are different) and for which
    the client holds no row at the start has no row at the end — so none that is valid.  (Offered while the client still
    SITS on the losing sibling — inside the level, which `MLevelWise` does not allow — it is stored and then invalidated:
    `losing_messages_never_valid`.) -/
theorem losing_branch_messages_absent (c : Cl) (Ls : List Level) (Ms : List (List Ev))
    (sched : List (List Ev × List Ev)) (nx : Nat)
    (hg : c.hasGroup = true) (ha : c.g.active = true) (hr : 1 ≤ c.retention) (hsec : SecretsOK c.g) (hbelow : Below c)
    (hn : c.g.recNid = c.g.nid) (hu : Uniq c.msgs)
    (hch : ChainEv c.id (core c.g) Ls) (hms : SlotsEv c.id (core c.g) Ls Ms)
    (hfresh : ∀ e ∈ evs Ls ++ Ms.flatten, getRec c e.n = none ∧ e.cipher ∉ c.g.consumed)
    (hw : MLevelWise (evs Ls ++ Ms.flatten) c.g.path Ls Ms sched)
    (x : Ev) (mid ts tok : Nat) (_hx : x.kind = .app mid ts tok) (hmid : ∀ e ∈ Ms.flatten, appMid e ≠ some mid)
    (hnone : findRow mid c.msgs = none) :
    ∀ r ∈ (run nx c (flat sched)).msgs, r.mid ≠ mid := by
  have h := ((messages_on_winning_branch_partial c Ls Ms sched nx hg ha hr hsec hbelow hn hu hch hms hfresh hw).2.2.2 mid hmid).1 hnone
  intro r hr' hm
  have : r ∈ (run nx c (flat sched)).msgs.filter (·.mid == mid) := List.mem_filter.mpr ⟨hr', by simpa using hm⟩
  rw [h] at this
  cases this

theorem slots2_ev : SlotsEv r2.id (core r2.g) chain2 slots2 := by decide +kernel

/-- non-vacuity of `messages_on_winning_branch_partial`: the two-level chain with a race at each level, two messages in
    slot 1 (delivered out of order, one twice), one in slot 2 (twice), the losing branch's message L offered in slot 1 and
    again inside level 2 -/
example : (run 0 r2 (flat sched2)).g.path = [2, 6] ∧
    (run 0 r2 (flat sched2)).msgs.filter (·.mid == 10) = [{ mid := 10, author := 0, state := 1, epoch := 2, wrapper := 3, msgTs := 101, tok := 5 }] ∧
    (run 0 r2 (flat sched2)).msgs.filter (·.mid == 11) = [{ mid := 11, author := 3, state := 1, epoch := 2, wrapper := 4, msgTs := 102, tok := 6 }] ∧
    (run 0 r2 (flat sched2)).msgs.filter (·.mid == 13) = [{ mid := 13, author := 0, state := 1, epoch := 3, wrapper := 7, msgTs := 104, tok := 8 }] ∧
    (run 0 r2 (flat sched2)).msgs.filter (·.mid == 12) = [] := by
  obtain ⟨h1, _, h3, h4⟩ := messages_on_winning_branch_partial r2 chain2 slots2 sched2 0 rfl rfl (by decide) r2_secrets r2_below rfl
    r2_uniq chain2_ev slots2_ev (by decide) (by decide)
  exact ⟨h1, h3 0 _ _ rfl rfl mX (by decide) (by decide) 10 101 5 rfl, h3 0 _ _ rfl rfl mY (by decide) (by decide) 11 102 6 rfl,
    h3 1 _ _ rfl rfl mZ (by decide) (by decide) 13 104 8 rfl, (h4 12 (by decide)).1 (by decide)⟩

/-- … and the table itself, computed: Y, X (slot 1, epoch 2) and Z (slot 2, epoch 3), all Processed; nothing of L -/
example : (run 0 r2 (flat sched2)).msgs.map (fun r => (r.mid, r.author, r.state, r.epoch, r.msgTs, r.tok)) =
    [(11, 3, 1, 2, 102, 6), (10, 0, 1, 2, 101, 5), (13, 0, 1, 3, 104, 8)] := by decide +kernel

/-- **late_message_kept_partial** (the past-epoch window at the level of histories).  A message that reaches the client
    LATE — the client has moved on, but the state the message was created in is a retained past state
    (`past.contains e.path`, at most `max_past_epochs` back) and the outer layer still opens it (its exporter secret is one
    of the 5 past epochs' the outer layer looks at) — is stored under the RECEIVER's current epoch (`app_deliver_stored`),
    and then survives EVERY later level-by-level schedule with slots that starts there, as the only row of its id, valid and
    unchanged: a later level rolls back to its own parent epoch, which is never below the epoch the row was filed under.
    (The two window conditions are hypotheses about the state at the moment of delivery; `late_window_derived` derives
    them from a chain.  Offered while the client sits on a sibling that loses afterwards, the row is invalidated:
    `C02_history_full_false_epoch_tag`.) -/
theorem late_message_kept_partial (c : Cl) (e : Ev) (mid ts tok : Nat) (Ls : List Level) (Ms : List (List Ev))
    (sched : List (List Ev × List Ev)) (nx : Nat)
    (hg : c.hasGroup = true) (ha : c.g.active = true) (hr : 1 ≤ c.retention) (hsec : SecretsOK c.g) (hbelow : Below c)
    (hn : c.g.recNid = c.g.nid) (hu : Uniq c.msgs)
    (hk : e.kind = .app mid ts tok) (htag : e.tag = c.g.recNid)
    (hopen : outerOpens (ensureSecret c.g) e = true) (hle : epochOf e.path ≤ epochOf c.g.path)
    (hpast : epochOf e.path < epochOf c.g.path → c.g.past.contains e.path = true)
    (hf : e.sender ≠ c.id) (hc : e.cipher ∉ c.g.consumed) (hnb : getRec c e.n = none)
    (hch : ChainEv c.id (core c.g) Ls) (hms : SlotsEv c.id (core c.g) Ls Ms)
    (hfresh : ∀ x ∈ evs Ls ++ Ms.flatten, getRec c x.n = none ∧ x.cipher ∉ c.g.consumed)
    (hdist : ∀ x ∈ evs Ls ++ Ms.flatten, x.n ≠ e.n ∧ x.cipher ≠ e.cipher)
    (hmid : ∀ x ∈ Ms.flatten, appMid x ≠ some mid)
    (hw : MLevelWise (evs Ls ++ Ms.flatten) c.g.path Ls Ms sched) :
    (run nx c (e :: flat sched)).g.path = c.g.path ++ Ls.map (·.1.cipher) ∧
    (run nx c (e :: flat sched)).msgs.filter (·.mid == mid) =
      [{ mid := mid, author := e.sender, state := 1, epoch := epochOf c.g.path, wrapper := e.n, msgTs := ts, tok := tok }] ∧
    (∀ k lm M, sched[k]? = some lm → Ms[k]? = some M → ∀ x ∈ lm.2, x ∈ M → ∀ mid' ts' tok', x.kind = .app mid' ts' tok' →
      (run nx c (e :: flat sched)).msgs.filter (·.mid == mid') =
        [{ mid := mid', author := x.sender, state := 1, epoch := epochOf c.g.path + k + 1, wrapper := x.n, msgTs := ts', tok := tok' }]) := by
  have hroutes : routes c e = true := by simp [routes, hg, htag]
  have hs := (deliverN_app_stored 3 nx (notBlocked_of_none hnb) ⟨⟨hroutes, ha, hopen⟩, hk, hle, hpast⟩ hf hc).2
  change AppStored c e _ (deliver c e nx).1 at hs
  rw [run_cons]
  generalize (deliver c e nx).1 = c1 at hs
  have hfound := findRow_upsert_self { mid := mid, author := e.sender, state := 1, epoch := epochOf c.g.path, wrapper := e.n, msgTs := ts, tok := tok } c.msgs
  rw [← hs.msgs] at hfound
  have hmain := messages_on_winning_branch_partial c1 Ls Ms sched nx (hs.hasGroup ▸ hg) (hs.active ▸ ha) (hs.retention ▸ hr)
    (hs.secretsOK hsec) (hs.ready ⟨hg, ha, hr, hsec, hbelow, hn⟩).below (by rw [hs.recNid, hs.nid]; exact hn)
    (by rw [hs.msgs]; exact uniq_upsertRow _ _ hu) (by rw [hs.id, hs.core]; exact hch) (by rw [hs.id, hs.core]; exact hms)
    (hs.keepsFresh _ hfresh hdist) (by rw [hs.path]; exact hw)
  rw [hs.path] at hmain
  exact ⟨hmain.1, (hmain.2.2.2 mid hmid).2 _ hfound (Nat.le_refl _), hmain.2.2.1⟩

/-- non-vacuity: X (created in B's state, epoch 2) reaches the receiver only after level 2 (receiver at [2,6], epoch 3; [2] is
    a retained past state): it is filed under epoch 3 and survives level 3 = {G} and its slot -/
def cG : Ev := { n := 9, ts := 40, idnum := 1, cipher := 9, sender := 0, path := [2, 6], kind := .commit .selfUpdate [] }
def mW : Ev := { n := 10, ts := 45, idnum := 10, cipher := 10, sender := 3, path := [2, 6, 9], kind := .app 14 105 9 }

example : (run 0 (run 0 r2 [cB, cC]) (mX :: flat [([cG], [mW])])).msgs.filter (·.mid == 10) =
    [{ mid := 10, author := 0, state := 1, epoch := 3, wrapper := 3, msgTs := 101, tok := 5 }] := by
  have hinv : HInv (run 0 r2 [cB, cC]) :=
    Props.C01Fork.reachable_hinv 2 false 5 [0, 1, 2, 3] [0, 1] 1 [C08.COp.deliver cB 0, C08.COp.deliver cC 0]
  exact (late_message_kept_partial (run 0 r2 [cB, cC]) mX 10 101 5 [(cG, [cG])] [[mW]] [([cG], [mW])] 0 (by decide) (by decide)
    (by decide) hinv.sec hinv.below (by decide) (by decide) rfl (by decide) (by decide) (by decide) (by decide) (by decide)
    (by decide) (by decide)
    (by decide) (by decide) (by decide) (by decide) (by decide) (by decide)).2.1

example : (run 0 (run 0 r2 [cB, cC]) (mX :: flat [([cG], [mW])])).msgs.map (fun r => (r.mid, r.state, r.epoch)) =
    [(10, 1, 3), (14, 1, 4)] := by decide +kernel

/-- after a level-by-level schedule with slots the per-client hypotheses of the chain theorems hold again (so the theorems
    compose: a further chain, or a late message by `late_message_kept_partial`, may start at the final state), and events
    that were not delivered are as unseen and unconsumed as before -/
theorem chain_with_slots_restores (c : Cl) (Ls : List Level) (Ms : List (List Ev))
    (sched : List (List Ev × List Ev)) (nx : Nat)
    (hg : c.hasGroup = true) (ha : c.g.active = true) (hr : 1 ≤ c.retention) (hsec : SecretsOK c.g) (hbelow : Below c)
    (hn : c.g.recNid = c.g.nid) (hu : Uniq c.msgs)
    (hch : ChainEv c.id (core c.g) Ls) (hms : SlotsEv c.id (core c.g) Ls Ms)
    (hfresh : ∀ e ∈ evs Ls ++ Ms.flatten, getRec c e.n = none ∧ e.cipher ∉ c.g.consumed)
    (hw : MLevelWise (evs Ls ++ Ms.flatten) c.g.path Ls Ms sched) :
    (run nx c (flat sched)).hasGroup = true ∧ (run nx c (flat sched)).g.active = true ∧ 1 ≤ (run nx c (flat sched)).retention ∧
    SecretsOK (run nx c (flat sched)).g ∧ Below (run nx c (flat sched)) ∧
    (run nx c (flat sched)).g.recNid = (run nx c (flat sched)).g.nid ∧ (run nx c (flat sched)).g.recNid = c.g.recNid ∧
    (run nx c (flat sched)).id = c.id ∧ (run nx c (flat sched)).maxPast = c.maxPast ∧
    core (run nx c (flat sched)).g = (Ls.map (·.1)).foldl coreStep (core c.g) ∧
    (∀ n, getRec c n = none → (∀ e ∈ flat sched, n ≠ e.n) → getRec (run nx c (flat sched)) n = none) ∧
    (∀ x ∈ (run nx c (flat sched)).g.consumed, x ∈ c.g.consumed ∨ ∃ e ∈ evs Ls ++ Ms.flatten, e.cipher = x) := by
  have h := msg_chain_rest nx (evs Ls ++ Ms.flatten) Ls c Ms sched ⟨hg, ha, hr, hsec, hbelow, hn⟩ hu hch hms (fun _ h => h) hfresh hw
  exact ⟨h.ready.hasGroup, h.ready.act, h.ready.ret, h.ready.sec, h.ready.below, h.ready.nid, h.recNid, h.id, h.maxPast, h.core,
    h.unseen, h.cons⟩

/-- **late_window_derived** (the past-epoch window, derived from the chain): after a level-by-level schedule with slots over n
    levels, the state the client was in after level k (k + d = n, 1 ≤ d) is still a retained past state if it is at most
    `max_past_epochs` back, and the outer layer opens its events if it is at most `DEFAULT_EPOCH_LOOKBACK = 5` back -/
theorem late_window_derived (c : Cl) (Ls : List Level) (Ms : List (List Ev))
    (sched : List (List Ev × List Ev)) (nx : Nat)
    (hg : c.hasGroup = true) (ha : c.g.active = true) (hr : 1 ≤ c.retention) (hsec : SecretsOK c.g) (hbelow : Below c)
    (hn : c.g.recNid = c.g.nid) (hu : Uniq c.msgs)
    (hch : ChainEv c.id (core c.g) Ls) (hms : SlotsEv c.id (core c.g) Ls Ms)
    (hfresh : ∀ e ∈ evs Ls ++ Ms.flatten, getRec c e.n = none ∧ e.cipher ∉ c.g.consumed)
    (hw : MLevelWise (evs Ls ++ Ms.flatten) c.g.path Ls Ms sched)
    (k d : Nat) (hkd : k + d = Ls.length) (hd1 : 1 ≤ d) (hdm : d ≤ c.maxPast) (hd5 : d ≤ 5)
    (x : Ev) (hx : x.path = c.g.path ++ (Ls.map (·.1.cipher)).take k) :
    outerOpens (ensureSecret (run nx c (flat sched)).g) x = true ∧
    (run nx c (flat sched)).g.past.contains x.path = true ∧
    epochOf x.path + d = epochOf (run nx c (flat sched)).g.path := by
  have h := msg_chain_rest nx (evs Ls ++ Ms.flatten) Ls c Ms sched ⟨hg, ha, hr, hsec, hbelow, hn⟩ hu hch hms (fun _ h => h) hfresh hw
  have hret := h.own k d hkd hd1 hdm
  rw [← hx] at hret
  exact ⟨outerOpens_retained hret hd5 x rfl, hret.contains, hret.epoch⟩

/-- **late_message_in_chain_partial**: a message created in the state after level k of the chain, by another member, that
    reaches the client only after the whole schedule (n levels with their slots; n − k ≤ min(max_past_epochs, 5)) is stored
    exactly once as sent, Processed, under the RECEIVER's epoch (start epoch + n), and the rows of the slot messages are
    what they were.  Both window conditions are DERIVED here (`late_window_derived`).  By `chain_with_slots_restores` and
    `late_message_kept_partial` the row then survives every further level-by-level schedule. -/
theorem late_message_in_chain_partial (c : Cl) (Ls : List Level) (Ms : List (List Ev))
    (sched : List (List Ev × List Ev)) (nx : Nat)
    (hg : c.hasGroup = true) (ha : c.g.active = true) (hr : 1 ≤ c.retention) (hsec : SecretsOK c.g) (hbelow : Below c)
    (hn : c.g.recNid = c.g.nid) (hu : Uniq c.msgs)
    (hch : ChainEv c.id (core c.g) Ls) (hms : SlotsEv c.id (core c.g) Ls Ms)
    (hfresh : ∀ e ∈ evs Ls ++ Ms.flatten, getRec c e.n = none ∧ e.cipher ∉ c.g.consumed)
    (hw : MLevelWise (evs Ls ++ Ms.flatten) c.g.path Ls Ms sched)
    (k d : Nat) (hkd : k + d = Ls.length) (hd1 : 1 ≤ d) (hdm : d ≤ c.maxPast) (hd5 : d ≤ 5)
    (x : Ev) (mid ts tok : Nat) (hk : x.kind = .app mid ts tok)
    (hx : x.path = c.g.path ++ (Ls.map (·.1.cipher)).take k) (htag : x.tag = c.g.recNid) (hf : x.sender ≠ c.id)
    (hxfresh : getRec c x.n = none ∧ x.cipher ∉ c.g.consumed)
    (hxn : ∀ e ∈ flat sched, x.n ≠ e.n) (hxc : ∀ e ∈ evs Ls ++ Ms.flatten, e.cipher ≠ x.cipher) :
    (deliver (run nx c (flat sched)) x nx).2 = .app mid ∧
    (run nx c (flat sched ++ [x])).msgs.filter (·.mid == mid) =
      [{ mid := mid, author := x.sender, state := 1, epoch := epochOf c.g.path + Ls.length, wrapper := x.n, msgTs := ts, tok := tok }] ∧
    (∀ m, m ≠ mid → findRow m (run nx c (flat sched ++ [x])).msgs = findRow m (run nx c (flat sched)).msgs) := by
  have h := msg_chain_rest nx (evs Ls ++ Ms.flatten) Ls c Ms sched ⟨hg, ha, hr, hsec, hbelow, hn⟩ hu hch hms (fun _ h => h) hfresh hw
  obtain ⟨w1, w2, w3⟩ := late_window_derived c Ls Ms sched nx hg ha hr hsec hbelow hn hu hch hms hfresh hw k d hkd hd1 hdm hd5 x hx
  have hep : epochOf (run nx c (flat sched)).g.path = epochOf c.g.path + Ls.length := by
    rw [h.path]; simp [epochOf]; omega
  have hst := app_deliver_stored (run nx c (flat sched)) x mid ts tok nx hk
    (by simp [routes, h.ready.hasGroup, htag, h.recNid]) h.ready.act w1 (by omega) (fun _ => w2) (by rw [h.id]; exact hf)
    (by
      intro hc
      rcases h.cons _ hc with y | ⟨e, he, y⟩
      · exact hxfresh.2 y
      · exact hxc e he y)
    (notBlocked_of_none (h.unseen x.n hxfresh.1 hxn)) h.uniq
  rw [run_append]
  rw [hep] at hst
  exact ⟨hst.1, hst.2.1, hst.2.2.2.1⟩

/-- non-vacuity: X (created in B's state, after level 1) is not offered in its slot; it arrives after level 2 and its slot: the
    window conditions are derived (1 epoch back), it is filed under epoch 3 -/
example : (run 0 r2 (flat [([cA, cB], [mY]), ([cF, cC], [mZ])] ++ [mX])).msgs.filter (·.mid == 10) =
    [{ mid := 10, author := 0, state := 1, epoch := 3, wrapper := 3, msgTs := 101, tok := 5 }] :=
  (late_message_in_chain_partial r2 chain2 [[mY], [mZ]] [([cA, cB], [mY]), ([cF, cC], [mZ])] 0 rfl rfl (by decide) r2_secrets r2_below rfl
    r2_uniq chain2_ev (by decide) (by decide) (by decide) 1 1 rfl (by decide) (by decide) (by decide) mX 10 101 5 rfl rfl rfl (by decide)
    (by decide) (by decide) (by decide)).2.1

/-- **own_copy_confirmed**: `create_message` files the sender's own copy as Created (state 0) under the current epoch; when
    the published event comes back from the relay the copy is confirmed — Processed, same id, author, timestamp, content
    and epoch tag, still the only row of its id.  (For every client state with the group present and active, no queued
    proposals, stored secrets following the path.  With commits in between: `C02Win.own_copy_confirmed`, ratchet model.) -/
theorem own_copy_confirmed (c : Cl) (n ts idn mid mts tok nx : Nat) (hg : c.hasGroup = true) (ha : c.g.active = true)
    (hp : c.g.props = []) (hsec : SecretsOK c.g) (hu : Uniq c.msgs) :
    ∃ e, (send c n ts idn mid mts tok).2 = .ev e ∧ e.kind = .app mid mts tok ∧ e.sender = c.id ∧ e.path = c.g.path ∧
      (send c n ts idn mid mts tok).1.msgs.filter (·.mid == mid) =
        [{ mid := mid, author := c.id, state := 0, epoch := epochOf c.g.path, wrapper := n, msgTs := mts, tok := tok }] ∧
      (deliver (send c n ts idn mid mts tok).1 e nx).2 = .app mid ∧
      (deliver (send c n ts idn mid mts tok).1 e nx).1.msgs.filter (·.mid == mid) =
        [{ mid := mid, author := c.id, state := 1, epoch := epochOf c.g.path, wrapper := n, msgTs := mts, tok := tok }] := by
  have hsend : send c n ts idn mid mts tok = (sent c n mid mts tok, .ev (sentEv c n ts idn mid mts tok)) :=
    send_eq c n ts idn mid mts tok hg ha hp
  have hu1 : Uniq (sent c n mid mts tok).msgs := uniq_upsertRow _ c.msgs hu
  have hep : epochOf (ensureSecret c.g).path = epochOf c.g.path := by rw [ensureSecret_path]
  rw [hsend]
  refine ⟨sentEv c n ts idn mid mts tok, rfl, rfl, rfl, ensureSecret_path c.g, ?_, ?_, ?_⟩
  · have := uniq_filter hu1 (findRow_upsert_self { mid := mid, author := c.id, state := 0, epoch := epochOf (ensureSecret c.g).path, wrapper := n, msgTs := mts, tok := tok } c.msgs)
    rw [← hep]
    exact this
  · show (deliver (sent c n mid mts tok) (sentEv c n ts idn mid mts tok) nx).2 = _
    rw [own_step c n ts idn mid mts tok nx hg ha hsec, own_result]
  · show (deliver (sent c n mid mts tok) (sentEv c n ts idn mid mts tok) nx).1.msgs.filter _ = _
    rw [own_step c n ts idn mid mts tok nx hg ha hsec, own_result]
    have := uniq_filter (uniq_upsertRow _ _ hu1) (findRow_upsert_self { mid := mid, author := c.id, state := 1, epoch := epochOf (ensureSecret c.g).path, wrapper := n, msgTs := mts, tok := tok } (sent c n mid mts tok).msgs)
    rw [← hep]
    exact this

/-- non-vacuity: the receiver itself sends at B's state and gets its event back -/
example : ((deliver (send (run 0 r2 [cB]) 20 50 1 15 106 9).1 { n := 20, ts := 50, idnum := 1, cipher := 20, sender := 2, path := [2], kind := .app 15 106 9 } 0).1.msgs.map
    (fun r => (r.mid, r.author, r.state, r.epoch))) = [(15, 2, 1, 2)] ∧
    ((send (run 0 r2 [cB]) 20 50 1 15 106 9).1.msgs.map (fun r => (r.mid, r.author, r.state, r.epoch))) = [(15, 2, 0, 2)] := by decide +kernel

/-! ### 5. many clients -/

/-- a client with the slots it receives (the messages of the winning branch it did not send itself) and its own schedule -/
structure MParty where
  c : Cl
  Ms : List (List Ev)
  sched : List (List Ev × List Ev)
  nx : Nat

def MParty.final (p : MParty) : Cl := run p.nx p.c (flat p.sched)

/-- what every party must satisfy: at the first fork `T` in either role (a bystander, or a committer applying its own
    staged commit on relay echo), its state has the common core `k0` (MLS path, members, group data), the later levels and
    all its slots are foreign to it, unseen and unconsumed, its own schedule is level-by-level with slots -/
structure MPartyOK (k0 : Core) (w : Ev) (T : List Ev) (rest : List Level) (p : MParty) : Prop where
  fork : AtFork p.c T
  below : Below p.c
  uniq : Uniq p.c.msgs
  start : core p.c.g = k0
  chain : ChainEv p.c.id (coreStep k0 w) rest
  slots : SlotsEv p.c.id k0 ((w, T) :: rest) p.Ms
  fresh : ∀ e ∈ evs rest ++ p.Ms.flatten, getRec p.c e.n = none ∧ e.cipher ∉ p.c.g.consumed
  sched : MLevelWise (T ++ evs rest ++ p.Ms.flatten) k0.1 ((w, T) :: rest) p.Ms p.sched

theorem mparty_done (k0 : Core) (w : Ev) (T : List Ev) (rest : List Level) (hmin : IsMin w T)
    (hcross : ∀ e1 ∈ T, ∀ e2 ∈ evs rest, e1.n ≠ e2.n ∧ e1.cipher ≠ e2.cipher) (p : MParty) (ok : MPartyOK k0 w T rest p) :
    MsgDone p.c ((w, T) :: rest) p.Ms p.sched p.final := by
  have hk : core p.c.g = k0 := ok.start
  have hp : p.c.g.path = k0.1 := congrArg (fun k : Core => k.1) hk
  exact msg_chain_run p.nx (T ++ evs rest ++ p.Ms.flatten) p.c w T rest p.Ms p.sched ok.fork ok.below ok.uniq hmin hcross
    (by rw [hk]; exact ok.chain) (by rw [hk]; exact ok.slots) (fun _ h => h) ok.fresh (by rw [hp]; exact ok.sched)

/-- **all_members_hold_same_valid_messages**.  Any list of clients that start with the same core state `k0` — at the first
    fork each one a bystander or a committer, bystanders of the later levels — each with ITS OWN schedule (own orders, own
    repetitions, own stale events) and its own slots (the messages of the winning branch that OTHERS sent): all end on the
    same MLS path, and every message that two of them were both offered in its slot is stored by both exactly once, as the
    SAME row: id, author, message timestamp, content token, wrapper, state Processed, epoch tag = the epoch of the state the
    message was created in.  So the clients hold the same set of valid messages of the winning branch. -/
theorem all_members_hold_same_valid_messages (ps : List MParty) (k0 : Core) (w : Ev) (T : List Ev) (rest : List Level)
    (hmin : IsMin w T) (hcross : ∀ e1 ∈ T, ∀ e2 ∈ evs rest, e1.n ≠ e2.n ∧ e1.cipher ≠ e2.cipher)
    (h : ∀ p ∈ ps, MPartyOK k0 w T rest p) :
    ∀ p ∈ ps, ∀ q ∈ ps,
      p.final.g.path = q.final.g.path ∧ core p.final.g = core q.final.g ∧
      ∀ k lmp lmq Mp Mq, p.sched[k]? = some lmp → q.sched[k]? = some lmq → p.Ms[k]? = some Mp → q.Ms[k]? = some Mq →
        ∀ e, e ∈ lmp.2 → e ∈ Mp → e ∈ lmq.2 → e ∈ Mq → ∀ mid ts tok, e.kind = .app mid ts tok →
          p.final.msgs.filter (·.mid == mid) =
            [{ mid := mid, author := e.sender, state := 1, epoch := epochOf k0.1 + k + 1, wrapper := e.n, msgTs := ts, tok := tok }] ∧
          q.final.msgs.filter (·.mid == mid) = p.final.msgs.filter (·.mid == mid) := by
  intro p hp q hq
  have dp := mparty_done k0 w T rest hmin hcross p (h p hp)
  have dq := mparty_done k0 w T rest hmin hcross q (h q hq)
  have hpp : p.c.g.path = k0.1 := congrArg (fun k : Core => k.1) (h p hp).start
  have hqp : q.c.g.path = k0.1 := congrArg (fun k : Core => k.1) (h q hq).start
  refine ⟨by rw [dp.path, dq.path, hpp, hqp], by rw [dp.core, dq.core, (h p hp).start, (h q hq).start], ?_⟩
  intro k lmp lmq Mp Mq h1 h2 h3 h4 e e1 e2 e3 e4 mid ts tok hk
  have rp := (msgDone_rows dp).2.2.1 k lmp Mp h1 h3 e e1 e2 mid ts tok hk
  have rq := (msgDone_rows dq).2.2.1 k lmq Mq h2 h4 e e3 e4 mid ts tok hk
  rw [hpp] at rp
  rw [hqp] at rq
  exact ⟨rp, by rw [rp, rq]⟩

/-- non-vacuity: the bystander 2 and client 1, the committer of A (staged, applied on relay echo, rolled back for B); client
    1 is not offered its own message L -/
def k1 : Cl := (stageCommit (initCl 1 false 5 [0, 1, 2, 3] [0, 1] 1) 1 20 7 .selfUpdate false).1
def pa : MParty := { c := r2, Ms := slots2, sched := sched2, nx := 0 }
def pb : MParty := { c := k1, Ms := slots2, sched := [([cB, cA], [mX, mY, mX]), ([cC, cF], [mZ])], nx := 0 }

theorem k1_atFork : AtFork k1 T1 := by
  obtain ⟨ho, hsec, hm, _⟩ := stage_own_commit (initCl 1 false 5 [0, 1, 2, 3] [0, 1] 1) 1 20 7 .selfUpdate false cA
    (by decide) (by intro ep q h; simp [initCl, initG, alookup] at h) (by intro s hs; cases hs)
    (by intro d hd; cases hd) (by decide) (by decide)
  exact .committer cA [cB] rfl rfl (by decide) hsec hm rfl ho
    (siblings_of_levelEv k1 [cB] rfl (by decide) (by decide))
    (by decide) (fun e => Iff.rfl)

theorem pa_ok : MPartyOK (core r2.g) cB T1 [(cC, T2)] pa :=
  ⟨r2_atFork, r2_below, r2_uniq, rfl, by decide, slots2_ev, by decide, by decide⟩
theorem pb_ok : MPartyOK (core r2.g) cB T1 [(cC, T2)] pb :=
  ⟨k1_atFork, (by intro s hs; cases hs), by decide, by decide, by decide, by decide, by decide, by decide⟩

example : pa.final.g.path = pb.final.g.path ∧
    pb.final.msgs.filter (·.mid == 11) = pa.final.msgs.filter (·.mid == 11) ∧
    pb.final.msgs.filter (·.mid == 13) = pa.final.msgs.filter (·.mid == 13) := by
  have h := all_members_hold_same_valid_messages [pa, pb] (core r2.g) cB T1 [(cC, T2)] (by decide) (by decide)
    (forall_mem_pair pa_ok pb_ok) pa (by simp) pb (by simp)
  exact ⟨h.1, (h.2.2 0 _ _ _ _ rfl rfl rfl rfl mY (by decide) (by decide) (by decide) (by decide) 11 102 6 rfl).2,
    (h.2.2 1 _ _ _ _ rfl rfl rfl rfl mZ (by decide) (by decide) (by decide) (by decide) 13 104 8 rfl).2⟩

example : pb.final.g.path = [2, 6] ∧ pb.final.g.pending = none ∧
    pb.final.msgs.map (fun r => (r.mid, r.author, r.state, r.epoch, r.msgTs, r.tok)) =
      [(10, 0, 1, 2, 101, 5), (11, 3, 1, 2, 102, 6), (13, 0, 1, 3, 104, 8)] := by decide +kernel

/-! ### 6. the full statement (arbitrary interleavings) and its refutation -/

/-- the history statement WITHOUT the slot hypothesis: whatever the order in which the commits of the chain and the
    messages of the winning branch reach the client (each at least once, re-offered as often as one likes), every message
    of the winning branch ends stored and valid -/
def C02_history_full : Prop :=
  ∀ (c : Cl) (Ls : List Level) (Ms : List (List Ev)) (l : List Ev) (nx : Nat),
    c.hasGroup = true → c.g.active = true → 1 ≤ c.retention → SecretsOK c.g → Below c → c.g.recNid = c.g.nid → Uniq c.msgs →
    ChainEv c.id (core c.g) Ls → SlotsEv c.id (core c.g) Ls Ms →
    (∀ e ∈ evs Ls ++ Ms.flatten, getRec c e.n = none ∧ e.cipher ∉ c.g.consumed) →
    (∀ e ∈ l, e ∈ evs Ls ++ Ms.flatten) → (∀ e ∈ evs Ls ++ Ms.flatten, e ∈ l) →
    ∀ e ∈ Ms.flatten, ∀ mid ts tok, e.kind = .app mid ts tok →
      ∃ row ∈ (run nx c l).msgs, row.mid = mid ∧ row.state = 1

/-- witness 1 (open finding `handshake-before-predecessor-blocked`, as `C02.witness_message_ahead_of_commit`): X, created
    in B's state, offered BEFORE B: the outer layer cannot open it, it is recorded Failed and refused for ever -/
theorem witness_history_ahead :
    (run 0 r2 [mX, cB, mX, mX]).msgs = [] ∧ (run 0 r2 [mX, cB, mX, mX]).g.path = [2] ∧
    (deliver (run 0 r2 [mX, cB]) mX 0).2 = .unprocessable ∧
    (run 0 r2 [cB, mX]).msgs.map (fun r => (r.mid, r.state)) = [(10, 1)] := by decide +kernel

theorem C02_history_full_false : ¬ C02_history_full := by
  intro h
  obtain ⟨row, hrow, _⟩ := h r2 [(cB, [cB])] [[mX]] [mX, cB, mX, mX] 0 rfl rfl (by decide) r2_secrets r2_below rfl r2_uniq
    (by decide) (by decide) (by decide) (by decide) (by decide) mX (by decide) 10 101 5 rfl
  rw [witness_history_ahead.1] at hrow
  cases hrow

/-- witness 2 (open finding `receiver-epoch-tag`, as `C02.witness_receiver_epoch_tag`, one level later): X, created in B's
    state, is offered while the receiver sits on F, the LOSING commit of level 2: it is filed under the receiver's epoch 3,
    the rollback for C invalidates it, and re-offering it is refused — although X belongs to the winning branch -/
theorem witness_history_epoch_tag :
    (run 0 r2 [cB, cF, mX]).msgs.map (fun r => (r.mid, r.state, r.epoch)) = [(10, 1, 3)] ∧
    (run 0 r2 [cB, cF, mX, cC, mX]).msgs.map (fun r => (r.mid, r.state, r.epoch)) = [(10, 3, 3)] ∧
    (run 0 r2 [cB, cF, mX, cC, mX]).g.path = [2, 6] ∧
    (deliver (run 0 r2 [cB, cF, mX, cC]) mX 0).2 = .unprocessable := by decide +kernel

theorem C02_history_full_false_epoch_tag : ¬ C02_history_full := by
  intro h
  obtain ⟨row, hrow, hm, hs⟩ := h r2 [(cB, [cB]), (cC, T2)] [[mX], []] [cB, cF, mX, cC, mX] 0 rfl rfl (by decide) r2_secrets r2_below rfl
    r2_uniq
    (by decide) (by decide) (by decide) (by decide) (by decide) mX (by decide) 10 101 5 rfl
  have : ∀ r ∈ (run 0 r2 [cB, cF, mX, cC, mX]).msgs, r.state ≠ 1 := by decide +kernel
  exact this row hrow hs

/-- … while the slot schedule over the same events stores X valid (`messages_on_winning_branch_partial` applies) -/
example : (run 0 r2 (flat [([cB], [mX]), ([cF, cC], [])])).msgs.filter (·.mid == 10) =
    [{ mid := 10, author := 0, state := 1, epoch := 2, wrapper := 3, msgTs := 101, tok := 5 }] :=
  (messages_on_winning_branch_partial r2 [(cB, [cB]), (cC, T2)] [[mX], []] [([cB], [mX]), ([cF, cC], [])] 0 rfl rfl (by decide)
    r2_secrets r2_below rfl r2_uniq
    (by decide) (by decide) (by decide) (by decide)).2.2.1 0 _ _ rfl rfl mX (by decide) (by decide) 10 101 5 rfl

end MdkVerif.Props.C02Chain
