import MdkVerif.Generated
import MdkVerif.Model.Keyring
import MdkVerif.Model.OpenMatrix
import MdkVerif.Proofs.Keyring
/-
  C13 — Encrypted databases leak nothing at rest and only open with their key.
  Property theorems only (helper lemmas live in Proofs/Keyring.lean).

  What is PROVED here (for all thread counts, schedules, file states, keyring states, keys):
    * the get-or-create protocol stores at most one key and every finished caller returns it;
    * the decision logic of the three constructors (which key is presented, which error is returned,
      when a key is generated, which modes are set).
  What is ASSUMED, named, and only exercised by the harness on every run:
    * SQLCipher: the validation read fails iff the key is wrong (`OpenMatrix.sqlOpen`), every page of the
      main file / rollback journal / WAL is encrypted, `temp_store = MEMORY` keeps temp data off disk;
    * the file system: `O_CREAT|O_EXCL` is atomic, `chmod` does what it says;
    * `std::sync::Mutex` is a mutex, poisoned exactly by a panic of its holder; a keyring-core call is
      atomic; a credential call that panics does so before it has changed the store.
-/
namespace MdkVerif.Props.C13
open MdkVerif MdkVerif.Keyring MdkVerif.OpenMatrix

/-! ## 1. `get_or_create_db_key`: one key, for every number of threads and every schedule

  The model takes as a PARAMETER what the code does when KEY_GENERATION_LOCK is poisoned (a thread
  panicked while holding it): fail closed, or go on without the guard.  The theorems instantiate it with
  the fact `Generated.lockPoisonFailsClosed`, re-extracted from keyring.rs on every run; the closed
  counter-example `no_guard_two_keys` shows what happens for the other value. -/

/-- how the code treats a poisoned lock (`true`: `lock().map_err(..)?` — fail closed) -/
abbrev fc : Bool := Generated.lockPoisonFailsClosed

/-- the current source propagates the error of `lock()`; if this stops checking, every theorem of this
    section is about a different program than the one in /repo -/
theorem lpfc_true : Generated.lockPoisonFailsClosed = true := rfl

/-- **keyring_once.**  For every initial keyring content, a lock that is poisoned already or not, every
    number of callers and every schedule (any interleaving of their steps, any keys `generate()` may
    return — even colliding ones —, any keyring / RNG failures at any step, ANY NUMBER OF PANICS of any
    caller at any point) that contains no `delete_db_key`:
    at most one key is ever stored; every caller that returned `Ok` returned the key that is in the
    keyring, hence all of them the same key; and if the keyring already held a key nothing is stored
    and everybody returns that key. -/
theorem keyring_once (r0 : Option Nat) (p : Bool) (sched : List Ev) (hnd : noDelete sched = true) :
    let s := run fc (init r0 p) sched
    s.stores ≤ 1 ∧
    (∀ t k, s.pc t = .done k → s.ring = some k) ∧
    (∀ t u k k', s.pc t = .done k → s.pc u = .done k' → k = k') ∧
    (∀ k0, r0 = some k0 → s.stores = 0 ∧ ∀ t k, s.pc t = .done k → k = k0) := by
  intro s
  -- `fc` unfolds to `true` (`lpfc_true`): here and below the lemmas about `run true` apply to `run fc` as they are
  have h : InvN r0 s := invN_run r0 (init r0 p) sched hnd (invN_init r0 p)
  refine ⟨?_, h.doneKey, ?_, ?_⟩
  · exact h.stores_le_one
  · intro t u k k' ht hu
    have a := h.doneKey t k ht; have b := h.doneKey u k' hu
    rw [a] at b; exact Option.some.inj b
  · intro k0 hr
    obtain ⟨h1, h2⟩ := h.keep k0 hr
    refine ⟨h2, ?_⟩
    intro t k ht
    have a := h.doneKey t k ht; rw [h1] at a; exact (Option.some.inj a).symm

/-- the hypothesis of `keyring_once` is satisfiable by a non-trivial schedule: three callers, fast
    paths first, then the lock is handed round; one of them stores, all three return key 8 -/
example :
    let sched : List Ev := [.step 1 7 true, .step 2 8 true, .step 3 9 true, .step 2 8 true, .step 1 7 true,
      .step 2 8 true, .step 3 9 true, .step 2 8 true, .step 2 8 true, .step 1 7 true, .step 1 7 true,
      .step 3 9 true, .step 3 9 true]
    noDelete sched = true ∧ (run fc (init none) sched).stores = 1 ∧
    (run fc (init none) sched).pc 1 = .done 8 ∧ (run fc (init none) sched).pc 2 = .done 8 ∧
    (run fc (init none) sched).pc 3 = .done 8 := by decide

/-- … and by one with panics: caller 1 panics on its fast path (outside the lock: no poisoning), caller
    2 creates key 8, caller 3 panics while waiting for the lock, caller 4 then finds key 8 -/
example :
    let sched : List Ev := [.panic 1, .step 2 8 true, .step 3 9 true, .step 2 8 true, .panic 3, .step 2 8 true,
      .step 2 8 true, .step 2 8 true, .step 4 5 true]
    noDelete sched = true ∧ (run fc (init none) sched).stores = 1 ∧ (run fc (init none) sched).poisoned = false ∧
    (run fc (init none) sched).pc 1 = .failed ∧ (run fc (init none) sched).pc 2 = .done 8 ∧
    (run fc (init none) sched).pc 3 = .failed ∧ (run fc (init none) sched).pc 4 = .done 8 := by decide

/-- mutual exclusion of the locked section — for EVERY schedule, deletes, failures and panics included -/
theorem keyring_mutex (r0 : Option Nat) (p : Bool) (sched : List Ev) (t u : Nat)
    (ht : ((run fc (init r0 p) sched).pc t).inCs = true) (hu : ((run fc (init r0 p) sched).pc u).inCs = true) :
    t = u :=
  (inv_run (init r0 p) sched (inv_init r0 p)).cs_unique ht hu

/-- … and whoever is inside holds the lock, and the lock is held only by a caller inside: a panic
    releases it (the guard is dropped while unwinding) -/
theorem keyring_lock_iff_inside (r0 : Option Nat) (p : Bool) (sched : List Ev) (t : Nat) :
    (run fc (init r0 p) sched).lock = some t ↔ ((run fc (init r0 p) sched).pc t).inCs = true :=
  ⟨lockHeld_run (init r0 p) sched (inv_init r0 p) (lockHeld_init r0 p) t,
   (inv_run (init r0 p) sched (inv_init r0 p)).lockOwner t⟩

/-- every schedule, deletes included: a key is stored at most once per deletion, plus once -/
theorem keyring_stores_bound (r0 : Option Nat) (p : Bool) (sched : List Ev) :
    (run fc (init r0 p) sched).stores ≤ (run fc (init r0 p) sched).deletes + 1 :=
  (inv_run (init r0 p) sched (inv_init r0 p)).stores_le

/-- a caller never stores over an existing entry: whoever is about to store sees an empty keyring -/
theorem keyring_store_only_when_empty (r0 : Option Nat) (p : Bool) (sched : List Ev) (t k : Nat)
    (h : (run fc (init r0 p) sched).pc t = .store k) : (run fc (init r0 p) sched).ring = none := by
  have hi : Inv (run fc (init r0 p) sched) := inv_run (init r0 p) sched (inv_init r0 p)
  exact hi.sawNone t (by simp [h, Pc.sawNone])

/-- the full-strength statement WITHOUT the no-delete hypothesis … -/
def keyring_once_full : Prop :=
  ∀ (r0 : Option Nat) (sched : List Ev) (t u k k' : Nat),
    (run fc (init r0) sched).pc t = .done k → (run fc (init r0) sched).pc u = .done k' → k = k'

/-- … is false, by design of `delete_db_key` (documented: "Delete and recreate generates a new key"):
    caller 1 creates key 7, the key is deleted, caller 2 creates key 8.  This is the reason for the
    hypothesis of `keyring_once`, not a defect. -/
theorem keyring_once_full_false : ¬ keyring_once_full := by
  intro h
  have := h none ([.step 1 7 true, .step 1 7 true, .step 1 7 true, .step 1 7 true, .step 1 7 true, .delete,
    .step 2 8 true, .step 2 8 true, .step 2 8 true, .step 2 8 true, .step 2 8 true]) 1 2 7 8
    (by decide) (by decide)
  cases this

/-! ### a poisoned KEY_GENERATION_LOCK -/

/-- **poisoned_fails_closed.**  Once the lock is poisoned (state `s1`, reached by any schedule `pre` from
    any start), whatever happens afterwards (`post`: any steps of any callers, new callers, failures,
    deletes, further panics): the lock stays poisoned; NO key is ever stored again; the keyring entry
    is the one of `s1` (or gone, if somebody deletes it); nobody is inside the locked section; and a
    caller that returns `Ok k` had returned it already or read `k` from the keyring, where it was
    already in `s1`.  (Fail closed: callers that would have to create a key get `Err`.) -/
theorem poisoned_fails_closed (r0 : Option Nat) (p : Bool) (pre post : List Ev)
    (hp : (run fc (init r0 p) pre).poisoned = true) :
    let s1 := run fc (init r0 p) pre
    let s2 := run fc (init r0 p) (pre ++ post)
    s2.poisoned = true ∧ s2.stores = s1.stores ∧ (s2.ring = s1.ring ∨ s2.ring = none) ∧
    (noDelete post = true → s2.ring = s1.ring) ∧
    (∀ t k, s2.pc t = .done k → s1.pc t = .done k ∨ s1.ring = some k) ∧
    (∀ t, (s2.pc t).inCs = false) := by
  intro s1 s2
  have hi : Inv s1 := inv_run (init r0 p) pre (inv_init r0 p)
  have e2 : s2 = run fc s1 post := run_append fc (init r0 p) pre post
  have h : Frozen s1 s2 := by rw [e2]; exact run_invariant (frozen_step s1) s1 post (frozen_refl s1 hi hp)
  refine ⟨h.poisoned, h.stores, h.ring, ?_, h.done, ?_⟩
  · intro hnd
    apply h.ringKeep
    rw [e2]; exact run_noDelete_deletes fc s1 post hnd
  · intro t
    cases hcs : (s2.pc t).inCs with
    | false => rfl
    | true =>
      have a := h.inv.lockOwner t hcs
      rw [h.inv.poisonFree h.poisoned] at a; cases a

/-- the hypothesis is satisfiable, and the conclusion bites: caller 1 panics at its re-read under the
    lock; caller 2 (already past its fast path) and the late caller 3 both get `Err`; nothing stored -/
example :
    let pre : List Ev := [.step 1 0 true, .step 2 0 true, .step 1 0 true, .panic 1]
    let post : List Ev := [.step 2 7 true, .step 3 8 true, .step 3 8 true]
    (run fc (init none) pre).poisoned = true ∧ (run fc (init none) (pre ++ post)).stores = 0 ∧
    (run fc (init none) (pre ++ post)).pc 2 = .failed ∧ (run fc (init none) (pre ++ post)).pc 3 = .failed := by
  decide

/-- … while a caller that finds the key on the lock-free fast path still succeeds under a poisoned lock -/
example : (run fc (init (some 3) true) [.step 1 0 true]).pc 1 = .done 3 := by decide

/-- **poison_only_by_panic_in_cs.**  The lock of a process that started un-poisoned is poisoned only if,
    earlier in the schedule, some caller panicked while it held the lock, inside the locked section. -/
theorem poison_only_by_panic_in_cs (r0 : Option Nat) (sched : List Ev)
    (h : (run fc (init r0) sched).poisoned = true) :
    ∃ pre t post, sched = pre ++ .panic t :: post ∧ (run fc (init r0) pre).lock = some t ∧
      ((run fc (init r0) pre).pc t).inCs = true := by
  obtain ⟨pre, t, post, h1, h2⟩ := run_poisons fc (init r0) sched rfl h
  exact ⟨pre, t, post, h1, h2, lockHeld_run (init r0) pre (inv_init r0 false) (lockHeld_init r0 false) t h2⟩

/-- in particular: no panic, no poisoning — and panics outside the locked section do not poison either
    (second example after `keyring_once`) -/
theorem no_panic_no_poison (r0 : Option Nat) (sched : List Ev) (hnp : sched.all (fun e => !e.isPanic) = true) :
    (run fc (init r0) sched).poisoned = false :=
  run_no_panic_poisoned fc (init r0) sched hnp

example : (run fc (init none) [.step 1 0 true, .step 1 0 true, .step 1 0 true, .step 1 7 true, .panic 1]).poisoned = true ∧
    (run fc (init none) [.step 1 0 true, .step 1 0 true, .step 1 0 true, .step 1 7 true, .panic 1]).lock = none := by decide

/-- the statement of `keyring_once` for a program that goes on WITHOUT the guard when the lock is
    poisoned (`lock().ok()`) … -/
def keyring_once_without_guard : Prop :=
  ∀ (r0 : Option Nat) (sched : List Ev), noDelete sched = true →
    (run false (init r0) sched).stores ≤ 1 ∧
    ∀ t u k k', (run false (init r0) sched).pc t = .done k → (run false (init r0) sched).pc u = .done k' → k = k'

/-- **no_guard_two_keys.**  … is FALSE: caller 1 takes the lock and panics (one panic: the lock is
    poisoned); callers 2 and 3 pass their fast paths, both "acquire" the poisoned lock and go on, both
    re-read an empty keyring, both generate, both store: two keys stored, two different keys returned,
    the keyring keeps the last one.  Under the fail-closed rule the same schedule stores nothing and
    both callers get `Err`. -/
theorem no_guard_two_keys :
    let sched : List Ev := [.step 1 0 true, .step 1 0 true, .panic 1,
      .step 2 7 true, .step 3 8 true, .step 2 7 true, .step 3 8 true, .step 2 7 true, .step 3 8 true,
      .step 2 7 true, .step 3 8 true, .step 2 7 true, .step 3 8 true]
    (sched.filter Ev.isPanic).length = 1 ∧ noDelete sched = true ∧
    (run false (init none) sched).stores = 2 ∧
    (run false (init none) sched).pc 2 = .done 7 ∧ (run false (init none) sched).pc 3 = .done 8 ∧
    (run false (init none) sched).ring = some 8 ∧
    (run true (init none) sched).stores = 0 ∧
    (run true (init none) sched).pc 2 = .failed ∧ (run true (init none) sched).pc 3 = .failed := by decide

theorem keyring_once_without_guard_false : ¬ keyring_once_without_guard := fun h =>
  absurd (h none _ no_guard_two_keys.2.1).1 (by rw [no_guard_two_keys.2.2.1]; decide)

/-- **keyring_shape.**  The step list of the model (read → lock → read → generate → store) is the call
    sequence `tools/gen_model.py` extracts from the body of `get_or_create_db_key` on every run, the lock
    guard lives until the function returns, and neither the plain read nor the delete take the lock.
    If the re-read under the lock is removed, or the store moves out of the locked section, the extracted
    list changes and this theorem no longer checks — whether or not a stress run hits the race. -/
theorem keyring_shape :
    Keyring.shape = Generated.keyringShape ∧ Generated.keyringGuardHeldToReturn = true ∧
    Generated.keyringReadTakesNoLock = true ∧ Generated.keyringDeleteTakesNoLock = true := by decide

/-- `shape` is not a free-standing constant: it is the sequence of steps a lone caller of the model
    performs (oldest first) -/
theorem shape_is_lone_trace :
    ((run fc (init none) (aloneSched 0 7)).trace.reverse.map (·.2)) = Keyring.shape ∧
    (run fc (init none) (aloneSched 0 7)).pc 0 = .done 7 := by decide

/-! ## 2. the constructor × file state × keyring state matrix -/

/-- **an encrypted file opens ⇔ the presented key is its key** — for every constructor, every keyring
    state, every pair of keys. (`presents`: `new_with_key(k')` presents `k'`; `new` presents the keyring
    entry, if it is a key; `new_unencrypted` presents nothing.) -/
theorem enc_opens_iff_key (w : World) (c : Ctor) (fresh k d : Nat) (hf : w.file = .enc k d) :
    (openDb w c fresh).2.isOpened = presents c w.ring k := by
  rw [(openDb_enc w c fresh k d hf).2]
  cases c with
  | unenc => rfl
  | withKey k' => by_cases e : k' = k <;> simp [presents, Outcome.isOpened, e]
  | new =>
    cases hr : w.ring with
    | key k' => by_cases e : k' = k <;> simp [getDbKey, presents, Outcome.isOpened, e]
    | rdfail k' ni => cases ni <;> simp [getDbKey, presents, Outcome.isOpened]
    | _ => simp [getDbKey, presents, Outcome.isOpened]

/-- … in particular never via `new_unencrypted`, whatever the keyring holds -/
theorem enc_never_via_unenc (w : World) (fresh k d : Nat) (hf : w.file = .enc k d) :
    (openDb w .unenc fresh).2 = .err .sqlite :=
  (openDb_enc w .unenc fresh k d hf).2

/-- … with the wrong key the error is `WrongEncryptionKey`, with no key `KeyringEntryMissing…` -/
theorem enc_wrong_key_kinds (w : World) (fresh k k' d : Nat) (hf : w.file = .enc k d) (hk : k' ≠ k) :
    (openDb w (.withKey k') fresh).2 = .err .wrongKey ∧
    (w.ring = .key k' → (openDb w .new fresh).2 = .err .wrongKey) ∧
    (w.ring = .none → (openDb w .new fresh).2 = .err .keyringEntryMissing) := by
  refine ⟨(openDb_enc w (.withKey k') fresh k d hf).2.trans (if_neg hk), fun hr => ?_, fun hr => ?_⟩ <;>
    rw [(openDb_enc w .new fresh k d hf).2, hr]
  · exact if_neg hk
  · rfl

/-- **reopening with the right key yields the same data** and leaves the file as it was; no call, with
    whatever constructor and outcome, changes an encrypted file or its data marker -/
theorem enc_reopen_same_data (w : World) (c : Ctor) (fresh k d : Nat) (hf : w.file = .enc k d) :
    (openDb w c fresh).1.file = .enc k d ∧
    ((openDb w c fresh).2.isOpened = true → (openDb w c fresh).2 = .opened (some k) d) := by
  refine ⟨(openDb_enc w c fresh k d hf).1, ?_⟩
  rw [(openDb_enc w c fresh k d hf).2]
  cases c with
  | unenc => nofun
  | withKey k' => dsimp only; split <;> first | exact fun _ => rfl | nofun
  | new =>
    dsimp only
    cases getDbKey w.ring with
    | error e => nofun
    | ok o =>
      cases o with
      | none => nofun
      | some k' => dsimp only; split <;> first | exact fun _ => rfl | nofun

/-- **`new` on an existing file never generates a key** (and never touches the keyring); if the keyring
    has no entry it refuses.  Rests on `Generated.newExistingBranchNeverCreates`. -/
theorem new_existing_never_generates (w : World) (fresh : Nat) (hf : fileExists w.file = true) :
    (openDb w .new fresh).1.stores = w.stores ∧ (openDb w .new fresh).1.ring = w.ring ∧
    (w.ring = .none → (openDb w .new fresh).2.isOpened = false) ∧
    Generated.newExistingBranchNeverCreates = true := by
  suffices h : (openDb w .new fresh).1.stores = w.stores ∧ (openDb w .new fresh).1.ring = w.ring ∧
      (w.ring = .none → (openDb w .new fresh).2.isOpened = false) from ⟨h.1, h.2.1, h.2.2, by decide⟩
  simp only [openDb, ctorNew, precreate_existing w hf]
  cases hg : getDbKey w.ring with
  | error e => exact ⟨rfl, rfl, fun _ => rfl⟩
  | ok o =>
    cases o with
    | none => dsimp only; split <;> exact ⟨rfl, rfl, fun _ => rfl⟩
    | some k =>
      have hk := finishOpen_spec { w with dir := some (w.dir.getD mode700) } (some k)
      exact ⟨hk.1, hk.2.1, fun hr => by rw [hr] at hg; cases hg⟩

/-- a plain database is never opened by an encrypting constructor -/
theorem plain_never_opened_encrypted (w : World) (c : Ctor) (fresh d : Nat) (hf : w.file = .plain d)
    (hc : c ≠ .unenc) : (openDb w c fresh).2.isOpened = false ∧ (openDb w c fresh).1.file = .plain d := by
  obtain ⟨file, ring, fmode, dir, stores⟩ := w
  simp only at hf; subst hf
  cases c with
  | unenc => exact absurd rfl hc
  | withKey k => exact ⟨rfl, rfl⟩
  | new =>
    simp only [openDb, ctorNew, precreate_existing ⟨.plain d, ring, fmode, dir, stores⟩ rfl]
    cases getDbKey ring with
    | error e => exact ⟨rfl, rfl⟩
    | ok o => cases o <;> exact ⟨rfl, rfl⟩

/-- whatever an encrypting constructor opens is, afterwards, a database encrypted under the very key
    it reports — never a plain file (special in-memory paths aside) -/
theorem opened_means_encrypted (w : World) (c : Ctor) (fresh : Nat) (key : Option Key) (d : Nat)
    (hc : c ≠ .unenc) (hs : w.file ≠ .special) (ho : (openDb w c fresh).2 = .opened key d) :
    ∃ k, key = some k ∧ (openDb w c fresh).1.file = .enc k d :=
  (((openDb_spec w c fresh).2.2 hs).2.2 key d ho).2.2 hc

/-- **modes.**  After every successful open of a real path the database file is 0600; a directory that
    did not exist is created 0700; a directory that existed keeps its mode (mdk does not own it).
    The two constants are the ones `permissions.rs` passes to `from_mode`. -/
theorem open_ok_modes (w : World) (c : Ctor) (fresh : Nat) (hs : w.file ≠ .special)
    (ho : (openDb w c fresh).2.isOpened = true) :
    (openDb w c fresh).1.fmode = mode600 ∧ (openDb w c fresh).1.dir = some (w.dir.getD mode700) ∧
    Generated.permissionModes = [mode600, mode700] := by
  obtain ⟨key, d, h⟩ := (isOpened_iff _).mp ho
  have := ((openDb_spec w c fresh).2.2 hs).2.2 key d h
  exact ⟨this.1, this.2.1, by decide⟩

example : ((openDb (World.fresh none) .new 7).2.isOpened = true) ∧
    (openDb (World.fresh none) .new 7).1.dir = some mode700 ∧
    (openDb (setFile (World.fresh (some mode755)) (.enc 3 3)) (.withKey 3) 0).1.dir = some mode755 := by decide

/-- **a key obtained from the keyring is created once and reused.**  On a path that does not exist, with
    an empty keyring, `new` generates and stores exactly one key and opens under it; every later `new`
    — whatever `generate()` would return then — stores nothing, opens under the same key and leaves
    the world unchanged (so the same holds for every further call). -/
theorem key_created_once_reused (dir : Option Nat) (f0 f : Nat) :
    let w1 := (openDb (World.fresh dir) .new f0).1
    (openDb (World.fresh dir) .new f0).2 = .opened (some f0) 0 ∧
    w1.stores = 1 ∧ w1.ring = .key f0 ∧ w1.file = .enc f0 0 ∧
    openDb w1 .new f = (w1, .opened (some f0) 0) := by
  cases dir <;> simp [World.fresh, openDb, ctorNew, precreate, getOrCreate, getDbKey, finishOpen, sqlOpen]

/-- for EVERY history of constructor calls (any constructors, any presented keys, any generated values,
    any keyring state to begin with) on a real path that starts from a missing file, at most one key is
    ever stored -/
theorem stores_le_one_all_histories (dir : Option Nat) (r : RingSt) (h : List (Ctor × Key)) :
    (runOpens { World.fresh dir with ring := r } h).stores ≤ 1 :=
  runOpens_stores_le_one _ h (by simp [World.fresh])

example : (runOpens (World.fresh none) [(.new, 7), (.withKey 7, 0), (.new, 8), (.unenc, 0), (.new, 9)]).stores = 1 := by
  decide

/-- **a stored key that cannot be read is never replaced.**  While the keyring holds an entry that the store cannot hand
    out (`rdfail`: `get_secret` fails with any error other than NoEntry, writes would succeed), `get_or_create_db_key`
    answers with an error and stores nothing — a read ERROR is never taken for "no key" — whatever `generate()` would return -/
theorem unreadable_key_never_replaced (w : World) (k fresh : Nat) (ni : Bool) (h : w.ring = .rdfail k ni) :
    (getOrCreate w fresh).1 = w ∧
    (getOrCreate w fresh).2 = .error (if ni then .keyringNotInitialized else .keyring) := by
  simp [getOrCreate, getDbKey, h]

/-- … and no constructor call, on any file state, whatever key it presents or would generate, changes the keyring entry or
    stores a key while the entry is unreadable -/
theorem unreadable_key_survives_every_open (w : World) (c : Ctor) (k fresh : Nat) (ni : Bool) (h : w.ring = .rdfail k ni) :
    (openDb w c fresh).1.ring = .rdfail k ni ∧ (openDb w c fresh).1.stores = w.stores := by
  have hp := precreate_keeps w
  have prepared : ∀ w1, Prepared w fresh c w1 → w1.ring = .rdfail k ni ∧ w1.stores = w.stores := by
    intro w1 h1
    cases h1 with
    | pre => exact ⟨hp.2.1.trans h, hp.1⟩
    | keyed => rw [(unreadable_key_never_replaced _ k fresh ni (hp.2.1.trans h)).1]; exact ⟨hp.2.1.trans h, hp.1⟩
  have hc := openDb_cases w c fresh
  generalize openDb w c fresh = r at hc ⊢
  cases hc with
  | refused => exact ⟨h, rfl⟩
  | stopped h1 => exact prepared _ h1
  | @opening w1 key h1 =>
    have hk := finishOpen_spec w1 key
    exact ⟨hk.2.1.trans (prepared _ h1).1, hk.1.trans (prepared _ h1).2⟩

/-- `new` opens nothing while the entry is unreadable -/
theorem unreadable_key_new_opens_nothing (w : World) (k fresh : Nat) (ni : Bool) (h : w.ring = .rdfail k ni) :
    (openDb w .new fresh).2.isOpened = false := by
  simp only [openDb, ctorNew]
  have hr : (precreate w).1.ring = .rdfail k ni := (precreate_keeps w).2.1.trans h
  rcases hq : precreate w with ⟨w1, pre⟩
  rw [hq] at hr
  simp only at hr
  cases pre <;> simp only [getOrCreate, getDbKey, hr] <;> rfl

/-- for every history of constructor calls the unreadable entry is still there, and once it is readable again the database
    that was encrypted under it opens with `new` as before -/
theorem unreadable_key_all_histories (w : World) (k : Nat) (ni : Bool) (hist : List (Ctor × Key)) (h : w.ring = .rdfail k ni) :
    (runOpens w hist).ring = .rdfail k ni ∧ (runOpens w hist).stores = w.stores := by
  induction hist generalizing w with
  | nil => exact ⟨h, rfl⟩
  | cons a rest ih =>
    obtain ⟨c, f⟩ := a
    have h1 := unreadable_key_survives_every_open w c k f ni h
    have := ih (openDb w c f).1 h1.1
    simp only [runOpens]
    exact ⟨this.1, this.2.trans h1.2⟩

example : (openDb { World.fresh none with file := .enc 3 5, ring := .rdfail 3 false } .new 9).2 = .err .keyring ∧
    (openDb { World.fresh none with ring := .rdfail 3 false } .new 9).2 = .err .keyring ∧
    (openDb { World.fresh none with file := .enc 3 5, ring := .key 3 } .new 9).2 = .opened (some 3) 5 := by decide

/-! ### behaviour the code has and a reader may not expect (each replayed on the implementation from
    `corpus/C13/`) -/

/-- the full-strength "a path on which no database was ever created can be initialised by `new` when the
    keyring works" … -/
def new_initialises_virgin_path_full : Prop :=
  ∀ (w : World) (fresh : Nat), (w.file = .missing ∨ w.file = .empty) → w.ring = .none →
    (openDb w .new fresh).2.isOpened = true

/-- … holds when the file is missing … -/
theorem new_initialises_virgin_path_partial (w : World) (fresh : Nat) (hf : w.file = .missing)
    (hr : w.ring = .none) : (openDb w .new fresh).2 = .opened (some fresh) 0 := by
  obtain ⟨file, ring, fmode, dir, stores⟩ := w
  simp only at hf hr; subst hf; subst hr
  cases dir <;> simp [openDb, ctorNew, precreate, getOrCreate, getDbKey, finishOpen, sqlOpen]

example : ({ World.fresh none with ring := .none } : World).file = .missing := rfl

/-- … and is FALSE for a 0-byte file: `new` answers `UnencryptedDatabaseWithEncryption`.  Such a file is
    what `new` itself leaves behind when the keyring fails after `precreate` (next theorem), or what a
    crash between `precreate` and the first page write leaves. -/
theorem new_initialises_virgin_path_full_false : ¬ new_initialises_virgin_path_full := by
  intro h
  have := h { World.fresh (some mode700) with file := .empty } 7 (Or.inr rfl) rfl
  revert this; decide

/-- witness history: first `new` while the keyring is unavailable fails AND leaves a 0-byte file; the
    keyring comes back; `new` now refuses for ever (the world is a fixpoint), although no database and
    no key ever existed -/
theorem failed_first_open_bricks_path :
    let w0 : World := { World.fresh none with ring := .noaccess }
    let w1 := (openDb w0 .new 7).1
    (openDb w0 .new 7).2 = .err .keyringNotInitialized ∧ w1.file = .empty ∧
    openDb (setRing w1 .none) .new 8 = (setRing w1 .none, .err .unencryptedWithEncryption) := by decide

/-- `new_with_key` refuses a 0-byte file as "unencrypted", while `new` with the same key in the keyring
    initialises it -/
theorem empty_file_ctor_asymmetry :
    (openDb { World.fresh (some mode700) with file := .empty } (.withKey 3) 0).2 = .err .unencryptedWithEncryption ∧
    (openDb { World.fresh (some mode700) with file := .empty, ring := .key 3 } .new 0).2 = .opened (some 3) 0 := by
  decide

/-- with NO default store set, the error kind is `Keyring`, not `KeyringNotInitialized` (the variant whose
    message says "call keyring_core::set_default_store()" is produced for `NoStorageAccess` only) -/
theorem unset_store_reports_keyring_kind (w : World) (fresh : Nat) (hr : w.ring = .nostore) (hf : w.file = .missing) :
    (openDb w .new fresh).2 = .err .keyring := by
  obtain ⟨file, ring, fmode, dir, stores⟩ := w
  simp only at hf hr; subst hf; subst hr
  cases dir <;> simp [openDb, ctorNew, precreate, getOrCreate, getDbKey]

/-- the sequential `get_or_create_db_key` of the matrix is the interleaving model run by a lone caller -/
theorem getOrCreate_is_lone_run (fresh : Nat) :
    (∀ w : World, w.ring = .none → (getOrCreate w fresh).2 = .ok fresh ∧ (getOrCreate w fresh).1.ring = .key fresh) ∧
    (run fc (init none) (aloneSched 0 fresh)).pc 0 = .done fresh ∧ (run fc (init none) (aloneSched 0 fresh)).ring = some fresh ∧
    (∀ k, (run fc (init (some k)) (aloneSched 0 fresh)).pc 0 = .done k ∧ (run fc (init (some k)) (aloneSched 0 fresh)).stores = 0) := by
  refine ⟨?_, ?_, ?_, ?_⟩
  · intro w hr; obtain ⟨file, ring, fmode, dir, stores⟩ := w; simp only at hr; subst hr
    simp [getOrCreate, getDbKey]
  · rfl
  · rfl
  · exact fun k => ⟨rfl, rfl⟩

/-! ## 3. concurrent first opens through `MdkSqliteStorage::new` -/

/-- **for every number of threads and every schedule** of concurrent `new` calls on one missing path
    with an empty, working keyring — ANY NUMBER OF PANICS of any caller at any point included, the lock
    poisoned from the start (`p`) or not: at most one key is stored; every caller that opens does so
    under the key in the keyring (so all under the same key) and the file is encrypted under it; nobody
    ever gets `WrongEncryptionKey`; `Error::Keyring` is returned only when the lock is poisoned — never
    in a run without panics that starts un-poisoned. -/
theorem concurrent_new_safe (p : Bool) (sched : List NEv) :
    let s := nrun fc (ninit p) sched
    s.k.stores ≤ 1 ∧
    (∀ t k, s.pc t = .ok k → s.k.ring = some k ∧ s.file = .enc k) ∧
    (∀ t u k k', s.pc t = .ok k → s.pc u = .ok k' → k = k') ∧
    (∀ t, s.pc t ≠ .err .wrongKey) ∧
    (∀ t, s.pc t = .err .keyring → s.k.poisoned = true) ∧
    (p = false → sched.all (fun e => !e.isPanic) = true → ∀ t, s.pc t ≠ .err .keyring) := by
  intro s
  have h : NInv s := ninv_run (ninit p) sched (ninv_init p)
  have hok : ∀ t k, s.pc t = .ok k → s.k.ring = some k := fun t k ht => h.keyIsRing t k (by simp [ht, NPc.key])
  refine ⟨?_, ?_, ?_, h.noWrongKey, h.keyringErr, ?_⟩
  · exact h.base.stores_le_one
  · intro t k ht
    exact ⟨hok t k ht, h.okFile t k ht⟩
  · intro t u k k' ht hu
    have a := hok t k ht; have b := hok u k' hu
    rw [a] at b; exact Option.some.inj b
  · intro hp hnp t ht
    have a := h.keyringErr t ht
    have b : s.k.poisoned = (ninit p).k.poisoned := nrun_no_panic_poisoned fc (ninit p) sched hnp
    rw [b, hp] at a; simp [ninit, init] at a

/-- a run with panics that satisfies everything above non-trivially: the creator (1) panics at its
    re-read under the lock → poisoned; follower 2 is refused (empty file, no key); a later creator-less
    world: nobody opens, nothing stored -/
example :
    let sched : List NEv := [.step 1 0, .step 1 0, .step 1 0, .panic 1, .step 2 0, .step 2 0, .step 2 0]
    (nrun fc ninit sched).k.poisoned = true ∧ (nrun fc ninit sched).pc 1 = .panicked ∧
    (nrun fc ninit sched).pc 2 = .err .unencrypted ∧ (nrun fc ninit sched).k.stores = 0 := by decide

/-- under a lock that is poisoned from the start `new` creates nothing: no key is stored, nobody opens,
    the file is never written (the creator leaves the 0-byte file of `failed_first_open_bricks_path`) -/
theorem concurrent_new_poisoned (sched : List NEv) :
    let s := nrun fc (ninit true) sched
    s.k.stores = 0 ∧ s.k.ring = none ∧ (∀ t k, s.pc t ≠ .ok k) ∧ (s.file = .missing ∨ s.file = .empty) := by
  intro s
  have h : NInv s := ninv_run (ninit true) sched (ninv_init true)
  have hf : Frozen (ninit true).k s.k :=
    nfrozen_run (ninit true).k (ninit true) sched (frozen_refl _ (inv_init none true) rfl)
  have hr : s.k.ring = none := by
    rcases hf.ring with h1 | h1
    · rw [h1]; rfl
    · exact h1
  refine ⟨by rw [hf.stores]; rfl, hr, ?_, ?_⟩
  · intro t k ht
    have := h.keyIsRing t k (by simp [ht, NPc.key]); rw [hr] at this; cases this
  · cases hfile : s.file with
    | missing => exact .inl rfl
    | empty => exact .inr rfl
    | enc k => have := h.fileKey k hfile; rw [hr] at this; cases this

example : (nrun fc (ninit true) (nsteps [(1, 7), (1, 7), (1, 7), (1, 7)])).pc 1 = .err .keyring ∧
    (nrun fc (ninit true) (nsteps [(1, 7), (1, 7), (1, 7), (1, 7)])).file = .empty := by decide

/-- the full-strength statement "…and every caller succeeds" … -/
def concurrent_new_full : Prop :=
  ∀ (sched : List NEv) (t : Nat) (e : NErr), (nrun fc ninit sched).pc t ≠ .err e

/-- … is FALSE of the code (no panic needed): caller 1 creates the file (`Created`), caller 2 finds it
    (`AlreadyExisted`), reads the keyring before caller 1 has stored the key, probes the still empty
    file and returns `UnencryptedDatabaseWithEncryption`.  The comment in `new` ("check the keyring
    FIRST … handles the race") covers only the window after the key is stored.  Replayed on the
    implementation by `corpus/C13/concurrent_first_open.trace`; observed there without any scheduling
    help, too. -/
theorem concurrent_new_full_false : ¬ concurrent_new_full := by
  intro h
  exact h (nsteps [(1, 0), (2, 0), (2, 0), (2, 0)]) 2 .unencrypted (by decide)

/-- what holds instead: a caller can only lose with `UnencryptedDatabaseWithEncryption` or
    `KeyringEntryMissing…`, and only if it looked at the keyring before the creator stored the key;
    when one caller completes before the others start, everybody who does not panic succeeds, under
    one key. -/
theorem concurrent_new_partial (t f : Nat) (rest : List NEv) :
    let s := nrun fc ninit (List.replicate 8 (.step t f) ++ rest)
    ∀ u, s.pc u = .pre ∨ s.pc u = .chk ∨ s.pc u = .opening f ∨ s.pc u = .ok f ∨ s.pc u = .panicked := by
  intro s u
  have h := nrun_invariant (ndone_step fc f) _ rest (creator_prefix_done fc t f)
  rw [← nrun_append] at h
  exact h.pcs u

example : (nrun fc ninit (List.replicate 8 (.step 1 7) ++ nsteps [(2, 0), (3, 0), (2, 0), (3, 0), (2, 0), (3, 0)])).pc 3 = .ok 7 := by
  decide

end MdkVerif.Props.C13
