import MdkVerif.Generated
import MdkVerif.Model.AppMsg
import MdkVerif.Proofs.Ite
/-
  C04 — Stored messages are bound to their authenticated sender and to their own content.
  The model (`Model/AppMsg.lean`) takes as a PARAMETER whether the id of a
  received rumor is recomputed from its content; the theorems instantiate it with the fact
  `Generated.rumorIdRecomputed`, re-extracted from messages/application.rs on every run.  On mdk before
  9fd9ca0 the fact was `false` (the pre-set id of the decrypted JSON was the storage key) and `id_bound` /
  `no_foreign_overwrite` were false — `preset_id_overwrites_when_not_recomputed` below is the closed
  witness, stated about the model function with the flag as an argument so that it is provable whatever
  the current code says.
-/
namespace MdkVerif.Props.C04
open MdkVerif MdkVerif.AppMsg List

/-- the behaviour of the current code (regenerated fact) -/
abbrev rc : Bool := Generated.rumorIdRecomputed

/-- the tie: the current source recomputes the id (fails to build when the repair is reverted) -/
theorem rc_true : rc = true := by decide

/-- a stored row is sound: attributed to the authenticated sender, and its id is the NIP-01 hash of exactly
    the stored author / timestamp / kind / tags / content -/
def RowOk (r : Row) : Prop := r.author = r.sender ∧ r.id = .hash r.body

def Inv (s : Store) : Prop := ∀ r ∈ s.rows, RowOk r

theorem mem_upsert {row r : Row} {rows : List Row} (h : r ∈ upsert row rows) : r = row ∨ r ∈ rows := by
  induction rows with
  | nil => exact .inl (List.mem_singleton.mp h)
  | cons x xs ih =>
    unfold upsert at h
    split at h
    · exact (List.mem_cons.mp h).imp_right (List.mem_cons_of_mem _)
    · rcases List.mem_cons.mp h with rfl | h
      · exact .inr List.mem_cons_self
      · exact (ih h).imp_right (List.mem_cons_of_mem _)

/-- an upsert removes nothing but a row with the SAME key -/
theorem upsert_keeps {row r : Row} {rows : List Row} (h : r ∈ rows) (hk : ¬ (r.gid = row.gid ∧ r.id = row.id)) :
    r ∈ upsert row rows := by
  induction rows with
  | nil => nomatch h
  | cons x xs ih =>
    unfold upsert
    rcases List.mem_cons.mp h with rfl | h
    · rw [if_neg hk]; exact List.mem_cons_self
    · split
      · exact List.mem_cons_of_mem _ h
      · exact List.mem_cons_of_mem _ (ih h)

/-- The three ways `recv` ends, each with what its path through the checks established: a refusal (no row
    changes, no consumed ciphertext is forgotten), the answer from the cached copy of an own wrapper, or a stored
    message. -/
inductive RecvEnds (b : Bool) (me : Nat) (s : Store) (w : Wrapper) : Store × Res → Prop
  | refused (s' : Store) : s'.rows = s.rows → s.seen ⊆ s'.seen → RecvEnds b me s w (s', .refused)
  | echo (r : Row) : w.ct.sender = me → RecvEnds b me s w ({ s with echoed := w.wid :: s.echoed }, .app r.id)
  | stored : w.ct.sender ≠ me → w.ct.cid ∉ s.seen → w.ct.rumor.body.pubkey = w.ct.sender →
      RecvEnds b me s w
        (let id := if b then nip01Id w.ct.rumor else trustedId w.ct.rumor
         ({ s with seen := w.ct.cid :: s.seen, rows := upsert (mkRow w.hTag id w.ct.rumor w.wid w.ct.sender) s.rows }, .app id))

theorem recv_ends (b : Bool) (me : Nat) (mine : List Nat) (s : Store) (w : Wrapper) :
    RecvEnds b me s w (recv b me mine s w) := by
  have same : RecvEnds b me s w (s, .refused) := .refused _ rfl (List.Subset.refl _)
  have failed : RecvEnds b me s w (fail s w.wid) := .refused _ rfl (List.Subset.refl _)
  unfold recv
  refine ite_elim (fun _ => same) fun _ => ?_
  refine ite_elim (fun _ => failed) fun _ => ?_
  refine ite_elim (fun _ => failed) fun _ => ?_
  refine ite_elim (fun _ => failed) fun _ => ?_
  refine ite_elim (fun hme => ?_) fun hme => ?_
  · refine ite_elim (fun _ => same) fun _ => ?_
    cases s.rows.find? _ with
    | some r => exact .echo r hme
    | none => exact failed
  · refine ite_elim (fun _ => failed) fun _ => ?_
    refine ite_elim (fun _ => failed) fun hseen => ?_
    unfold processApp
    exact ite_elim (fun _ => .refused _ rfl (List.subset_cons_self ..)) fun hpk => .stored hme hseen (Decidable.not_not.mp hpk)

section
variable {b : Bool} {me : Nat} {s : Store} {w : Wrapper} {out : Store × Res} (e : RecvEnds b me s w out)
include e

/-- every way `recv` can change the rows: not at all, or one upsert of the row built from an event whose
    author check passed, under the id the flag selects -/
theorem RecvEnds.rows :
    out.1.rows = s.rows ∨ (w.ct.rumor.body.pubkey = w.ct.sender ∧ out.1.rows =
      upsert (mkRow w.hTag (if b then nip01Id w.ct.rumor else trustedId w.ct.rumor) w.ct.rumor w.wid w.ct.sender) s.rows) := by
  cases e with
  | refused _ h => exact .inl h
  | echo => exact .inl rfl
  | stored _ _ hpk => exact .inr ⟨hpk, rfl⟩

theorem RecvEnds.seen_mono : s.seen ⊆ out.1.seen := by
  cases e with
  | refused _ _ h => exact h
  | echo => exact List.Subset.refl _
  | stored => exact List.subset_cons_self ..

/-- an accepted foreign message has consumed its ciphertext -/
theorem RecvEnds.consumes (hne : w.ct.sender ≠ me) {id : Id} (h : out.2 = .app id) :
    w.ct.cid ∈ out.1.seen := by
  cases e with
  | refused => cases h
  | echo _ hme => exact absurd hme hne
  | stored => exact List.mem_cons_self

/-- a consumed ciphertext is refused and changes no row, under any wrapper -/
theorem RecvEnds.consumed_refused (hne : w.ct.sender ≠ me) (h : w.ct.cid ∈ s.seen) :
    out.2 = .refused ∧ out.1.rows = s.rows := by
  cases e with
  | refused _ hrows => exact ⟨rfl, hrows⟩
  | echo _ hme => exact absurd hme hne
  | stored _ hseen => exact absurd h hseen

/-- a forged `pubkey` field writes no row and, unless the wrapper is one of the client's own (answered from the
    cached copy without being opened), is refused -/
theorem RecvEnds.forged_writes_nothing (h : w.ct.rumor.body.pubkey ≠ w.ct.sender) :
    out.1.rows = s.rows ∧ (w.ct.sender ≠ me → out.2 = .refused) := by
  cases e with
  | refused _ hrows => exact ⟨hrows, fun _ => rfl⟩
  | echo _ hme => exact ⟨rfl, fun hne => absurd hme hne⟩
  | stored _ _ hpk => exact absurd hpk h

end

theorem mkRow_ok (g : Nat) (r : Rumor) (wid x : Nat) (h : r.body.pubkey = x) : RowOk (mkRow g (nip01Id r) r wid x) := by
  constructor
  · simp [mkRow, h]
  · simp [mkRow, nip01Id, Row.body]

theorem honest_trustedId {me : Nat} {r : Rumor} (h : honest me r = true) : trustedId r = nip01Id r ∧ r.body.pubkey = me := by
  simp only [honest, Bool.and_eq_true, Bool.or_eq_true, decide_eq_true_eq] at h
  refine ⟨?_, h.1⟩
  rcases h.2 with h2 | h2 <;> simp [trustedId, h2]

theorem step_rows (me : Nat) (mine : List Nat) (s : Store) (o : Op) (ho : o.ok me = true) :
    (step rc me mine s o).rows = s.rows ∨
    ∃ g ru wid, ru.body.pubkey = o.actor me ∧
      (step rc me mine s o).rows = upsert (mkRow g (nip01Id ru) ru wid (o.actor me)) s.rows := by
  cases o with
  | recv w => exact (recv_ends rc me mine s w).rows.imp_right fun ⟨hpk, h⟩ => ⟨_, _, _, hpk, h⟩
  | send g ru wid =>
    obtain ⟨hid, hpk⟩ := honest_trustedId ho
    exact Or.inr ⟨g, ru, wid, hpk, by rw [← hid]; rfl⟩

theorem inv_step (me : Nat) (mine : List Nat) (s : Store) (o : Op) (hs : Inv s) (ho : o.ok me = true) :
    Inv (step rc me mine s o) := by
  intro r hr
  rcases step_rows me mine s o ho with h | ⟨g, ru, wid, hpk, h⟩ <;> rw [h] at hr
  · exact hs r hr
  · rcases mem_upsert hr with rfl | h1
    · exact mkRow_ok _ _ _ _ hpk
    · exact hs r h1

theorem run_invariant {b : Bool} {me : Nat} {mine : List Nat} {P : Store → Prop} {Q : Op → Prop}
    (hstep : ∀ s o, Q o → P s → P (step b me mine s o)) :
    ∀ (ops : List Op) (s : Store), (∀ o ∈ ops, Q o) → P s → P (run b me mine s ops)
  | [], _, _, hs => hs
  | o :: os, s, ho, hs =>
    run_invariant hstep os _ (fun o' h => ho o' (List.mem_cons_of_mem _ h)) (hstep s o (ho o List.mem_cons_self) hs)

theorem inv_reachable (me : Nat) (mine : List Nat) (ops : List Op) (hok : ∀ o ∈ ops, o.ok me = true) :
    Inv (run rc me mine Store.empty ops) :=
  run_invariant (fun s o ho hs => inv_step me mine s o hs ho) ops _ hok fun _ h => nomatch h

/-- **author_bound.**  After ANY history of received wrappers (arbitrary rumors, ids, h tags, replays, MLS
    verdicts) and honest own sends, every stored row is attributed to the identity the MLS layer
    authenticated as the sender of the event that wrote it. -/
theorem author_bound (me : Nat) (mine : List Nat) (ops : List Op) (hok : ∀ o ∈ ops, o.ok me = true) :
    ∀ r ∈ (run rc me mine Store.empty ops).rows, r.author = r.sender :=
  fun r hr => (inv_reachable me mine ops hok r hr).1

/-- **id_bound.**  … and its id is the NIP-01 hash of exactly the stored author, timestamp, kind, tags and
    content. -/
theorem id_bound (me : Nat) (mine : List Nat) (ops : List Op) (hok : ∀ o ∈ ops, o.ok me = true) :
    ∀ r ∈ (run rc me mine Store.empty ops).rows, r.id = .hash r.body :=
  fun r hr => (inv_reachable me mine ops hok r hr).2

/-- the hypotheses are satisfiable by a non-trivial history: a forged author, a pre-set foreign id, a
    replay and an own message — and the store ends up with three rows -/
example : ∃ ops : List Op, (∀ o ∈ ops, o.ok 3 = true) ∧ (run rc 3 [0, 1] Store.empty ops).rows.length = 3 := by
  refine ⟨[.recv ⟨10, 0, 0, true, ⟨1, 0, 2, ⟨⟨2, 5, 9, 0, 7⟩, none⟩⟩⟩,
           .recv ⟨11, 0, 0, true, ⟨2, 0, 1, ⟨⟨2, 5, 9, 0, 8⟩, none⟩⟩⟩,                             -- forged author
           .recv ⟨12, 0, 0, true, ⟨3, 0, 1, ⟨⟨1, 6, 9, 0, 8⟩, some (.hash ⟨2, 5, 9, 0, 7⟩)⟩⟩⟩,     -- pre-set foreign id
           .recv ⟨13, 0, 0, true, ⟨1, 0, 2, ⟨⟨2, 5, 9, 0, 7⟩, none⟩⟩⟩,                             -- replayed ciphertext
           .send 1 ⟨⟨3, 7, 9, 0, 1⟩, none⟩ 14], ?_, ?_⟩ <;> decide

/-- **no_foreign_overwrite.**  In any reachable store, an event written on behalf of X (a received wrapper
    whose MLS-authenticated sender is X, whatever rumor it carries; or an own honest send, X = the client)
    leaves every row whose author is Y ≠ X exactly as it was — in the group of the event and in every
    other group. -/
theorem no_foreign_overwrite (me : Nat) (mine : List Nat) (ops : List Op) (hok : ∀ o ∈ ops, o.ok me = true)
    (o : Op) (ho : o.ok me = true) (r : Row)
    (hr : r ∈ (run rc me mine Store.empty ops).rows) (hne : r.author ≠ o.actor me) :
    r ∈ (step rc me mine (run rc me mine Store.empty ops) o).rows := by
  rcases step_rows me mine _ o ho with h | ⟨g, ru, wid, hpk, h⟩ <;> rw [h]
  · exact hr
  · refine upsert_keeps hr fun ⟨_, hid⟩ => hne ?_
    -- both ids are hashes of the rows' own fields, and the hash is injective: same id, same author
    rw [(inv_reachable me mine ops hok r hr).2] at hid
    exact (congrArg Body.pubkey (Id.hash.inj hid)).trans hpk

/-- non-vacuity: a store holding C's message, and B's event carrying a rumor with the pre-set id of that
    message — the hypotheses hold and the event does write a (second) row -/
example :
    let ops : List Op := [.recv ⟨10, 0, 0, true, ⟨1, 0, 2, ⟨⟨2, 5, 9, 0, 7⟩, none⟩⟩⟩]
    let o : Op := .recv ⟨12, 0, 0, true, ⟨3, 0, 1, ⟨⟨1, 6, 9, 0, 8⟩, some (.hash ⟨2, 5, 9, 0, 7⟩)⟩⟩⟩
    (∀ x ∈ ops, x.ok 3 = true) ∧ o.ok 3 = true ∧
    (∃ r ∈ (run rc 3 [0] Store.empty ops).rows, r.author ≠ o.actor 3) ∧
    (step rc 3 [0] (run rc 3 [0] Store.empty ops) o).rows.length = 2 := by decide

/-- **no_second_copy.**  Once a wrapper of another member's message was accepted, the same MLS ciphertext
    under ANY other wrapper (fresh id, fresh signer, any h tag, any outer key) delivered after ANY further
    history is refused and changes no row. -/
theorem no_second_copy (me : Nat) (mine : List Nat) (s : Store) (w w' : Wrapper) (id : Id) (later : List Op)
    (hne : w.ct.sender ≠ me) (hacc : (recv rc me mine s w).2 = .app id) (hsame : w'.ct = w.ct) :
    let s2 := run rc me mine (recv rc me mine s w).1 later
    (recv rc me mine s2 w').2 = .refused ∧ (recv rc me mine s2 w').1.rows = s2.rows := by
  intro s2
  have h2 : w.ct.cid ∈ s2.seen :=
    run_invariant (P := fun s => w.ct.cid ∈ s.seen) (Q := fun _ => True)
      (fun s o _ h => by cases o with
        | send => exact h
        | recv x => exact (recv_ends rc me mine s x).seen_mono h)
      later _ (fun _ _ => trivial) ((recv_ends rc me mine s w).consumes hne hacc)
  exact (recv_ends rc me mine s2 w').consumed_refused (hsame ▸ hne) (hsame ▸ h2)

example : ∃ (s : Store) (w : Wrapper) (id : Id), w.ct.sender ≠ 3 ∧ (recv rc 3 [0] s w).2 = .app id :=
  ⟨Store.empty, ⟨10, 0, 0, true, ⟨1, 0, 2, ⟨⟨2, 5, 9, 0, 7⟩, none⟩⟩⟩, .hash ⟨2, 5, 9, 0, 7⟩, by decide, by decide⟩

/-- a forged `pubkey` field writes nothing, whoever it names -/
theorem forged_author_refused (b : Bool) (me : Nat) (mine : List Nat) (s : Store) (w : Wrapper)
    (h : w.ct.rumor.body.pubkey ≠ w.ct.sender) :
    (recv b me mine s w).2 ≠ .app (nip01Id w.ct.rumor) ∨ w.ct.sender = me ∨ (recv b me mine s w).1.rows = s.rows :=
  .inr (.inr ((recv_ends b me mine s w).forged_writes_nothing h).1)

/-! ### regression witness: the defect `preset-rumor-id` (mdk before 9fd9ca0) -/

/-- With the id NOT recomputed (`recompute = false`, the code before the repair): C's message is stored;
    B — authenticated as B, author field B — sends a rumor whose pre-set id is the id of C's message.  It is
    accepted, C's row is gone, the row under C's id now carries B's author and content, and its id is no
    longer the hash of its fields.  With `recompute = true` the same history leaves C's row intact. -/
theorem preset_id_overwrites_when_not_recomputed :
    let cMsg : Wrapper := ⟨10, 0, 0, true, ⟨1, 0, 2, ⟨⟨2, 5, 9, 0, 7⟩, none⟩⟩⟩
    let bMsg : Wrapper := ⟨12, 0, 0, true, ⟨3, 0, 1, ⟨⟨1, 6, 9, 0, 8⟩, some (.hash ⟨2, 5, 9, 0, 7⟩)⟩⟩⟩
    let cRow : Row := mkRow 0 (.hash ⟨2, 5, 9, 0, 7⟩) cMsg.ct.rumor 10 2
    (cRow ∈ (run false 3 [0] Store.empty [.recv cMsg]).rows) ∧
    (cRow ∉ (run false 3 [0] Store.empty [.recv cMsg, .recv bMsg]).rows) ∧
    (∃ r ∈ (run false 3 [0] Store.empty [.recv cMsg, .recv bMsg]).rows, r.id = .hash ⟨2, 5, 9, 0, 7⟩ ∧ r.author = 1 ∧ r.id ≠ .hash r.body) ∧
    (cRow ∈ (run true 3 [0] Store.empty [.recv cMsg, .recv bMsg]).rows) := by decide

end MdkVerif.Props.C04
