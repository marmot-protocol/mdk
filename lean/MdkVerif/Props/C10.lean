import MdkVerif.Model.Store
import MdkVerif.Proofs.Store
import MdkVerif.Proofs.Sort
import MdkVerif.Proofs.Refine
import MdkVerif.Props.C10Lru
import MdkVerif.Props.C10Limits
/-
  C10 — Memory and SQLite backends are observably the same store, and both agree with the plain
  reading of the storage contract.  The statements below are about the store model on EITHER backend
  (`s.backend` is arbitrary unless stated), for all stores, keys and values.
-/
namespace MdkVerif.Props.C10
open MdkVerif MdkVerif.Store List

/-! ### 1. a lookup returns the last value saved under that key (and saving one key never disturbs
    another) -/

theorem group_last_write_wins (s s' : Store) (g : Group) (h : saveGroup s g = some s') :
    findGroup s' g.gid = some g ∧ ∀ k, k ≠ g.gid → findGroup s' k = findGroup s k := by
  rw [saveGroup_some h]
  exact ⟨find_replaceGroup_self g _, fun k hk => find_replaceGroup_ne g _ k hk⟩

theorem message_last_write_wins (s s' : Store) (m : Msg) (h : saveMessage s m = some s') :
    findMessage s' m.gid m.id = some m ∧
    ∀ g i, ¬ (g = m.gid ∧ i = m.id) → findMessage s' g i = findMessage s g i := by
  rw [(saveMessage_some h).2]
  exact ⟨find_upsertMsg_self m _, fun g i hne => find_upsertMsg_ne m _ g i hne⟩

/-- the dedup table: one record per wrapper id, last write wins -/
theorem processed_message_last_write_wins (s : Store) (p : PM) :
    findPm (savePm s p) p.wrapper = some p ∧ ∀ w, w ≠ p.wrapper → findPm (savePm s p) w = findPm s w :=
  ⟨find_upsertPm_self p _, fun w hw => find_upsertPm_ne p _ w hw⟩

/-! ### 2. the selection queries select exactly the records the contract names -/

/-- `invalidate_messages_after_epoch` returns exactly the ids of the group's messages with a recorded
    epoch greater than the target … -/
theorem invalidate_selects_exactly (s : Store) (gid n i : Nat) :
    i ∈ (invalMsgs s gid n).2 ↔ ∃ m ∈ s.msgs, m.id = i ∧ m.gid = gid ∧ ∃ e, m.epoch = some e ∧ e > n := by
  simp only [invalMsgs, List.mem_map, List.mem_filter, Bool.and_eq_true, beq_iff_eq]
  constructor
  · rintro ⟨m, ⟨hm, hg, he⟩, rfl⟩
    refine ⟨m, hm, rfl, hg, ?_⟩
    cases hme : m.epoch with
    | none => simp [epochGt, hme] at he
    | some e => exact ⟨e, rfl, by simpa [epochGt, hme] using he⟩
  · rintro ⟨m, hm, rfl, hg, e, he, hgt⟩
    exact ⟨m, ⟨hm, hg, by simp [epochGt, he, hgt]⟩, rfl⟩

/-- … marks exactly those `EpochInvalidated`, and leaves every other message (and every field other
    than the state) untouched -/
theorem invalidate_marks_exactly (s : Store) (gid n : Nat) :
    (invalMsgs s gid n).1.msgs = s.msgs.map (fun m =>
      if m.gid == gid && epochGt m.epoch n then { m with state := 3 } else m) := rfl

theorem retry_selects_exactly (s : Store) (gid w : Nat) :
    w ∈ failedRetry s gid ↔ ∃ p ∈ s.pms, p.wrapper = w ∧ p.gid = some gid ∧ p.state = 3 ∧ p.epoch = none := by
  simp only [failedRetry, List.mem_map, List.mem_filter, Bool.and_eq_true, beq_iff_eq, Option.isNone_iff_eq_none]
  constructor
  · rintro ⟨p, ⟨hp, ⟨hg, hs⟩, he⟩, rfl⟩; exact ⟨p, hp, rfl, hg, hs, he⟩
  · rintro ⟨p, hp, rfl, hg, hs, he⟩; exact ⟨p, ⟨hp, ⟨hg, hs⟩, he⟩, rfl⟩

/-- only a `Failed` record can be marked retryable, and nothing else changes -/
theorem mark_retryable_iff (s : Store) (w : Nat) :
    (markRetryable s w).isSome ↔ ∃ p, findPm s w = some p ∧ p.state = 3 := by
  unfold markRetryable
  cases h : findPm s w with
  | none => simp
  | some p =>
    by_cases c : p.state = 3
    · simp [c]
    · simp [c]

theorem pending_welcomes_select_exactly (s : Store) (limit offset : Nat) (l : List Welcome)
    (h : pendingWelcomes s (some limit) (some offset) = some l) :
    ∀ w ∈ l, w ∈ s.welcomes ∧ w.state = 0 := by
  unfold pendingWelcomes at h
  simp only [Option.getD_some] at h
  split at h
  · cases h
  · cases h
    intro w hw
    have hw' := List.mem_of_mem_take hw
    have hw'' := List.mem_of_mem_drop hw'
    have := (sortBy_perm welcomeBefore _).mem_iff.mp hw''
    simpa using List.mem_filter.mp this

/-! ### 3. the two backends give the same answer wherever the model has one code path;
    where they branch, the extracted facts make the branches coincide -/

/-- inside the range the contract allows, `messages` does not depend on the backend -/
theorem messages_backend_independent (m q : Store) (gid : Nat) (limit offset sort : Option Nat)
    (hm : m.backend = .mem) (hq : q.backend = .sql) (hg : m.groups = q.groups) (hmsg : m.msgs = q.msgs)
    (hphys : (listing q gid (sort.getD 0)).length < two63) :
    messages m gid limit offset sort = messages q gid limit offset sort :=
  messages_mem_sql m q gid limit offset sort hm hq hg hmsg hphys

/-- the tag search is a literal match on both backends (SQLite: `Generated.sqlTagSearchCaseInsensitive`) -/
theorem tag_search_backend_independent (m q : Store) (gid tag mode : Nat) (hmsg : m.msgs = q.msgs) :
    findEpochByTag m gid tag mode = findEpochByTag q gid tag mode := by
  have h : Generated.sqlTagSearchCaseInsensitive = false := by decide
  simp [findEpochByTag, hmsg, h]

/-- … and it has ONE answer on both backends — the newest match in display order
    (`Generated.tagSearchNewestWins`: SQLite `ORDER BY created_at DESC, processed_at DESC, id DESC LIMIT 1`,
    memory the `display_order_cmp` maximum); before /repo's repair the contract left the choice open and
    the backends picked different messages -/
theorem tag_search_single_answer (s : Store) (gid tag mode : Nat) :
    (findEpochByTag s gid tag mode).length ≤ 1 := by
  have h : Generated.tagSearchNewestWins = true := by decide
  simp only [findEpochByTag, h, if_true]
  split
  · rename_i m _; cases m.epoch <;> simp
  · simp

/-- the answer is the epoch of a matching message that no other match beats in display order -/
theorem newestMsg_mem (l : List Msg) (m : Msg) (h : newestMsg l = some m) : m ∈ l := by
  induction l generalizing m with
  | nil => simp [newestMsg] at h
  | cons a t ih =>
    simp only [newestMsg] at h
    cases hb : newestMsg t with
    | none => rw [hb] at h; cases h; simp
    | some b =>
      rw [hb] at h
      simp only at h
      split at h
      · cases h; exact List.mem_cons_of_mem _ (ih _ hb)
      · split at h
        · cases h; exact List.mem_cons_of_mem _ (ih _ hb)
        · cases h; simp

/-- two messages carrying the same tag in different epochs: the answer is the later-created one's epoch,
    whatever the insertion order (closed witness; the former arbitrary choice is what thorough C10 runs found) -/
example :
    let a : Msg := { (default : Msg) with id := 1, gid := 1, created := 100, tag := 5, epoch := some 1 }
    let b : Msg := { (default : Msg) with id := 2, gid := 1, created := 101, tag := 5, epoch := some 4 }
    findEpochByTag { (Store.empty .mem) with msgs := [a, b] } 1 5 0 = [4] ∧
    findEpochByTag { (Store.empty .sql) with msgs := [b, a] } 1 5 0 = [4] := by decide

/-- pruning reports the number of snapshots on both backends (`Generated.sqlPruneCountsRows`) -/
theorem prune_count_backend_independent (m q : Store) (t : Nat) (hs : m.snaps = q.snaps) :
    (snapPrune m t).2 = (snapPrune q t).2 := by
  have h : Generated.sqlPruneCountsRows = false := by decide
  unfold snapPrune
  cases m.backend <;> cases q.backend <;> simp [hs, h]

/-! ### 4. the two known differences, as closed witnesses (replayed on the implementation:
    corpus/C10/*.trace; listed in known_findings.jsonl) -/

def grp (gid nid : Nat) : Group :=
  { gid := gid, nid := nid, nameLen := 1, descLen := 0, admins := 1, img := 0, lastId := none, lastAt := none,
    lastProc := none, epoch := 0, state := 0, selfUpd := 0 }

/-- full statement: the two backends answer every operation sequence identically -/
def backends_equal_full : Prop :=
  ∀ ops : List Op, (ops.foldl (fun (acc : Store × List String) o => let r := step acc.1 o; (r.1, acc.2 ++ [r.2])) (Store.empty .mem, [])).2
               = (ops.foldl (fun (acc : Store × List String) o => let r := step acc.1 o; (r.1, acc.2 ++ [r.2])) (Store.empty .sql, [])).2

/-- a snapshot of a group that has no record: memory keeps it (a rollback then succeeds), SQLite has
    nothing to roll back to -/
def wMissing : List Op := [.mlsWrite 5 0 1, .snapCreate 5 1 1000, .snapRollback 5 1]

/-- rollback onto a Nostr group id that another group has taken meanwhile: memory succeeds (and its
    by-id index now answers for the restored group), SQLite refuses (UNIQUE index) -/
def wCollision : List Op :=
  [.saveGroup (grp 1 15), .saveGroup (grp 2 12), .snapCreate 1 3 1000, .saveGroup (grp 1 11), .saveGroup (grp 2 15), .snapRollback 1 3]

theorem backends_equal_full_false : ¬ backends_equal_full := by
  intro h
  have := h wCollision
  revert this; decide

theorem witness_missing_group_differs :
    (step (run (Store.empty .mem) (wMissing.take 2)) (.snapRollback 5 1)).2 ≠
    (step (run (Store.empty .sql) (wMissing.take 2)) (.snapRollback 5 1)).2 := by decide

/-! ### 5. refinement: outside the two known differences and inside both backends' limits the two
    backends are the same store, for EVERY operation and every history

  `Agree m q` (Proofs/Refine.lean): all tables equal (relay sets as lookups), memory's by-nostr-id
  index consistent with the record list, group ids and nostr ids pairwise distinct, every stored
  snapshot holds its group's record.  `WL s op` (decidable): the operation is within both backends'
  documented limits (group name ≤ 255, description ≤ 2000, ≤ 100 admins, ≤ 100 relays of ≤ 512 bytes,
  content ≤ 1 MiB, the welcome limits of both, fewer than 2^63 stored messages / welcomes) and outside
  the two open findings: `snap_create` only for a group that has a record
  (`snapshot-of-missing-group`), `snap_rollback` only when the snapshot's nostr id is not held by
  another group (`restore-nostr-id-collision`).  For `dump` agreement is of the rendered string. -/

/-- one step: same observation, and the relation is kept — for each of the 37 operations -/
theorem step_agree (m q : Store) (op : Op) (h : Agree m q) (hw : WL m op = true) :
    (step m op).2 = (step q op).2 ∧ Agree (step m op).1 (step q op).1 :=
  agree_step m q h op hw

/-- any history all of whose operations are within `WL` (checked along the memory run, `WLrun`)
    produces the same observations on a fresh memory store and a fresh SQLite store -/
theorem backends_equal_partial (ops : List Op) (hw : WLrun (Store.empty .mem) ops = true) :
    (ops.foldl (fun (acc : Store × List String) o => let r := step acc.1 o; (r.1, acc.2 ++ [r.2])) (Store.empty .mem, [])).2
      = (ops.foldl (fun (acc : Store × List String) o => let r := step acc.1 o; (r.1, acc.2 ++ [r.2])) (Store.empty .sql, [])).2 :=
  (observe_agree ops _ _ [] agree_empty hw).1

/-- … and the two stores are still related afterwards (so the statement extends to any continuation) -/
theorem backends_related_after (ops : List Op) (hw : WLrun (Store.empty .mem) ops = true) :
    Agree (observe (Store.empty .mem, []) ops).1 (observe (Store.empty .sql, []) ops).1 :=
  (observe_agree ops _ _ [] agree_empty hw).2

/-- non-vacuity: a history with two groups, relays, secrets, OpenMLS rows, a message, a snapshot, further
    writes, a rollback and a dump is inside `WL` -/
def exWL : List Op :=
  [.saveGroup (grp 1 11), .saveGroup (grp 2 12), .replaceRelays 1 [3, 1, 3], .saveSecret 1 0 7, .mlsWrite 1 0 9,
   .saveMessage { id := 1, gid := 1, pk := 0, kind := 9, created := 100, processed := 100, content := 1, contentLen := 8,
                  tag := 0, wrapper := 1, epoch := some 1, state := 1 },
   .snapCreate 1 1 1000, .saveSecret 1 1 8, .replaceRelays 1 [], .saveGroup (grp 1 15), .snapRollback 1 1,
   .findGroupNostr 11, .messages 1 none none none, .dump]

example : WLrun (Store.empty .mem) exWL = true := by decide

/-- the two witnesses of §4 are outside `WL` (so they do not contradict the theorem) -/
example : WLrun (Store.empty .mem) wMissing = false ∧ WLrun (Store.empty .mem) wCollision = false := by decide

/-! ### 6. the memory backend WITH its LRU caches (proved in Props/C10Lru.lean over Model/Lru.lean, Model/MemLru.lean,
    Proofs/Lru.lean, Proofs/MemLru.lean; restated here so that `./check C10` audits them).  `Model/Store.lean`'s `.mem`
    flavour keeps unbounded maps; the code keeps nine `lru::LruCache`s of `cache_size` entries and at most
    `max_messages_per_group` messages per group. -/

open MdkVerif.Lru in
/-- (a) a cache over at most `cap` distinct keys IS the unbounded association list: every read agrees, nothing is evicted -/
theorem lru_refines_map {κ α : Type} [DecidableEq κ] (c : Lru κ α) (T : List κ) (ops : List (LOp κ α))
    (hwf : c.WF) (hT : T.length ≤ c.cap) (hc : ∀ k ∈ keys c.items, k ∈ T) (ho : ∀ o ∈ ops, o.key ∈ T) :
    c.observe ops = mapObserve c.items ops :=
  C10Lru.lru_refines_map c T ops hwf hT hc ho

open MdkVerif.Lru in
theorem lru_refines_map_fresh {κ α : Type} [DecidableEq κ] (cap : Nat) (hcap : 0 < cap) (ops : List (LOp κ α))
    (h : (ops.map LOp.key).eraseDups.length ≤ cap) :
    (Lru.empty cap : Lru κ α).observe ops = mapObserve [] ops :=
  C10Lru.lru_refines_map_fresh cap hcap ops h

open MdkVerif.Lru in
/-- (b) at capacity a `put` of a new key evicts exactly the least recently used entry and nothing else -/
theorem lru_evicts_lru {κ α : Type} [DecidableEq κ] (c : Lru κ α) (h : c.WF) (k : κ) (v : α)
    (hnew : c.contains k = false) (hfull : c.len = c.cap) :
    ∃ e, c.items.getLast? = some e ∧ (c.put k v).2 = some e ∧ e.1 ≠ k ∧
      (c.put k v).1.items = (k, v) :: c.items.dropLast ∧
      (c.put k v).1.peek k = some v ∧ (c.put k v).1.peek e.1 = none ∧
      ∀ k', k' ≠ k → k' ≠ e.1 → (c.put k v).1.peek k' = c.peek k' :=
  C10Lru.lru_evicts_lru c h k v hnew hfull

open MdkVerif.Lru in
/-- (b) the size never exceeds the capacity, for all operation sequences -/
theorem lru_size_le_cap {κ α : Type} [DecidableEq κ] (cap : Nat) (hcap : 0 < cap) (ops : List (LOp κ α)) :
    ((Lru.empty cap : Lru κ α).run ops).len ≤ cap ∧ (keys ((Lru.empty cap : Lru κ α).run ops).items).Nodup :=
  C10Lru.lru_size_le_cap cap hcap ops

open MdkVerif.MemLru in
/-- (c) within the capacities the LRU-backed memory backend is the unbounded `.mem` model, whatever the map orders -/
theorem mem_within_capacity_eq_unbounded (cap msgCap : Nat) (ops : List (Op × List Nat))
    (hw : WithinCapRun cap msgCap (Store.empty .mem) (ops.map (·.1)) = true) :
    MemLru.observe (MemStore.empty cap msgCap) ops = (Store.observe (Store.empty .mem, []) (ops.map (·.1))).2 ∧
    (MemLru.run (MemStore.empty cap msgCap) ops).u = (Store.observe (Store.empty .mem, []) (ops.map (·.1))).1 :=
  C10Lru.mem_within_capacity_eq_unbounded cap msgCap ops hw

open MdkVerif.MemLru in
/-- (c) … hence `backends_equal_partial` holds for the real memory backend: same observations as SQLite -/
theorem backends_equal_lru_partial (cap msgCap : Nat) (ops : List (Op × List Nat))
    (hc : WithinCapRun cap msgCap (Store.empty .mem) (ops.map (·.1)) = true)
    (hw : WLrun (Store.empty .mem) (ops.map (·.1)) = true) :
    MemLru.observe (MemStore.empty cap msgCap) ops = (Store.observe (Store.empty .sql, []) (ops.map (·.1))).2 :=
  C10Lru.backends_equal_lru_partial cap msgCap ops hc hw

theorem mem_beyond_capacity_differs :
    MemLru.observe (MemLru.MemStore.empty 1 10) [(.saveGroup (C10Lru.grp 1 11), []), (.saveGroup (C10Lru.grp 2 12), []), (.findGroup 1, [])] ≠
      (Store.observe (Store.empty .mem, []) [.saveGroup (C10Lru.grp 1 11), .saveGroup (C10Lru.grp 2 12), .findGroup 1]).2 ∧
    MemLru.WithinCapRun 1 10 (Store.empty .mem) [.saveGroup (C10Lru.grp 1 11), .saveGroup (C10Lru.grp 2 12), .findGroup 1] = false :=
  C10Lru.mem_beyond_capacity_differs

open MdkVerif.MemLru in
/-- (d) all histories, beyond the capacities too, no restore collision: the two group lookups never disagree -/
theorem index_consistent (cap msgCap : Nat) (hcap : 0 < cap) (ops : List (Op × List Nat))
    (hnc : NoCollisionRun (MemStore.empty cap msgCap) ops = true) :
    C10Lru.IndexOK (MemLru.run (MemStore.empty cap msgCap) ops) :=
  C10Lru.index_consistent cap msgCap hcap ops hnc

open MdkVerif.MemLru in
/-- `messages_cache` is read by no trait method: it cannot influence any observation, in any history -/
theorem messages_cache_unobservable (ops : List (Op × List Nat)) (a b : MemStore) (h : vis a = vis b) :
    MemLru.observe a ops = MemLru.observe b ops ∧ vis (MemLru.run a ops) = vis (MemLru.run b ops) :=
  C10Lru.messages_cache_unobservable ops a b h

open MdkVerif.MemLru in
/-- at any fill level a rollback never changes a message, a dedup record, a welcome or a processed-welcome record -/
theorem rollback_keeps_messages_and_records (s : MemStore) (hb : s.u.backend = .mem) (gid name : Nat) (ch : List Nat)
    (s' : MemStore) (h : MemLru.snapRollback s gid name ch = some s') :
    s'.u.msgs = s.u.msgs ∧ s'.u.pms = s.u.pms ∧ s'.u.welcomes = s.u.welcomes ∧ s'.u.pws = s.u.pws ∧
    s'.qMsgGroups = s.qMsgGroups ∧ s'.qPms = s.qPms ∧ s'.qWelcomes = s.qWelcomes ∧ s'.qPws = s.qPws :=
  C10Lru.rollback_keeps_messages_and_records s hb gid name ch s' h

/-- (d) … and with a restore collision beyond the capacity they do (corpus/C10lru/index_ghost_after_collision.trace) -/
theorem index_full_false : ¬ C10Lru.index_full := C10Lru.index_full_false

/-! ### 7. the documented limits (proved in Props/C10Limits.lean over Model/StoreLimits.lean): within both backends' limits the
    limit-aware model IS the store model above; the calls on which the backends' validation differs are exactly those one
    backend's literal limits accept and the other's refuse -/
theorem within_limits_as_before : type_of% @C10Limits.within_limits_as_before := @C10Limits.within_limits_as_before
theorem within_both_limits_as_before : type_of% @C10Limits.within_both_limits_as_before := @C10Limits.within_both_limits_as_before
theorem limits_differ : type_of% @C10Limits.limits_differ := @C10Limits.limits_differ
theorem name_256_mem_only : type_of% @C10Limits.name_256_mem_only := @C10Limits.name_256_mem_only

end MdkVerif.Props.C10
