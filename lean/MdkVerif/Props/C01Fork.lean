import MdkVerif.Model.Client
import MdkVerif.Proofs.Client
import MdkVerif.Proofs.Fork
import MdkVerif.Proofs.ForkInv
import MdkVerif.Props.C08
/-
  C01 — the general single-fork theorem (DESIGN §6 C01 `single_fork`).

  One client at the parent state `p` of a fork; a finite set `S` of sibling commits created in `p`;
  ANY delivery list over `S` (any order, any repetition).  The client ends on the MIP-03 minimum of
  the siblings that were delivered, with that sibling's group state, and every other delivered sibling
  is blocked by its dedup record.  The proof is a simulation of `Client.deliver` (process_message with
  snapshot, MIP-03 comparison, rollback, record rewriting and re-processing) by the abstract fork
  machine of `Proofs/Fork.lean` (`fork_run`; the bystander and the committer theorem are its two cases).
-/
namespace MdkVerif.Props.C01Fork
open MdkVerif MdkVerif.Client MdkVerif.Fork

/-- DESIGN's `secrets_follow_path`: every stored exporter secret is the secret of a prefix of the
    current MLS path, stored under that prefix's epoch number -/
def SecretsOK (g : GState) : Prop :=
  ∀ ep q, alookup ep g.secrets = some q → ep = epochOf q ∧ q <+: g.path

/-- no snapshot for the fork's epoch is in the manager yet (a snapshot of epoch k is taken when the
    commit leaving epoch k is applied, and removed by a rollback to k) -/
def NoForkSnapshot (c : Cl) : Prop := ∀ s ∈ c.mgr, s.epoch ≠ epochOf c.g.path

theorem base_of (c : Cl) (hg : c.hasGroup = true) (ha : c.g.active = true) (hr : 1 ≤ c.retention) (hs : SecretsOK c.g) (hm : NoForkSnapshot c) :
    Base c := by
  refine ⟨hg, ha, hr, ?_, ?_, hm⟩
  · cases h : alookup (epochOf c.g.path) c.g.secrets with
    | none => exact Or.inl rfl
    | some q =>
      right
      obtain ⟨h1, h2⟩ := hs _ _ h
      have hl : q.length = c.g.path.length := by simp only [epochOf] at h1; omega
      have := h2.eq_of_length hl
      rw [this]
  · cases h : alookup (epochOf c.g.path + 1) c.g.secrets with
    | none => rfl
    | some q =>
      obtain ⟨h1, h2⟩ := hs _ _ h
      have := h2.length_le
      simp only [epochOf] at h1
      omega

/-- the siblings: commits created in the client's current state, by others, each by an admin or a pure
    self-update, with non-zero timestamps, pairwise distinct event numbers, MIP-03 keys and MLS
    ciphertexts (a re-wrapped copy of a commit is the same commit, not a sibling), not yet seen, their
    ciphertexts not yet consumed by the client's ratchet -/
structure SiblingsCore (c : Cl) (S : List Ev) : Prop where
  path : ∀ e ∈ S, e.path = c.g.path
  kind : ∀ e ∈ S, ∃ b sw, e.kind = .commit b sw ∧ (isAdmin c.g e.sender || isPureSelfUpdate b sw) = true
  foreign : ∀ e ∈ S, e.sender ≠ c.id
  ts : ∀ e ∈ S, e.ts ≠ 0
  distinct : ∀ e1 ∈ S, ∀ e2 ∈ S, e1 ≠ e2 → e1.n ≠ e2.n ∧ (e1.ts, e1.idnum) ≠ (e2.ts, e2.idnum) ∧ e1.cipher ≠ e2.cipher
  unseen : ∀ e ∈ S, getRec c e.n = none
  unconsumed : ∀ e ∈ S, e.cipher ∉ c.g.consumed
  /-- each was published under the nostr group id in force at the parent state (what `build_message_event` does) -/
  tag : ∀ e ∈ S, e.tag = c.g.recNid

/-- … and none of them ROTATES the nostr group id (with a rotating sibling the theorem is false of the code:
    `single_fork_any_id_full_false`, finding `h-rotation-in-flight`) nor REMOVES the receiver (an eviction is final
    whatever the commit's rank: `single_fork_any_target_full_false`, finding `evicted-by-losing-commit`) -/
structure Siblings (c : Cl) (S : List Ev) : Prop extends SiblingsCore c S where
  keepsId : ∀ e ∈ S, ∀ d sw, e.kind = .commit (.setData d) sw → d.nid = c.g.recNid
  keepsMe : ∀ e ∈ S, ∀ b sw, e.kind = .commit b sw → removesMe c.id b sw = false

/-- a body that is not an id rotation leaves the id where the record has it (given record = MLS state) -/
theorem keeps_nid (c : Cl) (hn : c.g.recNid = c.g.nid) (b : Body)
    (hk : ∀ d, b = .setData d → d.nid = c.g.recNid) : (applyBody (ensureSecret c.g) b).nid = c.g.recNid := by
  cases b with
  | selfUpdate => simp [applyBody, hn]
  | setData d => simp [applyBody, hk d rfl]
  | removeLeavers who => simp [applyBody, hn]
  | addMembers who => simp [applyBody, hn]

theorem sibs_of (c : Cl) (S : List Ev) (hn : c.g.recNid = c.g.nid) (h : Siblings c S) : Sibs c S where
  sib := fun e he => ⟨h.path e he, h.kind e he, by simpa using h.foreign e he, h.ts e he, h.unconsumed e he, h.tag e he,
    fun b sw hk => keeps_nid c hn b (fun d hd => h.keepsId e he d sw (by rw [hk, hd])), h.keepsMe e he⟩
  inj := by
    intro e1 h1 e2 h2 hk
    by_cases x : e1 = e2
    · exact x
    · obtain ⟨a, b, _⟩ := h.distinct e1 h1 e2 h2 x
      rcases hk with y | y
      · exact absurd y a
      · exact absurd y b
  cinj := by
    intro e1 h1 e2 h2 hk
    by_cases x : e1 = e2
    · exact x
    · exact absurd hk (h.distinct e1 h1 e2 h2 x).2.2
  norec := h.unseen

/-- **single_fork (bystander)**.  For every client at the parent state (group present, retention ≥ 1,
    stored secrets following the path, no snapshot of this epoch yet — nothing is assumed about a
    pending commit, queued proposals, stored messages, other records or older snapshots), every set of
    sibling commits, and EVERY non-empty delivery list over them — any order, any repetition — there
    is a delivered sibling `w` that precedes every other delivered sibling in the MIP-03 order and
      * the client's MLS path is the parent path extended by `w` (its ciphertext identity),
      * its group state is `w`'s commit applied to the parent state (`childG`) — in every field except the
        list of consumed ratchet generations (`wc · []` blanks it), which also remembers the losers,
      * `w`'s record is ProcessedCommit, and
      * every other delivered sibling has a Failed (3) / EpochInvalidated (4) record: the dedup step
        refuses it from now on. -/
theorem single_fork_bystander (c : Cl) (S : List Ev) (l : List Ev) (nx : Nat)
    (hg : c.hasGroup = true) (ha : c.g.active = true) (hr : 1 ≤ c.retention) (hsec : SecretsOK c.g) (hm : NoForkSnapshot c)
    (hn : c.g.recNid = c.g.nid)
    (hS : Siblings c S) (hl : ∀ e ∈ l, e ∈ S) (hne : l ≠ []) :
    ∃ w ∈ l, (∀ e ∈ l, e = w ∨ klt (key w) (key e) = true) ∧
      (l.foldl (fun c e => (deliver c e nx).1) c).g.path = c.g.path ++ [w.cipher] ∧
      wc (l.foldl (fun c e => (deliver c e nx).1) c).g [] = wc (childG c w) [] ∧
      (getRec (l.foldl (fun c e => (deliver c e nx).1) c) w.n).map (·.state) = some 2 ∧
      ∀ e ∈ l, e ≠ w → ∃ r, getRec (l.foldl (fun c e => (deliver c e nx).1) c) e.n = some r ∧ (r.state = 3 ∨ r.state = 4) := by
  have hb := base_of c hg ha hr hsec hm
  obtain ⟨w, hw, hcw, hmin, hcf, hrw, hblk⟩ := fork_run c hb [] S (sibs_of c S hn hS).toG nx l hl hne
  refine ⟨w, hw, hmin, (congrArg GState.path hcf.g).trans (childG_facts c hb w hcw).1, (congrArg (wc · []) hcf.g).trans (wc_wc _ _ _),
    congrArg (Option.map (·.state)) hrw, fun e he hne' => ?_⟩
  · obtain ⟨r, hr', hbr⟩ := hblk e he hne' List.not_mem_nil
    exact ⟨r, hr', hbr.1⟩

/-- the group data (the whole extension as modelled: name, description, admins, relays, nostr group id)
    after a commit with body `b`: a data commit carries the whole new extension, every other commit keeps it -/
def dataAfter (b : Body) (old : GData) : GData :=
  match b with
  | .setData d => d
  | _ => old

/-- the member set after a commit with body `b` that swept the queued leave proposals `sw` -/
def membersAfter (b : Body) (sw : List Nat) (old : List Nat) : List Nat :=
  match b with
  | .removeLeavers who => (old.filter (fun m => !(who.contains m))).filter (fun m => !(sw.contains m))
  | .addMembers who => (old ++ who.filter (fun m => !(old.contains m))).filter (fun m => !(sw.contains m))
  | _ => old.filter (fun m => !(sw.contains m))

theorem dataOf_ensureSecret (g : GState) : dataOf (ensureSecret g) = dataOf g := by
  simp only [dataOf, ensureSecret_name, ensureSecret_desc, ensureSecret_admins, ensureSecret_relays, ensureSecret_nid]

theorem syncRec_keeps (g : GState) : dataOf (syncRec g) = dataOf g ∧ (syncRec g).members = g.members ∧
    (syncRec g).pending = g.pending ∧ (syncRec g).props = g.props := ⟨rfl, rfl, rfl, rfl⟩

theorem mergeCommit_data (mp : Nat) (g : GState) (e : Ev) (b : Body) (sw : List Nat) (hk : e.kind = .commit b sw) :
    dataOf (mergeCommit mp g e) = dataAfter b (dataOf g) ∧ (mergeCommit mp g e).members = membersAfter b sw g.members ∧
    (mergeCommit mp g e).pending = none ∧ (mergeCommit mp g e).props = [] := by
  rw [mergeCommit_commit mp g e hk]
  cases b <;> exact ⟨rfl, rfl, rfl, rfl⟩

/-- what "the group state is `w`'s" means: name, description, admins, relays and nostr group id per the commit
    body, members per body and swept proposals, no pending commit or proposals, and the stored record
    (epoch, name, description, admins, relays, nostr group id) in step with it -/
theorem childG_data (c : Cl) (w : Ev) (b : Body) (sw : List Nat) (hk : w.kind = .commit b sw) :
    dataOf (childG c w) = dataAfter b (dataOf c.g) ∧
    (childG c w).members = membersAfter b sw c.g.members ∧
    (childG c w).pending = none ∧ (childG c w).props = [] ∧ Synced (childG c w) := by
  obtain ⟨h1, h2, h3, h4⟩ := mergeCommit_data c.maxPast (gP c) w b sw hk
  obtain ⟨s1, s2, s3, s4⟩ := syncRec_keeps (ensureSecret (mergeCommit c.maxPast (gP c) w))
  unfold childG
  refine ⟨?_, ?_, ?_, ?_, synced_syncRec _⟩
  · rw [s1, dataOf_ensureSecret, h1, gP, dataOf_ensureSecret]
  · rw [s2, ensureSecret_members, h2, gP, ensureSecret_members]
  · rw [s3, ensureSecret_pending, h3]
  · rw [s4, ensureSecret_props, h4]

/-- `childG_data` field by field, for a data commit: every field of the group data is the commit's -/
theorem childG_setData (c : Cl) (w : Ev) (d : GData) (sw : List Nat) (hk : w.kind = .commit (.setData d) sw) :
    (childG c w).name = d.name ∧ (childG c w).desc = d.desc ∧ (childG c w).admins = d.admins ∧
    (childG c w).relays = d.relays ∧ (childG c w).nid = d.nid ∧
    (childG c w).recName = d.name ∧ (childG c w).recDesc = d.desc ∧ (childG c w).recAdmins = d.admins ∧
    (childG c w).recRelays = d.relays ∧ (childG c w).recNid = d.nid := by
  obtain ⟨h1, _, _, _, hs⟩ := childG_data c w _ sw hk
  obtain ⟨_, s2, s3, s4, s5, s6⟩ := hs
  simp only [dataOf, dataAfter] at h1
  have a1 := congrArg GData.name h1
  have a2 := congrArg GData.desc h1
  have a3 := congrArg GData.admins h1
  have a4 := congrArg GData.relays h1
  have a5 := congrArg GData.nid h1
  simp only at a1 a2 a3 a4 a5
  exact ⟨a1, a2, a3, a4, a5, s2.trans a1, s4.trans a2, s3.trans a3, s5.trans a4, s6.trans a5⟩

/-- … and for every other commit (self-update, removal of leavers) the group data is the parent's -/
theorem childG_keeps_data (c : Cl) (w : Ev) (b : Body) (sw : List Nat) (hk : w.kind = .commit b sw)
    (hb : ∀ d, b ≠ .setData d) : dataOf (childG c w) = dataOf c.g := by
  rw [(childG_data c w b sw hk).1]
  cases b <;> simp_all [dataAfter]

/-! ### the excluded case: retention 0

  With `snapshot retention = 0` the snapshot taken before applying a commit is dropped at once, so a
  better sibling arriving later finds nothing to compare with (`Props.C01.isBetter_no_snapshot`) and is refused:
  the client stays on the first sibling it saw.  (MdkConfig's default retention is 5; 0 is a legal
  configuration value.) -/

/-- the statement without the retention hypothesis -/
def single_fork_bystander_full : Prop :=
  ∀ (c : Cl) (S l : List Ev) (nx : Nat), c.hasGroup = true → c.g.active = true → SecretsOK c.g → NoForkSnapshot c → c.g.recNid = c.g.nid →
    Siblings c S → (∀ e ∈ l, e ∈ S) → l ≠ [] →
    ∃ w ∈ l, (∀ e ∈ l, e = w ∨ klt (key w) (key e) = true) ∧
      (l.foldl (fun c e => (deliver c e nx).1) c).g.path = c.g.path ++ [w.cipher]

def cA : Ev := { n := 1, ts := 20, idnum := 7, cipher := 1, sender := 1, path := [], kind := .commit .selfUpdate [] }
def cB : Ev := { n := 2, ts := 19, idnum := 9, cipher := 2, sender := 0, path := [], kind := .commit (.setData { initData [0, 1] 1 with name := 4 }) [] }
def cC : Ev := { n := 3, ts := 19, idnum := 11, cipher := 3, sender := 0, path := [], kind := .commit (.setData { initData [0, 1] 1 with name := 5 }) [] }
def by0 (retention : Nat) : Cl := initCl 2 false retention [0, 1, 2] [0, 1] 1

/-- a commit by an admin, or a pure self-update -/
def authCommit (admins : List Nat) (e : Ev) : Bool :=
  match e.kind with
  | .commit b sw => admins.contains e.sender || isPureSelfUpdate b sw
  | _ => false

theorem authCommit_iff {admins : List Nat} {e : Ev} : authCommit admins e = true ↔
    ∃ b sw, e.kind = .commit b sw ∧ (admins.contains e.sender || isPureSelfUpdate b sw) = true := by
  unfold authCommit
  cases hk : e.kind with
  | commit b sw => exact ⟨fun h => ⟨b, sw, rfl, h⟩, fun ⟨_, _, hk', h⟩ => by cases hk'; exact h⟩
  | app m t k => exact ⟨fun h => (by cases h), fun ⟨_, _, hk', _⟩ => by cases hk'⟩
  | leave => exact ⟨fun h => (by cases h), fun ⟨_, _, hk', _⟩ => by cases hk'⟩

/-- the id is not rotated and `me` is not removed (decidable forms of `keepsId` / `keepsMe`) -/
def keepsIdB (nid : Nat) (e : Ev) : Bool :=
  match e.kind with
  | .commit (.setData d) _ => d.nid == nid
  | _ => true

def keepsMeB (me : Nat) (e : Ev) : Bool :=
  match e.kind with
  | .commit b sw => !(removesMe me b sw)
  | _ => true

theorem keepsIdB_iff {nid : Nat} {e : Ev} :
    keepsIdB nid e = true ↔ ∀ d sw, e.kind = .commit (.setData d) sw → d.nid = nid := by
  unfold keepsIdB
  split
  · rename_i d sw hk
    exact ⟨fun h d' sw' hk' => by rw [hk] at hk'; cases hk'; simpa using h, fun h => by simpa using h d sw hk⟩
  · rename_i hne
    exact ⟨fun _ d sw hk => absurd hk (hne d sw), fun _ => rfl⟩

theorem keepsMeB_iff {me : Nat} {e : Ev} :
    keepsMeB me e = true ↔ ∀ b sw, e.kind = .commit b sw → removesMe me b sw = false := by
  unfold keepsMeB
  split
  · rename_i b sw hk
    exact ⟨fun h b' sw' hk' => by rw [hk] at hk'; cases hk'; simpa using h, fun h => by simpa using h b sw hk⟩
  · rename_i hne
    exact ⟨fun _ b sw hk => absurd hk (hne b sw), fun _ => rfl⟩

instance (c : Cl) (S : List Ev) : Decidable (SiblingsCore c S) :=
  decidable_of_iff
    ((∀ e ∈ S, e.path = c.g.path ∧ authCommit c.g.admins e = true ∧ e.sender ≠ c.id ∧ e.ts ≠ 0 ∧ getRec c e.n = none ∧
        e.cipher ∉ c.g.consumed ∧ e.tag = c.g.recNid) ∧
      ∀ e1 ∈ S, ∀ e2 ∈ S, e1 ≠ e2 → e1.n ≠ e2.n ∧ (e1.ts, e1.idnum) ≠ (e2.ts, e2.idnum) ∧ e1.cipher ≠ e2.cipher)
    ⟨fun ⟨h, hd⟩ => ⟨fun e he => (h e he).1, fun e he => authCommit_iff.mp (h e he).2.1, fun e he => (h e he).2.2.1,
        fun e he => (h e he).2.2.2.1, hd, fun e he => (h e he).2.2.2.2.1, fun e he => (h e he).2.2.2.2.2.1,
        fun e he => (h e he).2.2.2.2.2.2⟩,
     fun h => ⟨fun e he => ⟨h.path e he, authCommit_iff.mpr (h.kind e he), h.foreign e he, h.ts e he, h.unseen e he,
        h.unconsumed e he, h.tag e he⟩, h.distinct⟩⟩

instance (c : Cl) (S : List Ev) : Decidable (Siblings c S) :=
  decidable_of_iff (SiblingsCore c S ∧ ∀ e ∈ S, keepsIdB c.g.recNid e = true ∧ keepsMeB c.id e = true)
    ⟨fun ⟨h, hk⟩ => ⟨h, fun e he => keepsIdB_iff.mp (hk e he).1, fun e he => keepsMeB_iff.mp (hk e he).2⟩,
     fun h => ⟨h.toSiblingsCore, fun e he => ⟨keepsIdB_iff.mpr (h.keepsId e he), keepsMeB_iff.mpr (h.keepsMe e he)⟩⟩⟩

/-- of two delivered siblings the one that is not worse is the winner the theorem speaks of -/
theorem second_wins {a b : Ev} {P : Ev → Prop} (hlt : klt (key a) (key b) = false) (hne : a ≠ b)
    (h : ∃ w ∈ [a, b], (∀ e ∈ [a, b], e = w ∨ klt (key w) (key e) = true) ∧ P w) : P b := by
  obtain ⟨w, hw, hmin, hp⟩ := h
  rcases List.mem_cons.mp hw with rfl | hw
  · rcases hmin b (by simp) with x | x
    · exact absurd x.symm hne
    · rw [hlt] at x; cases x
  · exact List.mem_singleton.mp hw ▸ hp

theorem by0_secrets (r : Nat) : SecretsOK (by0 r).g := by intro ep q h; simp [by0, initCl, initG, alookup] at h
theorem by0_nosnap (r : Nat) : NoForkSnapshot (by0 r) := by intro s hs; simp [by0, initCl] at hs

theorem by0_siblings5 : Siblings (by0 5) [cA, cB, cC] := by decide

theorem by0_siblings0 : Siblings (by0 0) [cA, cB, cC] := by decide

/-- `retention-zero-no-rollback`: A then the better B with retention 0 — the client stays on A -/
theorem witness_retention_zero :
    ([cA, cB].foldl (fun c e => (deliver c e 0).1) (by0 0)).g.path = [1] ∧
    ([cA, cB].foldl (fun c e => (deliver c e 0).1) (by0 5)).g.path = [2] := by decide +kernel

theorem single_fork_bystander_full_false : ¬ single_fork_bystander_full := by
  intro h
  have hpath := second_wins (b := cB) (by decide) (by decide) (h (by0 0) [cA, cB, cC] [cA, cB] 0 rfl rfl (by0_secrets 0) (by0_nosnap 0) rfl by0_siblings0
    (by decide) (by decide))
  rw [witness_retention_zero.1] at hpath
  revert hpath; decide

/-- non-vacuity: three siblings, a four-element delivery list with a repetition; the theorem applies
    (its hypotheses hold) and its conclusion is the MIP-03 winner B (ts 19, id 9 < C: ts 19, id 11 < A: ts 20) -/
example : ∃ w ∈ [cA, cC, cA, cB], ([cA, cC, cA, cB].foldl (fun c e => (deliver c e 0).1) (by0 5)).g.path = (by0 5).g.path ++ [w.cipher] := by
  obtain ⟨w, hw, _, hp, _⟩ := single_fork_bystander (by0 5) [cA, cB, cC] [cA, cC, cA, cB] 0 rfl rfl (by decide)
    (by0_secrets 5) (by0_nosnap 5) rfl by0_siblings5 (by decide) (by decide)
  exact ⟨w, hw, hp⟩

example : ([cA, cC, cA, cB].foldl (fun c e => (deliver c e 0).1) (by0 5)).g.path = [2] ∧
    ([cA, cC, cA, cB].foldl (fun c e => (deliver c e 0).1) (by0 5)).g.name = 4 ∧
    (getRec ([cA, cC, cA, cB].foldl (fun c e => (deliver c e 0).1) (by0 5)) 1).map (·.state) = some 4 ∧
    (getRec ([cA, cC, cA, cB].foldl (fun c e => (deliver c e 0).1) (by0 5)) 3).map (·.state) = some 4 := by decide +kernel

/-! ### the excluded case: a sibling that rotates the nostr group id

  Incoming events are looked up by their `h` tag among the ids in the stored records (`find_group_by_nostr_group_id`).
  Once the client has applied a sibling that ROTATES the id, every other sibling — published under the id of the parent
  state — is refused as `GroupNotFound` before any MIP-03 comparison: the client stays on the rotating sibling whatever
  its rank (finding `h-rotation-in-flight`; replayed by corpus/C01/rotation_fork.trace). -/

/-- the bystander statement for siblings that may rotate the id (`SiblingsCore`: everything but `keepsId`) -/
def single_fork_any_id_full : Prop :=
  ∀ (c : Cl) (S l : List Ev) (nx : Nat), c.hasGroup = true → c.g.active = true → 1 ≤ c.retention → SecretsOK c.g → NoForkSnapshot c →
    c.g.recNid = c.g.nid → SiblingsCore c S → (∀ e ∈ S, ∀ b sw, e.kind = .commit b sw → removesMe c.id b sw = false) →
    (∀ e ∈ l, e ∈ S) → l ≠ [] →
    ∃ w ∈ l, (∀ e ∈ l, e = w ∨ klt (key w) (key e) = true) ∧
      (l.foldl (fun c e => (deliver c e nx).1) c).g.path = c.g.path ++ [w.cipher]

/-- admin 0 rotates the nostr group id (0 → 8), wrapper timestamp 20: loses to `cB` (timestamp 19) by MIP-03 -/
def cR : Ev := { n := 4, ts := 20, idnum := 5, cipher := 4, sender := 0, path := [], kind := .commit (.setData { initData [0, 1] 1 with nid := 8 }) [] }

theorem by0_siblings_rot : SiblingsCore (by0 5) [cR, cB] := by decide

/-- the rotating sibling first, then the MIP-03 winner: not found, recorded Failed without epoch, the client stays -/
theorem witness_rotation_fork :
    (deliver (deliver (by0 5) cR 0).1 cB 0).2 = .err eGroupNotFound ∧
    ([cR, cB].foldl (fun c e => (deliver c e 0).1) (by0 5)).g.path = [4] ∧
    ([cR, cB].foldl (fun c e => (deliver c e 0).1) (by0 5)).g.recNid = 8 ∧
    (getRec ([cR, cB].foldl (fun c e => (deliver c e 0).1) (by0 5)) 2) = some { state := 3, epoch := none, hasGroup := false, mid := none } ∧
    -- the other order is fine: the winner first, then the rotation is an ordinary worse sibling
    ([cB, cR].foldl (fun c e => (deliver c e 0).1) (by0 5)).g.path = [2] := by decide +kernel

theorem single_fork_any_id_full_false : ¬ single_fork_any_id_full := by
  intro h
  have hpath := second_wins (b := cB) (by decide) (by decide) (h (by0 5) [cR, cB] [cR, cB] 0 rfl rfl (by decide) (by0_secrets 5) (by0_nosnap 5) rfl by0_siblings_rot
    (fun e he => keepsMeB_iff.mp ((by decide : ∀ e ∈ [cR, cB], keepsMeB 2 e = true) e he))
    (by decide) (by decide))
  rw [witness_rotation_fork.2.1] at hpath
  revert hpath; decide

/-! ### the excluded case: a sibling that removes the receiver

  `process_commit` merges a commit that removes the receiver's own leaf and marks the group Inactive at once
  (`handle_local_member_eviction`) — whatever the commit's MIP-03 rank.  From then on every event fails before it is
  even opened (`exporter_secret()?` of an inactive group), so a better sibling that arrives later is never compared
  and never rolled back to: the member stays locked out although the branch everybody else converges on still has
  it as a member (finding `evicted-by-losing-commit`; replayed by corpus/C01/evicted_by_losing_commit.trace). -/

/-- the bystander statement for siblings that may remove the receiver (everything but `keepsMe`) -/
def single_fork_any_target_full : Prop :=
  ∀ (c : Cl) (S l : List Ev) (nx : Nat), c.hasGroup = true → c.g.active = true → 1 ≤ c.retention → SecretsOK c.g → NoForkSnapshot c →
    c.g.recNid = c.g.nid → SiblingsCore c S → (∀ e ∈ S, ∀ d sw, e.kind = .commit (.setData d) sw → d.nid = c.g.recNid) →
    (∀ e ∈ l, e ∈ S) → l ≠ [] →
    ∃ w ∈ l, (∀ e ∈ l, e = w ∨ klt (key w) (key e) = true) ∧
      (l.foldl (fun c e => (deliver c e nx).1) c).g.path = c.g.path ++ [w.cipher]

/-- admin 0 removes member 2 (the receiver), wrapper timestamp 20: loses to `cB` (timestamp 19) by MIP-03 -/
def cX : Ev := { n := 4, ts := 20, idnum := 5, cipher := 4, sender := 0, path := [], kind := .commit (.removeLeavers [2]) [] }

theorem by0_siblings_evict : SiblingsCore (by0 5) [cX, cB] := by decide

/-- the removal first, then the MIP-03 winner (in which the receiver is still a member): evicted for good -/
theorem witness_evicted_by_losing_sibling :
    (deliver (by0 5) cX 0).2 = .commit ∧ (deliver (by0 5) cX 0).1.g.active = false ∧
    (deliver (deliver (by0 5) cX 0).1 cB 0).2 = .err eExportSecret ∧
    ([cX, cB].foldl (fun c e => (deliver c e 0).1) (by0 5)).g.path = [4] ∧
    ([cX, cB].foldl (fun c e => (deliver c e 0).1) (by0 5)).g.active = false ∧
    -- the other order: the winner first, the removal is refused as worse, the receiver stays a member
    ([cB, cX].foldl (fun c e => (deliver c e 0).1) (by0 5)).g.path = [2] ∧
    ([cB, cX].foldl (fun c e => (deliver c e 0).1) (by0 5)).g.active = true ∧
    ([cB, cX].foldl (fun c e => (deliver c e 0).1) (by0 5)).g.members = [0, 1, 2] := by decide +kernel

theorem single_fork_any_target_full_false : ¬ single_fork_any_target_full := by
  intro h
  have hpath := second_wins (b := cB) (by decide) (by decide) (h (by0 5) [cX, cB] [cX, cB] 0 rfl rfl (by decide) (by0_secrets 5) (by0_nosnap 5) rfl by0_siblings_evict
    (fun e he => keepsIdB_iff.mp ((by decide : ∀ e ∈ [cX, cB], keepsIdB 0 e = true) e he))
    (by decide) (by decide))
  rw [witness_evicted_by_losing_sibling.2.2.2.1] at hpath
  revert hpath; decide

/-! ### the ciphertext hypotheses are needed too

  OpenMLS consumes the sender's ratchet generation when it decrypts a commit, and mdk snapshots only
  afterwards: the snapshot already holds the consumption.  (a) A sibling whose ciphertext the client has
  consumed before is refused at the parent state.  (b) A re-wrapped copy of the applied commit (same MLS
  ciphertext under a new wrapper with a better MIP-03 key) makes the client roll back — and then fail to
  re-process it (the generation is consumed in the restored state): it is left at the parent state with
  nothing applied (open finding, replayed by corpus/C06/rewrapped_commit.trace). -/

def cBre : Ev := { cB with n := 9, idnum := 3 }

theorem witness_consumed_cipher :
    (deliver { by0 5 with g := { (by0 5).g with consumed := [2] } } cB 0).2 = .unprocessable ∧
    (deliver { by0 5 with g := { (by0 5).g with consumed := [2] } } cB 0).1.g.path = [] := by decide

theorem witness_rewrapped_sibling :
    ([cB, cBre].foldl (fun c e => (deliver c e 0).1) (by0 5)).g.path = [] ∧
    (getRec ([cB, cBre].foldl (fun c e => (deliver c e 0).1) (by0 5)) 2).map (·.state) = some 4 := by decide +kernel

/-! ### the committer: its own staged commit among the siblings, applied on relay echo

  The client has staged a commit `o` (pending, record ProcessedCommit of the parent epoch — exactly
  what `stageCommit` leaves, `stage_own_commit`) and applies it when the relay echoes it, like any
  other sibling.  The echo takes the snapshot BEFORE merging the pending commit, so the saved state
  still holds the pending commit: after a rollback it is back and a later echo can merge it.  A
  foreign sibling applied first clears the pending commit (openmls merges over it); the snapshot
  taken then holds it too.  The own commit is never recorded Failed: offered while a better sibling
  is applied it is answered from its record and nothing changes.  The other way of applying one's
  own commit — `merge_pending_commit` at once, which takes NO snapshot — is the excluded case:
  `Props.C01.witness_immediate_merge` / `single_fork_full_false` (finding
  `immediate-merge-no-snapshot`). -/

structure OwnCommit (c : Cl) (o : Ev) : Prop where
  path : o.path = c.g.path
  kind : ∃ b sw, o.kind = .commit b sw
  own : o.sender = c.id
  ts : o.ts ≠ 0
  pending : c.g.pending = some o
  record : getRec c o.n = some { state := 2, epoch := some (epochOf c.g.path), hasGroup := true, mid := none }
  tag : o.tag = c.g.recNid
  keepsId : ∀ d sw, o.kind = .commit (.setData d) sw → d.nid = c.g.recNid
  keepsMe : ∀ b sw, o.kind = .commit b sw → removesMe c.id b sw = false

theorem secretsOK_ensure (g : GState) (h : SecretsOK g) : SecretsOK (ensureSecret g) := secOK_ensure g h

/-- `self_update` / `update_group_data` (stage + publish) establishes the committer's hypotheses — for a
    commit that does not rotate the nostr group id -/
theorem stage_own_commit (c : Cl) (n ts idn : Nat) (b : Body) (na : Bool) (o : Ev)
    (hts : ts ≠ 0) (hsec : SecretsOK c.g) (hm : NoForkSnapshot c)
    (hk : ∀ d, b = .setData d → d.nid = c.g.recNid) (hme : removesMe c.id b c.g.props = false)
    (h : (stageCommit c n ts idn b na).2 = .ev o) :
    OwnCommit (stageCommit c n ts idn b na).1 o ∧ SecretsOK (stageCommit c n ts idn b na).1.g ∧
    NoForkSnapshot (stageCommit c n ts idn b na).1 ∧ (stageCommit c n ts idn b na).1.g.path = c.g.path ∧
    (stageCommit c n ts idn b na).1.g.recNid = c.g.recNid ∧ (stageCommit c n ts idn b na).1.g.nid = c.g.nid := by
  have hst := (stageCommit_ev c n ts idn b na o h).1
  rw [hst] at h ⊢
  cases h
  refine ⟨⟨rfl, ⟨b, _, rfl⟩, rfl, hts, rfl, Store.alookup_ainsert_self _ _ _, rfl, ?_, ?_⟩,
    secretsOK_ensure c.g hsec, ?_, ensureSecret_path _, ensureSecret_recNid _, ensureSecret_nid _⟩
  · intro d sw hd
    cases hd
    exact (hk d rfl).trans (ensureSecret_recNid _).symm
  · intro b' sw' hd
    cases hd
    exact (congrArg (removesMe c.id b) (ensureSecret_props c.g)).trans hme
  · intro s hs
    exact fun x => hm s hs (x.trans (congrArg epochOf (ensureSecret_path c.g)))

theorem sibs2_of (c : Cl) (o : Ev) (S : List Ev) (hn : c.g.recNid = c.g.nid) (ho : OwnCommit c o) (h : Siblings c S)
    (hd : ∀ e ∈ S, e.n ≠ o.n ∧ (e.ts, e.idnum) ≠ (o.ts, o.idnum)) : Sibs2 c o S where
  own := ⟨ho.path, ho.kind, by simp [ho.own], ho.ts, ho.pending, ho.record, ho.tag,
    fun b sw hk => keeps_nid c hn b (fun d hd => ho.keepsId d sw (by rw [hk, hd])), ho.keepsMe⟩
  sib := (sibs_of c S hn h).sib
  cinj := (sibs_of c S hn h).cinj
  inj := by
    intro e1 h1 e2 h2 hk
    rcases List.mem_cons.mp h1 with rfl | h1' <;> rcases List.mem_cons.mp h2 with rfl | h2'
    · rfl
    · obtain ⟨a, b⟩ := hd e2 h2'
      rcases hk with y | y
      · exact absurd y.symm a
      · exact absurd y.symm b
    · obtain ⟨a, b⟩ := hd e1 h1'
      rcases hk with y | y
      · exact absurd y a
      · exact absurd y b
    · exact (sibs_of c S hn h).inj e1 h1' e2 h2' hk
  norec := h.unseen

/-- **single_fork (committer, own commit applied on echo)**: for every delivery list over the own
    commit and the foreign siblings — any order, any repetition — the client ends on the MIP-03
    minimum `w` of the delivered ones, with `w`'s group state (no pending commit left), `w`'s record
    ProcessedCommit, and every other delivered FOREIGN sibling blocked -/
theorem single_fork_committer (c : Cl) (o : Ev) (S : List Ev) (l : List Ev) (nx : Nat)
    (hg : c.hasGroup = true) (ha : c.g.active = true) (hr : 1 ≤ c.retention) (hsec : SecretsOK c.g) (hm : NoForkSnapshot c)
    (hn : c.g.recNid = c.g.nid)
    (ho : OwnCommit c o) (hS : Siblings c S)
    (hd : ∀ e ∈ S, e.n ≠ o.n ∧ (e.ts, e.idnum) ≠ (o.ts, o.idnum))
    (hl : ∀ e ∈ l, e ∈ o :: S) (hne : l ≠ []) :
    ∃ w ∈ l, (∀ e ∈ l, e = w ∨ klt (key w) (key e) = true) ∧
      (l.foldl (fun c e => (deliver c e nx).1) c).g.path = c.g.path ++ [w.cipher] ∧
      wc (l.foldl (fun c e => (deliver c e nx).1) c).g [] = wc (childG c w) [] ∧
      (l.foldl (fun c e => (deliver c e nx).1) c).g.pending = none ∧
      (getRec (l.foldl (fun c e => (deliver c e nx).1) c) w.n).map (·.state) = some 2 ∧
      ∀ e ∈ l, e ≠ w → e ≠ o → ∃ r, getRec (l.foldl (fun c e => (deliver c e nx).1) c) e.n = some r ∧ (r.state = 3 ∨ r.state = 4) := by
  have hb := base_of c hg ha hr hsec hm
  obtain ⟨w, hw, hcw, hmin, hcf, hrw, hblk⟩ := fork_run c hb [o] S (sibs2_of c o S hn ho hS hd).toG nx l hl hne
  obtain ⟨bw, sww, hkw⟩ := hcw.kind
  refine ⟨w, hw, hmin, (congrArg GState.path hcf.g).trans (childG_facts c hb w hcw).1, (congrArg (wc · []) hcf.g).trans (wc_wc _ _ _),
    (congrArg GState.pending hcf.g).trans (childG_data c w bw sww hkw).2.2.1, congrArg (Option.map (·.state)) hrw,
    fun e he hne' hno => ?_⟩
  · obtain ⟨r, hr', hbr⟩ := hblk e he hne' (fun x => hno (List.mem_singleton.mp x))
    exact ⟨r, hr', hbr.1⟩

/-- non-vacuity: client 1 stages a self-update (ts 20), two foreign siblings B (ts 19, id 9) and
    C (ts 19, id 11); every order — own echo first, last, or in between, with repetitions — ends on B -/
def com0 : Cl := initCl 1 false 5 [0, 1, 2] [0, 1] 1
def own1 : Ev := { n := 1, ts := 20, idnum := 7, cipher := 1, sender := 1, path := [], kind := .commit .selfUpdate [] }
def comS : Cl := (stageCommit com0 1 20 7 .selfUpdate false).1

example : (stageCommit com0 1 20 7 .selfUpdate false).2 = .ev own1 := by decide

example : ([own1, cC, own1, cB].foldl (fun c e => (deliver c e 0).1) comS).g.path = [2] ∧
    ([cC, own1, cB, own1].foldl (fun c e => (deliver c e 0).1) comS).g.path = [2] ∧
    ([cB, own1, cC].foldl (fun c e => (deliver c e 0).1) comS).g.path = [2] ∧
    ([cC, own1].foldl (fun c e => (deliver c e 0).1) comS).g.path = [3] ∧
    ([own1, own1].foldl (fun c e => (deliver c e 0).1) comS).g.path = [1] ∧
    ([own1, cC, own1, cB].foldl (fun c e => (deliver c e 0).1) comS).g.pending = none := by decide +kernel

/-! ### the state hypotheses are invariants (DESIGN `secrets_follow_path`)

  `SecretsOK` and `NoForkSnapshot` hold of every client state reachable from a fresh group by ANY
  sequence of API calls — deliveries with all their branches incl. rollback and re-processing,
  create_message, commit staging, leave, merge / clear pending commit, restart (`Proofs/ForkInv.lean`:
  `HInv`, which also covers every state saved in a snapshot and the ordering of the snapshot queue). -/

theorem reachable_hinv (id : Nat) (p : Bool) (r : Nat) (ms as : List Nat) (name : Nat) (ops : List C08.COp) :
    HInv (ops.foldl C08.cstep (initCl id p r ms as name)) := by
  exact foldl_invariant (C08.cstep_keeps (hinv_deliverN 3) hinv_join (fun _ _ => hinv_local)) ops _ (hinv_init id p r ms as name)

/-- **secrets_follow_path**: after every history, every stored exporter secret (current state and every
    snapshot) is the secret of a prefix of that state's path under its epoch number, and no snapshot
    of the current epoch exists -/
theorem secrets_follow_path (id : Nat) (p : Bool) (r : Nat) (ms as : List Nat) (name : Nat) (ops : List C08.COp) :
    SecretsOK (ops.foldl C08.cstep (initCl id p r ms as name)).g ∧
    NoForkSnapshot (ops.foldl C08.cstep (initCl id p r ms as name)) ∧
    ∀ s ∈ (ops.foldl C08.cstep (initCl id p r ms as name)).mgr, SecretsOK s.saved := by
  have h := reachable_hinv id p r ms as name ops
  exact ⟨h.sec, fun s hs => Nat.ne_of_lt (h.below s hs), fun s hs => (h.saved s hs).1⟩

/-- hence the bystander theorem for every REACHABLE client state: only the group's presence, the
    retention value and the sibling conditions remain as hypotheses -/
theorem single_fork_reachable (id : Nat) (p : Bool) (r : Nat) (ms as : List Nat) (name : Nat) (ops : List C08.COp)
    (S l : List Ev) (nx : Nat)
    (hg : (ops.foldl C08.cstep (initCl id p r ms as name)).hasGroup = true)
    (ha : (ops.foldl C08.cstep (initCl id p r ms as name)).g.active = true)
    (hr : 1 ≤ (ops.foldl C08.cstep (initCl id p r ms as name)).retention)
    (hS : Siblings (ops.foldl C08.cstep (initCl id p r ms as name)) S) (hl : ∀ e ∈ l, e ∈ S) (hne : l ≠ []) :
    ∃ w ∈ l, (∀ e ∈ l, e = w ∨ klt (key w) (key e) = true) ∧
      (l.foldl (fun c e => (deliver c e nx).1) (ops.foldl C08.cstep (initCl id p r ms as name))).g.path =
        (ops.foldl C08.cstep (initCl id p r ms as name)).g.path ++ [w.cipher] := by
  obtain ⟨h1, h2, _⟩ := secrets_follow_path id p r ms as name ops
  have hn := (C08.sync_inv id p r ms as name ops ha).2.2.2.2.2
  obtain ⟨w, hw, hmin, hp, _⟩ := single_fork_bystander _ S l nx hg ha hr h1 h2 hn hS hl hne
  exact ⟨w, hw, hmin, hp⟩

end MdkVerif.Props.C01Fork
