import MdkVerif.Model.Client
import MdkVerif.Model.Proposal
import MdkVerif.Proofs.Client
import MdkVerif.Proofs.Proposal
import MdkVerif.Model.Identity
import MdkVerif.Proofs.Identity
/-
  C05 — Only admins change roster or group data; identities never change.  Decision logic of
  `process_commit` / `process_proposal` stated outright over the client model (commit contents are the
  model's `Body` + swept proposals; identities are the model's client numbers, which no operation of the
  model rewrites; the LAST SENTENCE of the property — identities bound to leaves, credentials that change, mdk's
  `validate_commit_identities` — has its own model `Model.Identity` and its theorems in section `Identity` at the end of this file).
-/
namespace MdkVerif.Props.C05
open MdkVerif MdkVerif.Client

/-- **accept_iff**: a commit for the receiver's current epoch passes authorisation exactly when its
    MLS-authenticated author is an admin, or it is a pure self-update (an update signal, no proposal
    other than the author's own update, nothing swept in) -/
theorem accept_iff (c : Cl) (e : Ev) (b : Body) (sw : List Nat) :
    (processCommit c e b sw).2 = .commit ↔ (isAdmin c.g e.sender = true ∨ isPureSelfUpdate b sw = true) := by
  unfold processCommit
  cases h : (isAdmin c.g e.sender || isPureSelfUpdate b sw) with
  | true =>
    simp only [Bool.not_true, Bool.false_eq_true, if_false]
    refine ⟨fun _ => by simpa using h, fun _ => ?_⟩
    exact ite_elim (P := fun r : Cl × Res => r.2 = .commit) (fun _ => rfl) (fun _ => rfl)
  | false =>
    simp only [Bool.not_false, if_true]
    rw [Bool.or_eq_false_iff] at h
    refine ⟨fun hh => (nomatch hh), fun hh => ?_⟩
    rcases hh with hh | hh
    · rw [h.1] at hh; cases hh
    · rw [h.2] at hh; cases hh

/-- a rejected commit is reported as `CommitFromNonAdmin` and leaves the projection untouched -/
theorem reject_frame (c : Cl) (e : Ev) (b : Body) (sw : List Nat)
    (h : (isAdmin c.g e.sender || isPureSelfUpdate b sw) = false) :
    (processCommit c e b sw).2 = .err eNonAdmin ∧ proj (processCommit c e b sw).1 = proj c := by
  unfold processCommit
  simp [h]

/-- the group data of an MLS state (the whole `NostrGroupDataExtension` as modelled) and the roster -/
def rosterAndData (g : GState) : List Nat × GData := (g.members, dataOf g)

/-- **nonadmin_effect**: an ACCEPTED commit whose author is not an admin (in the RECEIVER's current state)
    changes neither the member set, nor the admin set, nor any other field of the group data (name,
    description, relays, nostr group id) — in the MLS state and in the stored record alike -/
theorem nonadmin_effect (c : Cl) (e : Ev) (b : Body) (sw : List Nat)
    (hna : isAdmin c.g e.sender = false) (hacc : (processCommit c e b sw).2 = .commit)
    (hk : e.kind = .commit b sw) :
    (processCommit c e b sw).1.g.members = c.g.members ∧ (processCommit c e b sw).1.g.admins = c.g.admins ∧
    (processCommit c e b sw).1.g.name = c.g.name ∧ (processCommit c e b sw).1.g.desc = c.g.desc ∧
    (processCommit c e b sw).1.g.relays = c.g.relays ∧ (processCommit c e b sw).1.g.nid = c.g.nid ∧
    (processCommit c e b sw).1.g.recAdmins = c.g.admins ∧ (processCommit c e b sw).1.g.recName = c.g.name ∧
    (processCommit c e b sw).1.g.recDesc = c.g.desc ∧ (processCommit c e b sw).1.g.recRelays = c.g.relays ∧
    (processCommit c e b sw).1.g.recNid = c.g.nid := by
  have hp : isPureSelfUpdate b sw = true := by
    rcases (accept_iff c e b sw).mp hacc with h | h
    · rw [hna] at h; cases h
    · exact h
  have hb : b = .selfUpdate ∧ sw = [] := by
    cases b <;> simp [isPureSelfUpdate] at hp
    exact ⟨rfl, by simpa using hp⟩
  obtain ⟨rfl, rfl⟩ := hb
  unfold processCommit
  have hme : removesMe c.id .selfUpdate [] = false := rfl
  simp only [hna, hp, hme, Bool.or_true, Bool.not_true, Bool.false_eq_true, if_false]
  simp [setRec, syncRec, mergeCommit, hk, applyBody, mgrCreate]

/-- the same as one equation: roster and group data after = before -/
theorem nonadmin_effect_data (c : Cl) (e : Ev) (b : Body) (sw : List Nat)
    (hna : isAdmin c.g e.sender = false) (hacc : (processCommit c e b sw).2 = .commit)
    (hk : e.kind = .commit b sw) : rosterAndData (processCommit c e b sw).1.g = rosterAndData c.g := by
  obtain ⟨h1, h2, h3, h4, h5, h6, _⟩ := nonadmin_effect c e b sw hna hacc hk
  simp [rosterAndData, dataOf, h1, h2, h3, h4, h5, h6]

theorem admin_commit_ev (c : Cl) (n ts idn : Nat) (b : Body) (e : Ev) (h : (stageCommit c n ts idn b true).2 = .ev e) :
    c.g.active = true ∧ isAdmin c.g c.id = true ∧ c.g.pending = none ∧ e.sender = c.id ∧ e.path = c.g.path ∧
    e.kind = .commit b c.g.props := by
  obtain ⟨hst, ha, hadm, hp⟩ := stageCommit_ev c n ts idn b true e h
  rw [hst] at h
  cases h
  exact ⟨ha, hadm rfl, hp, rfl, ensureSecret_path _, by simp⟩

/-- **data_update_admin_only**: `update_group_data` publishes a commit only if the caller is an admin in its
    OWN current MLS state, a new admin set (if given) is non-empty and consists of current members, and no
    commit is pending; the commit then carries exactly the caller's current extension with the named fields
    replaced (admins / relays as sets) -/
theorem data_update_admin_only (c : Cl) (n ts idn : Nat) (u : DataUpd) (e : Ev)
    (h : (updateData c n ts idn u).2 = .ev e) :
    c.g.active = true ∧ isAdmin c.g c.id = true ∧ c.g.pending = none ∧
    (∀ a, u.admins = some a → a ≠ [] ∧ ∀ x ∈ a, x ∈ c.g.members) ∧
    e.sender = c.id ∧ e.path = c.g.path ∧
    e.kind = .commit (.setData (applyUpd (dataOf c.g) u)) c.g.props := by
  unfold updateData at h
  obtain ⟨_, h⟩ := ev_of_ite_err h
  obtain ⟨hv, h⟩ := ev_of_ite_err h
  obtain ⟨h1, h2, h3, h4, h5, h6⟩ := admin_commit_ev c n ts idn _ e h
  refine ⟨h1, h2, h3, fun a ha => ?_, h4, h5, h6⟩
  have hv : adminUpdateOk c.g a = true := by simpa [adminsArgBad, ha] using hv
  simp only [adminUpdateOk, Bool.and_eq_true, Bool.not_eq_true', List.all_eq_true] at hv
  exact ⟨fun h0 => by subst h0; simp at hv, fun x hx => by simpa using hv.2 x hx⟩

/-- **roster_change_admin_only**: `add_members` / `remove_members` publish a commit only if the caller is an
    active member and an admin in its OWN current MLS state and no commit is pending; an add needs a stored relay and
    nobody who is a member already; a removal names exactly the listed members that ARE members (at least one) -/
theorem roster_change_admin_only (c : Cl) (n ts idn : Nat) (who : List Nat) (e : Ev) :
    ((addMembers c n ts idn who).2 = .ev e →
      c.g.active = true ∧ isAdmin c.g c.id = true ∧ c.g.pending = none ∧ c.g.recRelays ≠ [] ∧
      (∀ x ∈ who, x ∉ c.g.members) ∧ e.kind = .commit (.addMembers who) c.g.props) ∧
    ((removeMembers c n ts idn who).2 = .ev e →
      c.g.active = true ∧ isAdmin c.g c.id = true ∧ c.g.pending = none ∧
      who.filter (fun m => c.g.members.contains m) ≠ [] ∧
      e.kind = .commit (.removeLeavers (who.filter (fun m => c.g.members.contains m))) c.g.props) := by
  constructor
  · intro h
    unfold addMembers at h
    obtain ⟨_, h⟩ := ev_of_ite_err h
    obtain ⟨_, h⟩ := ev_of_ite_err h
    obtain ⟨_, h⟩ := ev_of_ite_err h
    obtain ⟨hrel, h⟩ := ev_of_ite_err h
    obtain ⟨hany, h⟩ := ev_of_ite_err h
    obtain ⟨h1, h2, h3, _, _, h6⟩ := admin_commit_ev c n ts idn _ e h
    exact ⟨h1, h2, h3, by simpa using hrel, by simpa using hany, h6⟩
  · intro h
    unfold removeMembers at h
    obtain ⟨_, h⟩ := ev_of_ite_err h
    obtain ⟨_, h⟩ := ev_of_ite_err h
    obtain ⟨_, h⟩ := ev_of_ite_err h
    obtain ⟨hemp, h⟩ := ev_of_ite_err h
    obtain ⟨h1, h2, h3, _, _, h6⟩ := admin_commit_ev c n ts idn _ e h
    exact ⟨h1, h2, h3, by simpa using hemp, h6⟩

/-- **joiner_state**: the state a welcome gives the new member is the inviter's post-commit state — the same path,
    roster (old members, the added ones, minus the swept leavers), group data and record epoch every receiver of
    the add commit reaches (`childG`) — with nothing of the past: no stored exporter secret, no past-epoch secrets,
    nothing consumed, queued or pending -/
theorem joiner_state (c : Cl) (e : Ev) (who sw : List Nat) (hk : e.kind = .commit (.addMembers who) sw) :
    let j := welcomeState c.maxPast (ensureSecret c.g) e
    j.path = c.g.path ++ [e.cipher] ∧
    j.members = (c.g.members ++ who.filter (fun m => !(c.g.members.contains m))).filter (fun m => !(sw.contains m)) ∧
    dataOf j = dataOf c.g ∧ Synced j ∧ j.active = true ∧
    j.secrets = [] ∧ j.past = [] ∧ j.consumed = [] ∧ j.props = [] ∧ j.pending = none := by
  refine ⟨?_, ?_, ?_, ?_, rfl, rfl, rfl, rfl, rfl, rfl⟩
  · simp [welcomeState, joinState, syncRec, mergeCommit, hk, applyBody]
  · simp [welcomeState, joinState, syncRec, mergeCommit, hk, applyBody]
  · simp [welcomeState, joinState, syncRec, mergeCommit, hk, applyBody, dataOf]
  · have := synced_syncRec (mergeCommit c.maxPast (ensureSecret c.g) e)
    simpa [welcomeState, joinState, Synced] using this

/-- epoch / MLS state, roster and group data: what no proposal changes -/
def core (g : GState) : Path × List Nat × GData := (g.path, rosterAndData g)

theorem core_fields {g g' : GState} (h : core g' = core g) :
    g'.path = g.path ∧ g'.members = g.members ∧ g'.admins = g.admins ∧ g'.name = g.name ∧
    g'.desc = g.desc ∧ g'.relays = g.relays ∧ g'.nid = g.nid := by
  simp only [core, rosterAndData, dataOf, Prod.mk.injEq, GData.mk.injEq] at h
  exact ⟨h.1, h.2.1, h.2.2.2.2.1, h.2.2.1, h.2.2.2.1, h.2.2.2.2.2.1, h.2.2.2.2.2.2⟩

@[simp] theorem core_ensureSecret (g : GState) : core (ensureSecret g) = core g := by simp [core, rosterAndData, dataOf]

theorem core_ownMessage (c : Cl) (e : Ev) : core (ownMessage c e).1.g = core c.g := by
  have hs := ownMessage_spec c e
  generalize ownMessage c e = r at hs
  cases hs <;> rfl

theorem core_queueLeave (c : Cl) (e : Ev) : core (queueLeave c e).1.g = core c.g := rfl
theorem core_autoCommit (nx : Nat) (c : Cl) (e : Ev) : core (autoCommit nx c e).1.g = core c.g := core_ensureSecret _

/-- **proposal_inert**: a processed leave proposal never changes epoch, members, admins or data by
    itself; a non-admin receiver only queues it -/
theorem proposal_inert (retry : Cl → Option (Cl × Res)) (nx : Nat) (c : Cl) (e : Ev) (hk : e.kind = .leave) :
    (step1 retry nx c e).1.g.path = c.g.path ∧ (step1 retry nx c e).1.g.members = c.g.members ∧
    (step1 retry nx c e).1.g.admins = c.g.admins ∧ (step1 retry nx c e).1.g.name = c.g.name ∧
    (step1 retry nx c e).1.g.desc = c.g.desc ∧ (step1 retry nx c e).1.g.relays = c.g.relays ∧
    (step1 retry nx c e).1.g.nid = c.g.nid := by
  have hs := step1_spec retry (R := fun _ _ => True) (fun _ _ _ => trivial) nx c e
  generalize step1 retry nx c e = r at hs
  have hw : core (withSecret c).g = core c.g := core_ensureSecret c.g
  refine core_fields ?_
  cases hs with
  | unrouted | evicted => rfl
  | «sealed» | refused => exact hw
  | own => exact (core_ownMessage _ e).trans hw
  | autoCommitted => exact (core_autoCommit ..).trans hw
  | queued => exact (core_queueLeave ..).trans hw
  | echoed _ hc | retried _ hc | mergedOwn _ hc | committed _ hc | stored _ hc => rw [hk] at hc; cases hc

/-- the known sweep: a commit staged by an admin carries every queued proposal, whoever made it
    (openmls commit builders consume the proposal store) — the full "an admin's operation changes
    exactly what it names" is therefore false of the code; witness: a queued leave of member 2 is
    carried out by an unrelated rename -/
def admin_op_exact_full : Prop :=
  ∀ (c : Cl) (n ts idn : Nat) (u : DataUpd), ∀ e, (updateData c n ts idn u).2 = .ev e →
    e.kind = .commit (.setData (applyUpd (dataOf c.g) u)) []

theorem admin_op_exact_partial (c : Cl) (n ts idn : Nat) (u : DataUpd) (e : Ev) (hp : c.g.props = [])
    (h : (updateData c n ts idn u).2 = .ev e) : e.kind = .commit (.setData (applyUpd (dataOf c.g) u)) [] := by
  rw [(data_update_admin_only c n ts idn u e h).2.2.2.2.2.2, hp]

def wAdmin : Cl := { initCl 0 false 5 [0, 1, 2] [0] 1 with g := { (initG [0, 1, 2] [0] 1) with props := [2] } }
theorem admin_op_exact_full_false : ¬ admin_op_exact_full := by
  intro h
  have := h wAdmin 5 10 10 { name := some 9 } { n := 5, ts := 10, idnum := 10, cipher := 5, sender := 0, path := [], kind := .commit (.setData { initData [0] 1 with name := 9 }) [2] } (by decide)
  revert this; decide

/-! ### the admin set can change: authorisation follows the receiver's CURRENT state -/

/-- admins 0 and 1; admin 0 demotes 1 (new admin set [0]); afterwards a rename by 1 — created by the
    demoted client in the new epoch, e.g. with the MLS library directly — is refused, while the same client's
    pure self-update is still accepted -/
def wTwo : Cl := initCl 2 false 5 [0, 1, 2] [0, 1] 1
def wDemote : Ev := { n := 1, ts := 10, idnum := 5, cipher := 1, sender := 0, path := [], kind := .commit (.setData { initData [0] 1 with name := 1 }) [] }
def wLateRename : Ev := { n := 2, ts := 20, idnum := 6, cipher := 2, sender := 1, path := [1], kind := .commit (.setData { initData [0, 1] 1 with name := 7 }) [] }
def wLateUpdate : Ev := { n := 3, ts := 20, idnum := 7, cipher := 3, sender := 1, path := [1], kind := .commit .selfUpdate [] }
theorem witness_demoted_admin_refused :
    (deliver wTwo wDemote 0).2 = .commit ∧ (deliver wTwo wDemote 0).1.g.admins = [0] ∧
    (deliver (deliver wTwo wDemote 0).1 wLateRename 0).2 = .err eNonAdmin ∧
    (deliver (deliver wTwo wDemote 0).1 wLateRename 0).1.g.admins = [0] ∧
    (deliver (deliver wTwo wDemote 0).1 wLateUpdate 0).2 = .commit := by decide

/-- … and a member promoted by an admin's commit may change the data from the next epoch on -/
def wPromote : Ev := { n := 1, ts := 10, idnum := 5, cipher := 1, sender := 0, path := [], kind := .commit (.setData (initData [0, 1] 1)) [] }
def wOne : Cl := initCl 2 false 5 [0, 1, 2] [0] 1
theorem witness_promoted_member_accepted :
    (deliver wOne { wLateRename with path := [] } 0).2 = .err eNonAdmin ∧
    (deliver (deliver wOne wPromote 0).1 wLateRename 0).2 = .commit ∧
    (deliver (deliver wOne wPromote 0).1 wLateRename 0).1.g.name = 7 := by decide

/-! ## Proposals: `process_proposal` for every proposal type, and what commit builders sweep (Model/Proposal.lean)

    The theorems above speak about `Model.Client` (leave proposals only, every referenced proposal held).  From here on the
    model is `Model.Proposal`: the world engine's driver runs it on every generated history, with stand-alone Remove / Add /
    GroupContextExtensions / PSK / Update proposals crafted by members with the MLS library. -/
section Proposals
open MdkVerif.Proposal

/-- the auto-commit can be built: no commit is pending and nothing queued (after storing the proposal) removes the receiver -/
def canBuild (c : Cl) (e : Ev) (p : PK) : Bool := !(c.g.pending.isSome) && !(storeRemoves (storeProp c.g e.sender p) c.id)

/-- **nonadmin_proposal_refused_kinds** — the decision table of `process_proposal`, as equivalences.  The PROPOSER's role
    appears nowhere: only the proposal's type, whether it names its own sender, and whether the RECEIVER is an admin.
    * ignored (nothing stored): Update, GroupContextExtensions, everything else;
    * auto-committed: a member's own Remove at an admin receiver that can build the commit;
    * stored pending: every Add; every Remove of somebody else; a member's own Remove at a non-admin receiver — and (since
      repair 0339cde, regenerated fact `autoCommitChecksBeforeStore`) at an admin receiver that cannot build the commit;
    * `process_proposal` never fails: no proposal is answered `Unprocessable` by it. -/
theorem nonadmin_proposal_refused_kinds (nx : Nat) (c : Cl) (e : Ev) (p : PK) :
    ((processProposal nx c e p).2 = .ignored ↔ (p = .update ∨ p = .gce ∨ p = .other)) ∧
    ((processProposal nx c e p).2 = .pending ↔
        ((∃ w, p = .add w) ∨ ∃ t, p = .remove t ∧ ¬ (t = e.sender ∧ isAdmin c.g c.id = true ∧ canBuild c e p = true))) ∧
    ((∃ ne, (processProposal nx c e p).2 = .proposalCommitted ne) ↔
        (p = .remove e.sender ∧ isAdmin c.g c.id = true ∧ canBuild c e p = true)) ∧
    (processProposal nx c e p).2 ≠ .unprocessable := by
  cases p with
  | update | gce | other | add w => simp [processProposal]
  | remove t =>
    by_cases ht : t = e.sender
    · subst ht
      -- `canBuild` is the negation of the test `auto_commit_proposal` makes (storing a proposal leaves the pending commit alone)
      have hcb : ((storeProp c.g e.sender (.remove e.sender)).pending.isSome ||
          storeRemoves (storeProp c.g e.sender (.remove e.sender)) c.id) = !canBuild c e (.remove e.sender) := by
        simp [canBuild, storeProp_pending]
      cases ha : isAdmin c.g c.id <;> cases hb : canBuild c e (.remove e.sender) <;>
        simp [processProposal, ha, hcb, hb, checksFirst, Generated.autoCommitChecksBeforeStore]
    · have ht' : (t == e.sender) = false := by simpa using ht
      simp [processProposal, ht', ht]

/-- the fact the last two rows rest on, re-extracted from messages/proposal.rs on every run: `auto_commit_proposal` decides
    whether the commit can be built BEFORE it stores the proposal (reverting repair 0339cde makes this — and the table — fail) -/
theorem auto_commit_checks_first : Generated.autoCommitChecksBeforeStore = true := by decide

/-- … in particular a NON-admin member's Remove of another member, and anybody's Add, are stored in the proposal store of
    every receiver — admin or not — where the next commit builder finds them (the real code does NOT keep the store to
    members' own requests) -/
theorem foreign_proposal_stored (nx : Nat) (c : Cl) (e : Ev) (t : Nat) (ht : t ≠ e.sender) :
    (processProposal nx c e (.remove t)).2 = .pending ∧ QP.rm e.sender t ∈ (processProposal nx c e (.remove t)).1.g.xq ∧
    ∀ w, (processProposal nx c e (.add w)).2 = .pending ∧ QP.add e.sender w ∈ (processProposal nx c e (.add w)).1.g.xq := by
  have ht' : (t == e.sender) = false := by simpa using ht
  refine ⟨by simp [processProposal, ht'], by simp [processProposal, ht', storeProp, setRec], ?_⟩
  intro w
  exact ⟨by simp [processProposal], by simp [processProposal, storeProp, setRec]⟩

/-- **auto_commit_only_self_leave** — the only proposal a receiver turns into a commit by itself is a member's Remove of
    ITS OWN leaf, and only an admin receiver with no commit pending does so.  The staged commit is the receiver's, created
    in its current state, carries no change of its own, and references exactly the store: the sender's leave, the leaves
    queued before (`who`: m ∈ who ↔ m = sender ∨ m queued), never the receiver itself — and whatever else is queued
    (`sweptX` = the foreign proposals in the store: see `auto_commit_exact`) -/
theorem auto_commit_only_self_leave (nx : Nat) (c : Cl) (e : Ev) (p : PK) (ne : Ev)
    (h : (processProposal nx c e p).2 = .proposalCommitted ne) :
    p = .remove e.sender ∧ isAdmin c.g c.id = true ∧ c.g.pending = none ∧
    ne.sender = c.id ∧ ne.path = c.g.path ∧ ne.kind = .commit .selfUpdate ((e.sender :: c.g.props).eraseDups) ∧
    ne.sweptX = c.g.xq ∧ (processProposal nx c e p).1.g.pending = some ne ∧
    (∀ m, m ∈ (e.sender :: c.g.props).eraseDups ↔ (m = e.sender ∨ m ∈ c.g.props)) ∧
    c.id ∉ (e.sender :: c.g.props).eraseDups ∧ c.id ∉ xTargets c.g.xq := by
  have hs := processProposal_spec nx c e p
  generalize processProposal nx c e p = r at hs h ⊢
  cases hs with
  | ignored | stored | failed => cases h
  | autoCommitted hp ha hpend hsr =>
    cases h
    subst hp
    simp only [storeRemoves, storeProp, beq_self_eq_true, if_true, Bool.or_eq_false_iff] at hsr
    exact ⟨rfl, ha, hpend, rfl, by simp [autoCommitEv, storeProp], by simp [autoCommitEv, storeProp],
      by simp [autoCommitEv, storeProp], by simp [autoCommitP, setRec], by intro m; simp, by simpa using hsr.1, by simpa using hsr.2⟩

/-- what merging that commit does to the roster: the leavers go; and — the part that is NOT a member's own request — so does
    every target of a queued foreign Remove, and everybody a queued Add names comes in -/
theorem auto_commit_exact (c : Cl) (g1 : GState) (nx mp : Nat) (g : GState) :
    (mergeCommitP mp g (autoCommitEv c g1 nx)).members = applyX (g.members.filter (fun m => !(g1.props.contains m))) g1.xq := by
  simp [mergeCommitP, mergeCommit, autoCommitEv, applyBody]

/-- with nothing foreign queued the auto-commit removes EXACTLY the members that asked to leave -/
theorem auto_commit_exact_partial (c : Cl) (g1 : GState) (nx mp : Nat) (g : GState) (hx : g1.xq = []) :
    (mergeCommitP mp g (autoCommitEv c g1 nx)).members = g.members.filter (fun m => !(g1.props.contains m)) := by
  rw [auto_commit_exact, hx, applyX_nil]

/-- the full statement — "an automatic commit removes only members that asked to leave and adds nobody" — is FALSE of the
    code: a queued foreign proposal is carried out by the admin's auto-commit of somebody else's leave
    (finding autocommit-sweeps-foreign-proposal, corpus/C05/autocommit_sweeps_foreign.trace) -/
def auto_commit_exact_full : Prop :=
  ∀ (nx : Nat) (c : Cl) (x : PEv) (ne : Ev), (deliverP c x nx).2 = .proposalCommitted ne →
    ∀ m, (m ∈ (mergeP (deliverP c x nx).1).1.g.members ↔ (m ∈ c.g.members ∧ m ≠ x.e.sender ∧ m ∉ c.g.props))

/-- admin 0, members 0..3; the non-admin 1 crafts Remove(3) and Add(9), then 2 asks to leave: admin 0's auto-commit removes
    2 AND 3 and adds 9 -/
def wAdmin0 : Cl := initCl 0 false 5 [0, 1, 2, 3] [0] 1
def wXRemove : PEv := craftProp (initCl 1 false 5 [0, 1, 2, 3] [0] 1) 1 10 11 (.remove 3)
def wXAdd : PEv := craftProp (initCl 1 false 5 [0, 1, 2, 3] [0] 1) 2 11 12 (.add 9)
def wLeave2 : PEv := { e := { n := 3, ts := 12, idnum := 13, cipher := 3, sender := 2, path := [], kind := .leave } }
def wAdminQueued : Cl := (deliverP (deliverP wAdmin0 wXRemove 0).1 wXAdd 0).1

theorem witness_autocommit_sweeps_foreign :
    (deliverP wAdmin0 wXRemove 0).2 = .pending ∧ (deliverP (deliverP wAdmin0 wXRemove 0).1 wXAdd 0).2 = .pending ∧
    wAdminQueued.g.members = [0, 1, 2, 3] ∧ wAdminQueued.g.xq = [QP.add 1 9, QP.rm 1 3] ∧
    (match (deliverP wAdminQueued wLeave2 4).2 with | .proposalCommitted _ => true | _ => false) = true ∧
    (mergeP (deliverP wAdminQueued wLeave2 4).1).1.g.members = [0, 1, 9] := by decide

theorem auto_commit_exact_full_false : ¬ auto_commit_exact_full := by
  intro h
  have h2 := h 4 wAdminQueued wLeave2 _ (show (deliverP wAdminQueued wLeave2 4).2 = .proposalCommitted (autoCommitEv (withSecret wAdminQueued) (storeProp { (withSecret wAdminQueued).g with consumed := [3] } 2 (.remove 2)) 4) by decide) 3
  revert h2; decide

theorem core_storeProp (g : GState) (s : Nat) (p : PK) : core (storeProp g s p) = core g := by
  cases p with
  | remove t => exact ite_elim (P := fun g' : GState => core g' = core g) (fun _ => rfl) (fun _ => rfl)
  | _ => rfl

/-- `process_proposal` only touches the store, the pending commit, the secret cache and the records -/
theorem core_processProposal (nx : Nat) (c : Cl) (e : Ev) (p : PK) : core (processProposal nx c e p).1.g = core c.g := by
  have hs := processProposal_spec nx c e p
  generalize processProposal nx c e p = r at hs
  cases hs with
  | ignored => rfl
  | stored | failed => exact core_storeProp ..
  | autoCommitted => exact (core_ensureSecret _).trans (core_storeProp ..)

theorem core_step1P {R : Cl → Cl × Res → Prop} {nx : Nat} {x : PEv} {c : Cl} {r : Cl × Res} {p : PK}
    (hs : Step1P R nx x c r) (hk : propKind x = some p) : core r.1.g = core c.g := by
  have hw : core (withSecret c).g = core c.g := core_ensureSecret c.g
  cases hs with
  | unrouted | evicted => rfl
  | «sealed» | refused => exact hw
  | own => exact (core_ownMessage _ x.e).trans hw
  | proposed => exact (core_processProposal ..).trans hw
  | echoed _ hn | retried _ hn | mergedOwn _ hn | unheld _ hn | committed _ hn | stored _ hn => rw [hk] at hn; cases hn

/-- **proposal_never_changes_roster** — a proposal of ANY type (own leave, Remove of somebody else, Add, Update,
    GroupContextExtensions, PSK, …), whatever `process_proposal` answers, changes neither the epoch / MLS state, nor the member
    set, nor any field of the group data (`proposal_inert` is the special case of a leave over `Model.Client`) -/
theorem proposal_never_changes_roster (retry : Cl → Option (Cl × Res)) (nx : Nat) (c : Cl) (x : PEv) (p : PK)
    (hk : propKind x = some p) :
    (step1P retry nx c x).1.g.path = c.g.path ∧ (step1P retry nx c x).1.g.members = c.g.members ∧
    (step1P retry nx c x).1.g.admins = c.g.admins ∧ (step1P retry nx c x).1.g.name = c.g.name ∧
    (step1P retry nx c x).1.g.desc = c.g.desc ∧ (step1P retry nx c x).1.g.relays = c.g.relays ∧
    (step1P retry nx c x).1.g.nid = c.g.nid :=
  core_fields (core_step1P (step1P_spec retry (R := fun _ _ => True) (fun _ _ _ => trivial) nx c x) hk)

/-! ### what the commit builders sweep: only members' own requests to leave — IF nothing else was ever stored -/

/-- the operations of a client (deliveries of honest events — whatever mdk's own API sends, or proposals that are not
    stored as a foreign request — and every local call) -/
inductive POp where
  | deliver (x : PEv) (nx : Nat)
  | send (n ts idn mid mts tok : Nat)
  | selfUpdate (n ts idn : Nat)
  | data (n ts idn : Nat) (u : DataUpd)
  | remove (n ts idn : Nat) (who : List Nat)
  | add (n ts idn : Nat) (who : List Nat)
  | leave (n ts idn : Nat)
  | merge | clear | restart
  | join (mp : Nat) (g : GState) (e : Ev)

def POp.run (c : Cl) : POp → Cl
  | .deliver x nx => (deliverP c x nx).1
  | .send n ts idn mid mts tok => (sendP c n ts idn mid mts tok).1
  | .selfUpdate n ts idn => (stageCommitP c n ts idn .selfUpdate false).1
  | .data n ts idn u => (updateDataP c n ts idn u).1
  | .remove n ts idn who => (removeMembersP c n ts idn who).1
  | .add n ts idn who => (addMembersP c n ts idn who).1
  | .leave n ts idn => (Client.leave c n ts idn).1
  | .merge => (mergeP c).1
  | .clear => (Client.clear c).1
  | .restart => (Client.restart c).1
  | .join mp g e => Client.join c (welcomeStateP mp g e)

/-- the hypothesis on a history: every delivered proposal is honest (`Honest`: not a Remove of another member, not an Add),
    every member whose own Remove is delivered is in `L`, and the client only calls `leave_group` if it is in `L` itself -/
def POp.ok (L : Nat → Prop) (c : Cl) : POp → Prop
  | .deliver x _ => Honest x ∧ LeaverIn L x
  | .leave _ _ _ => L c.id
  | _ => True

theorem pso_step (L : Nat → Prop) (c : Cl) (o : POp) (h : PropsSelfOnly L c) (ho : o.ok L c) : PropsSelfOnly L (o.run c) := by
  cases o with
  | deliver x nx => exact pso_deliverNP 3 nx c x h ho.1 ho.2
  | send n ts idn mid mts tok => exact pso_sendP c n ts idn mid mts tok h
  | selfUpdate n ts idn => exact pso_staged h (stageCommitP_spec ..)
  | data n ts idn u => exact pso_staged h (updateDataP_spec ..)
  | remove n ts idn who => exact pso_staged h (removeMembersP_spec ..)
  | add n ts idn who => exact pso_staged h (addMembersP_spec ..)
  | leave n ts idn => exact pso_leave c n ts idn h ho
  | merge => exact pso_mergeP c h
  | clear => exact pso_clear c h
  | restart => exact pso_restart c h
  | join mp g e => exact pso_join c _ h (selfOnly_cleared _ rfl rfl rfl)

/-- every operation of the history is admissible in the state it is applied to -/
def okRun (L : Nat → Prop) : Cl → List POp → Prop
  | _, [] => True
  | c, o :: l => o.ok L c ∧ okRun L (o.run c) l

/-- **PropsSelfOnly is an invariant** of every history over all client operations (process_message with rollback and
    re-processing, create_message, every commit builder, leave, merge / clear, restart, joining by welcome): nothing but
    leaves of members in `L` is ever queued, staged, or kept in a snapshot -/
theorem propsSelfOnly_reachable (L : Nat → Prop) (c : Cl) (l : List POp) (h : PropsSelfOnly L c) (hl : okRun L c l) :
    PropsSelfOnly L (l.foldl POp.run c) := by
  induction l generalizing c with
  | nil => exact h
  | cons o l ih => exact ih (o.run c) (pso_step L c o h hl.1) hl.2

/-- **admin_op_exact** — the precise form of "an admin's operation changes exactly what it names": after ANY history of
    honest events, whatever an admin's `update_group_data` / `add_members` / `remove_members` (or anybody's `self_update`)
    stages carries the named change `b` and, by reference, exactly the leaves queued at that moment — Removes that members in
    `L` sent for THEIR OWN leaf — and nothing else (`sweptX = []`).  The sweep can thus only complete a member's own request to
    leave, the exception the property allows.  The hypothesis is needed and the code does not enforce it: see
    `propsSelfOnly_full_false` / `admin_op_exact_P_full_false` (finding proposal-sweep). -/
theorem admin_op_exact (L : Nat → Prop) (c0 : Cl) (l : List POp) (h0 : PropsSelfOnly L c0) (hl : okRun L c0 l)
    (n ts idn : Nat) (e : Ev) :
    let c := l.foldl POp.run c0
    (∀ u, (updateDataP c n ts idn u).2 = .ev e →
        e.kind = .commit (.setData (applyUpd (dataOf c.g) u)) c.g.props ∧ e.sweptX = [] ∧ ∀ m ∈ c.g.props, L m) ∧
    (∀ who, (addMembersP c n ts idn who).2 = .ev e →
        e.kind = .commit (.addMembers who) c.g.props ∧ e.sweptX = [] ∧ ∀ m ∈ c.g.props, L m) ∧
    (∀ who, (removeMembersP c n ts idn who).2 = .ev e →
        e.kind = .commit (.removeLeavers (who.filter (fun m => c.g.members.contains m))) c.g.props ∧ e.sweptX = [] ∧ ∀ m ∈ c.g.props, L m) ∧
    ((stageCommitP c n ts idn .selfUpdate false).2 = .ev e →
        e.kind = .commit .selfUpdate c.g.props ∧ e.sweptX = [] ∧ ∀ m ∈ c.g.props, L m) := by
  intro c
  have hc : PropsSelfOnly L c := propsSelfOnly_reachable L c0 l h0 hl
  exact ⟨fun u => staged_ev hc (updateDataP_spec c n ts idn u), fun who => staged_ev hc (addMembersP_spec c n ts idn who),
    fun who => staged_ev hc (removeMembersP_spec c n ts idn who), staged_ev hc (stageCommitP_spec c n ts idn .selfUpdate false)⟩

/-- non-vacuity: a history with a leave delivered to an admin while its own commit is pending, a second leave, a rename -/
example : okRun (fun m => m = 2 ∨ m = 3) wAdmin0
    [.deliver wLeave2 4, .merge, .data 5 20 21 { name := some 7 }] := by
  refine ⟨⟨?_, ?_⟩, trivial, trivial, trivial⟩
  · intro p hp; cases hp
  · intro _; left; rfl

/-- the invariant without its hypothesis: ONE crafted Remove(other) from a non-admin member breaks it at every receiver -/
def propsSelfOnly_full : Prop :=
  ∀ (L : Nat → Prop) (c : Cl) (x : PEv) (nx : Nat), PropsSelfOnly L c → LeaverIn L x → PropsSelfOnly L (deliverP c x nx).1

theorem propsSelfOnly_full_false : ¬ propsSelfOnly_full := by
  intro h
  have h2 := h (fun _ => True) wAdmin0 wXRemove 0 (pso_init 0 false 5 [0, 1, 2, 3] [0] 1) (fun _ => trivial)
  have h3 : (deliverP wAdmin0 wXRemove 0).1.g.xq = [] := h2.1.1
  revert h3; decide

/-- … and the admin's next operation — here an unrelated `add_members` — carries the non-admin's request out: "the admin's
    operation changes exactly what it names (modulo members' own leaves)" is false of the code (finding proposal-sweep,
    corpus/C05/proposal_sweep.trace) -/
def admin_op_exact_P_full : Prop :=
  ∀ (c : Cl) (n ts idn : Nat) (who : List Nat) (e : Ev), (addMembersP c n ts idn who).2 = .ev e → e.sweptX = []

theorem admin_op_exact_P_full_false : ¬ admin_op_exact_P_full := by
  intro h
  have h2 := h (deliverP wAdmin0 wXRemove 0).1 5 20 21 [8]
    { n := 5, ts := 20, idnum := 21, cipher := 5, sender := 0, path := [], kind := .commit (.addMembers [8]) [], sweptX := [QP.rm 1 3] } (by decide)
  revert h2; decide

theorem witness_proposal_sweep :
    (mergeP (addMembersP (deliverP wAdmin0 wXRemove 0).1 5 20 21 [8]).1).1.g.members = [0, 1, 2, 8] := by decide

/-! ### … at the level of `process_message` (every fuel, through rollback and re-processing) -/

/-- what `auto_commit_only_self_leave_deliver` concludes about receiver `c`, event `x` and the staged commit `ne` -/
def AutoOK (c : Cl) (x : PEv) (ne : Ev) : Prop :=
  propKind x = some (.remove x.e.sender) ∧ c.g.active = true ∧ isAdmin c.g c.id = true ∧ c.g.pending = none ∧
  ne.sender = c.id ∧ ne.path = c.g.path ∧ ne.kind = .commit .selfUpdate ((x.e.sender :: c.g.props).eraseDups) ∧
  ne.sweptX = c.g.xq ∧ c.id ∉ (x.e.sender :: c.g.props).eraseDups

/-- **auto_commit_only_self_leave**, for `process_message` as a whole (every state, event, fuel): the call answers
    `Proposal(UpdateGroupResult)` — a commit was staged without anybody asking the application — ONLY for a member's Remove
    of its own leaf, at an active admin with no commit pending; the staged commit is the receiver's own, created in its
    current state, and references the sender's leave, the leaves queued before and the rest of the store -/
theorem auto_commit_only_self_leave_deliver (fuel nx : Nat) (c : Cl) (x : PEv) (ne : Ev)
    (h : (deliverNP fuel nx c x).2 = .proposalCommitted ne) : AutoOK c x ne := by
  refine deliverNP_induct (P := fun c r => r.2 = .proposalCommitted ne → AutoOK c x ne) nx x ?_ ?_ fuel c h
  · intro c r _ _ h
    split at h <;> cases h
  -- `Proposal(UpdateGroupResult)` comes out of `process_proposal` only
  · intro c r _ hs h
    cases hs with
    | unrouted | evicted | «sealed» | refused | echoed | mergedOwn | unheld | stored => cases h
    | own => exact absurd h (ownMessage_res _ _ _)
    | committed => exact absurd h (processCommitP_res _ _ _ _ _)
    | retried _ hn _ _ _ _ ih => rw [(ih h).1] at hn; cases hn
    | proposed ho hp =>
      obtain ⟨rfl, h2, h3, h4, h5, h6, h7, _, _, h9, _⟩ := auto_commit_only_self_leave nx _ x.e _ ne h
      simp only [consume, isAdmin] at h2 h3 h5 h6 h7 h9
      exact ⟨hp, ho.active, by simpa [isAdmin] using h2, by simpa using h3, h4, by simpa using h5, by simpa using h6,
        by simpa using h7, by simpa using h9⟩

/-- `proposal_never_changes_roster` for `process_message` as a whole (dedup step included, every fuel): "proposals never take
    effect by themselves" -/
theorem proposal_never_changes_roster_deliver (fuel nx : Nat) (c : Cl) (x : PEv) (p : PK) (hk : propKind x = some p) :
    (deliverNP fuel nx c x).1.g.path = c.g.path ∧ (deliverNP fuel nx c x).1.g.members = c.g.members ∧
    rosterAndData (deliverNP fuel nx c x).1.g = rosterAndData c.g := by
  have h := Prod.mk.inj (deliverNP_induct (P := fun c r => core r.1.g = core c.g) nx x (fun _ _ _ _ => rfl)
    (fun _ _ _ hs => core_step1P hs hk) fuel c)
  exact ⟨h.1, congrArg Prod.fst h.2, h.2⟩

/-! ### the tie between the two client models (proved in Proofs/Proposal.lean, restated so that they are obligations of this
    property): where no queued proposal is involved `Model.Proposal` IS `Model.Client`, so the theorems of C01 / C02 / C06 / C07 /
    C08 / C11 about `deliver` speak about the function the driver runs -/
theorem proposal_model_agrees_with_client (fuel nx : Nat) (c : Cl) (e : Ev) (hc : PendClean c) (hk : OldKind c.id e) :
    deliverNP fuel nx c { e := e } = deliverN fuel nx c e := by
  have once (c : Cl) (hc : PendClean c) (hk : OldKind c.id e) (r1 r2 : Cl → Option (Cl × Res))
      (hr : ∀ c1, PendClean c1 → c1.id = c.id → r1 c1 = r2 c1) : deliverOnceP r1 nx c { e := e } = deliverOnce r2 nx c e := by
    have : step1P r1 nx c { e := e } = step1 r2 nx c e := by
      refine step1P_eq_step1 r1 r2 nx c e (fun b sw hb => ?_) (fun hl => ?_)
      · have := hk.2; rw [hb] at this; exact ⟨this.1, hk.1, this.1 ▸ this.2, hc, hr⟩
      · have := hk.2; rw [hl] at this; exact this.elim
    unfold deliverOnceP deliverOnce
    rw [this]
    rfl
  induction fuel generalizing c with
  | zero => exact once c hc hk _ _ (fun _ _ _ => rfl)
  | succ f ih => exact once c hc hk _ _ (fun c1 h1 hid => by rw [ih c1 h1 (hid ▸ hk)])

theorem proposal_model_agrees_leave_nonadmin (r1 r2 : Cl → Option (Cl × Res)) (nx : Nat) (c : Cl) (e : Ev) (hk : e.kind = .leave)
    (hna : isAdmin c.g c.id = false) : step1P r1 nx c { e := e } = step1 r2 nx c e :=
  step1P_eq_step1 r1 r2 nx c e (fun _ _ hc => by rw [hk] at hc; cases hc) (fun _ => hna)

theorem proposal_model_agrees_ops (c : Cl) (n ts idn : Nat) :
    (∀ b na, c.g.xq = [] → c.g.props.contains c.id = false → stageCommitP c n ts idn b na = stageCommit c n ts idn b na) ∧
    (∀ mid mts tok, c.g.xq = [] → sendP c n ts idn mid mts tok = send c n ts idn mid mts tok) ∧
    (PendClean c → mergeP c = merge c) :=
  ⟨fun b na h1 h2 => stageCommitP_agrees c n ts idn b na h1 h2, fun mid mts tok h => sendP_agrees c n ts idn mid mts tok h,
   fun h => mergeP_agrees c h⟩

end Proposals

/-! ## "No accepted commit or proposal changes the Nostr identity bound to an existing member"  (Model.Identity, §13.19)

  An EXISTING MEMBER of a commit is a leaf that is occupied before the commit and is not named by a Remove proposal of the commit: it
  is the same member before and after.  A leaf that a commit removes and re-fills with an Add is a roster change (admin only:
  `roster_change_admin_only`), not a member whose identity changed — `leaf_identity_full_false` shows that the cruder reading
  "the identity at an occupied leaf index never changes" is false of the code, and of MLS.

  Every theorem is stated for `Identity.codeShape`, the shape of `validate_commit_identities` / `process_commit` / `process_proposal`
  REGENERATED from the source (tools/gen_model.py: which proposal iterators are read, that stored and proposed identity — both
  `parse_credential_identity(BasicCredential.identity())` — are compared and the refusal propagated, authorisation → identities →
  merge), and proved by transporting along `decide : codeShape = provedShape`: a source in which a comparison is deleted
  (mutant M0357) or the order changes no longer satisfies them. -/
section Identity
open MdkVerif.Identity in
/-- the shape of the source is the shape these theorems were proved for -/
theorem identity_shape_as_proved : Identity.codeShape = Identity.provedShape := by decide

/-- **accept_iff_no_identity_change**: `validate_commit_identities` passes EXACTLY when no Update proposal of the staged commit (by
    a member whose leaf is occupied) and not its update path (committer a member whose leaf is occupied) carries a credential whose
    parsed Nostr identity differs from the one parsed from the leaf's stored credential — and all credentials involved parse -/
theorem accept_iff_no_identity_change (t : Identity.Tree) (s : Identity.Staged) :
    Identity.validateCommitIdentities Identity.codeShape t s = .ok () ↔ Identity.NoIdentityChange t s := by
  rw [identity_shape_as_proved]; exact Identity.validateCommitIdentities_ok_iff t s

/-- the head of `process_commit` as a whole: authorisation AND no identity change -/
theorem commit_accept_iff (st : Identity.St) (s : Identity.Staged) :
    Identity.mdkValidate Identity.codeShape st s = .ok () ↔
      (Identity.validateAuthorization st s = .ok () ∧ Identity.NoIdentityChange st.tree s) := by
  rw [identity_shape_as_proved]; exact Identity.mdkValidate_ok_iff st s

/-- **identity_preserved**: ALL group states, ALL staged commits, any rule set of the MLS library: if the commit is accepted, every
    existing member (leaf occupied before, not named by a Remove of the commit) is still there afterwards and its credential is
    the old one or one with the same Nostr identity; and a refused commit changes nothing at all -/
theorem identity_preserved (R : Identity.MlsRules) (st : Identity.St) (s : Identity.Staged) :
    ((Identity.processCommit Identity.codeShape R st s).2 = .ok () →
      ∀ l c, Identity.lookup l st.tree = some c → Identity.removed s l = false →
        ∃ c', Identity.lookup l (Identity.processCommit Identity.codeShape R st s).1.tree = some c' ∧ Identity.KeepsId c c') ∧
    ((Identity.processCommit Identity.codeShape R st s).2 ≠ .ok () → (Identity.processCommit Identity.codeShape R st s).1 = st) := by
  rw [identity_shape_as_proved]
  unfold Identity.processCommit
  by_cases ha : Identity.mlsAdmits R st s = true
  · simp only [ha, Bool.not_true, Bool.false_eq_true, if_false]
    cases hv : Identity.mdkValidate Identity.provedShape st s with
    | error e => exact ⟨fun hh => (by cases hh), fun _ => rfl⟩
    | ok u =>
      cases u
      refine ⟨fun _ l c h0 hr => ?_, fun hh => absurd rfl hh⟩
      exact Identity.applyCommit_keeps st.tree s ((Identity.mdkValidate_ok_iff st s).1 hv).2 l c h0 hr
  · have ha' : Identity.mlsAdmits R st s = false := by simpa using ha
    simp [ha']

/-- the member LIST read off the tree (`get_members`): an identity that was a member and whose leaf is not removed is still listed -/
theorem existing_member_keeps_its_identity (R : Identity.MlsRules) (st : Identity.St) (s : Identity.Staged) (l : Identity.Leaf)
    (i k : Nat) (h0 : Identity.lookup l st.tree = some (.basic i k)) (hr : Identity.removed s l = false)
    (hacc : (Identity.processCommit Identity.codeShape R st s).2 = .ok ()) :
    ∃ k', Identity.lookup l (Identity.processCommit Identity.codeShape R st s).1.tree = some (.basic i k') := by
  obtain ⟨c', h1, hk⟩ := (identity_preserved R st s).1 hacc l _ h0 hr
  rcases hk with e | ⟨j, e1, e2⟩
  · exact ⟨k, by rw [h1, e]⟩
  · cases c' with
    | basic i' k' =>
      simp [Identity.credIdentity] at e1 e2
      have : i' = i := e2.trans e1.symm
      subst this; exact ⟨k', h1⟩
    | badId n => simp [Identity.credIdentity] at e2
    | notBasic n => simp [Identity.credIdentity] at e2

/-- stand-alone proposals: `process_proposal` never touches the tree (nor the admins), whatever the proposal and whatever it stores -/
theorem proposal_keeps_every_identity (st : Identity.St) (q : Identity.QProp) :
    (Identity.processProposal Identity.codeShape st q).tree = st.tree ∧
    (Identity.processProposal Identity.codeShape st q).admins = st.admins := Identity.processProposal_tree _ st q

/-- mdk does not look at a stand-alone Update proposal at all: it is answered `IgnoredProposal` and NOT stored, so the proposal store
    of a receiver never holds an Update (invariant over proposals and commits) … -/
theorem update_proposal_never_stored (R : Identity.MlsRules) (st : Identity.St) (h : Identity.StoreNoUpdate st) :
    (∀ q, Identity.StoreNoUpdate (Identity.processProposal Identity.codeShape st q)) ∧
    (∀ s, Identity.StoreNoUpdate (Identity.processCommit Identity.codeShape R st s).1) := by
  rw [identity_shape_as_proved]
  exact ⟨fun q => Identity.processProposal_store st q h, fun s => Identity.processCommit_store _ R st s h⟩

/-- … hence, under OpenMLS 0.8.1's rules (an inline Update is refused; a by-reference proposal must be in the receiver's store), NO
    staged commit that reaches `process_commit` carries an Update proposal: the per-proposal comparison of
    `validate_commit_identities` is unreachable on a stock receiver, the update path is the one live channel, and the accept
    decision is authorisation + the path comparison -/
theorem update_loop_unreachable (st : Identity.St) (s : Identity.Staged) (h : Identity.StoreNoUpdate st)
    (ha : Identity.mlsAdmits Identity.openmls081 st s = true) :
    s.props.filter Identity.isUpdate = [] ∧
    (Identity.validateCommitIdentities Identity.codeShape st.tree s = .ok () ↔ Identity.PathKeeps st.tree s) := by
  have hn := Identity.no_update_reaches_mdk st s h ha
  refine ⟨hn, ?_⟩
  rw [accept_iff_no_identity_change]
  refine ⟨fun x => x.2, fun x => ⟨?_, x⟩⟩
  intro q hq c l cur e1 _ _
  have : q ∈ s.props.filter Identity.isUpdate := List.mem_filter.2 ⟨hq, by simp [Identity.isUpdate, e1]⟩
  rw [hn] at this; cases this

/-! ### closed witnesses: group of three (leaves 0 1 2, identities 10 11 12, admin 10), one comparison each -/
def iTree : Identity.Tree := [(0, .basic 10 100), (1, .basic 11 101), (2, .basic 12 102)]
def iSt : Identity.St := { tree := iTree, admins := [10], store := [] }
/-- member 1 (not an admin): a commit without proposals whose path keeps / changes the identity (fresh signature key both times) -/
def iPathSame : Identity.Staged := { sender := .member 1, props := [], path := some (.basic 11 201) }
def iPathOther : Identity.Staged := { sender := .member 1, props := [], path := some (.basic 99 201) }
/-- the identity of ANOTHER member (12) on one's own leaf -/
def iPathSteal : Identity.Staged := { sender := .member 1, props := [], path := some (.basic 12 201) }
/-- admin 0 commits member 2's Update proposal by reference (receiver holding it in its store): same / other identity -/
def iUpdSame : Identity.QProp := { p := .update (.basic 12 202), sender := .member 2, byRef := true }
def iUpdOther : Identity.QProp := { p := .update (.basic 77 202), sender := .member 2, byRef := true }
def iRefSame : Identity.Staged := { sender := .member 0, props := [iUpdSame], path := some (.basic 10 200) }
def iRefOther : Identity.Staged := { sender := .member 0, props := [iUpdOther], path := some (.basic 10 200) }

/-- the two accepted commits differ from the two refused ones ONLY in the identity of one credential -/
theorem witness_path_comparison :
    Identity.mdkValidate Identity.codeShape iSt iPathSame = .ok () ∧
    Identity.mdkValidate Identity.codeShape iSt iPathOther = .error .identityChange ∧
    Identity.mdkValidate Identity.codeShape iSt iPathSteal = .error .identityChange ∧
    Identity.mlsAdmits Identity.openmls081 iSt iPathOther = true := by decide

theorem witness_update_comparison :
    Identity.mdkValidate Identity.codeShape { iSt with store := [iUpdSame] } iRefSame = .ok () ∧
    Identity.mdkValidate Identity.codeShape { iSt with store := [iUpdOther] } iRefOther = .error .identityChange ∧
    Identity.mlsAdmits Identity.openmls081 { iSt with store := [iUpdOther] } iRefOther = true ∧
    -- … but a stock receiver never stored the proposal: OpenMLS refuses the commit, honest or not
    (Identity.processCommit Identity.codeShape Identity.openmls081 iSt iRefSame).2 = .error .mls ∧
    (Identity.processCommit Identity.codeShape Identity.openmls081 iSt iRefOther).2 = .error .mls := by decide

/-- what each comparison is worth: with it deleted (the shape of mutant M0357 / M0108) the identity-changing commit is accepted, the
    MLS library does not object, and leaf 1 / leaf 2 is bound to a foreign identity afterwards; had the MLS library refused
    credential changes itself (`refusesCredChange`), mdk's comparison would be redundant — it does not -/
theorem witness_comparison_is_the_only_guard :
    (Identity.processCommit { Identity.provedShape with pathCompared := false } Identity.openmls081 iSt iPathOther).2 = .ok () ∧
    Identity.lookup 1 (Identity.processCommit { Identity.provedShape with pathCompared := false } Identity.openmls081 iSt iPathOther).1.tree
      = some (.basic 99 201) ∧
    (Identity.processCommit { Identity.provedShape with updateCompared := false } Identity.openmls081 { iSt with store := [iUpdOther] } iRefOther).2 = .ok () ∧
    (Identity.processCommit { Identity.provedShape with identitiesChecked := false } Identity.openmls081 iSt iPathOther).2 = .ok () ∧
    (Identity.processCommit { Identity.provedShape with pathCompared := false } { Identity.openmls081 with refusesCredChange := true } iSt iPathOther).2
      = .error .mls := by decide

/-- the order authorisation → identities matters: `validate_commit_identities` alone lets an external committer's or a blank leaf's
    path through (`if let … && let Some(..)` without `else`); authorisation, which runs first, refuses both as `MessageFromNonMember` -/
theorem witness_authorisation_closes_the_fallthrough :
    Identity.validateCommitIdentities Identity.codeShape iTree { sender := .newMemberCommit, props := [], path := some (.basic 99 1) } = .ok () ∧
    Identity.validateCommitIdentities Identity.codeShape iTree { sender := .member 5, props := [], path := some (.basic 99 1) } = .ok () ∧
    Identity.mdkValidate Identity.codeShape iSt { sender := .newMemberCommit, props := [], path := some (.basic 99 1) } = .error .nonMember ∧
    Identity.mdkValidate Identity.codeShape iSt { sender := .member 5, props := [], path := some (.basic 99 1) } = .error .nonMember := by decide

/-- an Add of an identity that IS a member (second leaf for identity 11) is not looked at by `validate_commit_identities`: an admin's
    commit is accepted, no existing leaf changes, the member list (a set) is unchanged; a non-admin's is refused by authorisation -/
theorem witness_add_of_present_identity :
    (Identity.processCommit Identity.codeShape Identity.openmls081 iSt
        { sender := .member 0, props := [{ p := .add (.basic 11 301), sender := .member 0, byRef := false }], path := some (.basic 10 200) }).2 = .ok () ∧
    (Identity.processCommit Identity.codeShape Identity.openmls081 iSt
        { sender := .member 0, props := [{ p := .add (.basic 11 301), sender := .member 0, byRef := false }], path := some (.basic 10 200) }).1.tree
      = [(0, .basic 10 200), (3, .basic 11 301), (1, .basic 11 101), (2, .basic 12 102)] ∧
    (Identity.processCommit Identity.codeShape Identity.openmls081 iSt
        { sender := .member 1, props := [{ p := .add (.basic 11 301), sender := .member 1, byRef := false }], path := some (.basic 11 201) }).2 = .error .nonAdmin := by decide

/-- the cruder reading — "the identity at a leaf index that is occupied before and after never changes" -/
def leaf_identity_full : Prop :=
  ∀ (st : Identity.St) (s : Identity.Staged), (Identity.processCommit Identity.codeShape Identity.openmls081 st s).2 = .ok () →
    ∀ l c c', Identity.lookup l st.tree = some c →
      Identity.lookup l (Identity.processCommit Identity.codeShape Identity.openmls081 st s).1.tree = some c' → Identity.KeepsId c c'

/-- an admin's Remove(1) + Add(new identity 50) in ONE commit: OpenMLS puts the newcomer on the leaf just freed.  Accepted; leaf 1 now
    carries identity 50.  That is a roster change by an admin (member 11 is gone, member 50 is new), not an identity change of an
    existing member; `identity_preserved` excludes exactly the leaves the commit removes -/
def iRemoveAdd : Identity.Staged :=
  { sender := .member 0, path := some (.basic 10 200),
    props := [{ p := .remove 1, sender := .member 0, byRef := false }, { p := .add (.basic 50 500), sender := .member 0, byRef := false }] }

theorem leaf_identity_full_false : ¬ leaf_identity_full := by
  intro h
  have := h iSt iRemoveAdd (by decide) 1 (.basic 11 101) (.basic 50 500) (by decide) (by decide)
  rcases this with e | ⟨i, e1, e2⟩
  · cases e
  · injection e1 with e1; injection e2 with e2
    exact absurd (e1.trans e2.symm) (by decide)

/-- … and the same commit from a non-admin is refused, so the re-use needs an admin -/
def iRemoveAddNonAdmin : Identity.Staged :=
  { sender := .member 2, path := some (.basic 12 200),
    props := [{ p := .remove 1, sender := .member 2, byRef := false }, { p := .add (.basic 50 500), sender := .member 2, byRef := false }] }

theorem witness_remove_add_needs_admin :
    (Identity.processCommit Identity.codeShape Identity.openmls081 iSt iRemoveAddNonAdmin).2 = .error .nonAdmin := by decide

/-- non-vacuity of `identity_preserved`'s hypotheses: an accepted commit with a surviving leaf whose credential DOES change (new
    signature key, same identity), beside a removed and re-filled leaf -/
example : (Identity.processCommit Identity.codeShape Identity.openmls081 iSt iRemoveAdd).2 = .ok () ∧
    Identity.removed iRemoveAdd 0 = false ∧ Identity.removed iRemoveAdd 1 = true ∧
    Identity.lookup 0 (Identity.processCommit Identity.codeShape Identity.openmls081 iSt iRemoveAdd).1.tree = some (.basic 10 200) ∧
    Identity.StoreNoUpdate iSt := by
  refine ⟨by decide, by decide, by decide, by decide, ?_⟩
  intro q hq; cases hq

end Identity

end MdkVerif.Props.C05
