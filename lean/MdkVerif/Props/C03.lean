import MdkVerif.Model.Knowledge
import MdkVerif.Proofs.Ite
/-
  C03 — Only members of the sending epoch ever obtain a message's plaintext.
  Symbolic model: cryptographic secrecy itself is ASSUMED (a wrapper opens exactly for the holders of
  the secrets of the state it was made in); what is proved is that the wrapper logic — welcomes, commits,
  eviction, rollback, retention, feeding of arbitrary events in arbitrary order — never gives a client the
  secrets of a state in which it is not a member, for every world and every history.
-/
namespace MdkVerif.Props.C03
open MdkVerif.Knowledge

structure Inv (w : World) (me : Nat) (c : Client) : Prop where
  heldMember : ∀ s, s ∈ c.held → memberOf w me s = true
  curHeld : ∀ gid s, c.cur gid = some s → s ∈ c.held ∧ gidOf w s = some gid
  msgMember : ∀ mid s, (mid, s) ∈ c.msgs → memberOf w me s = true

theorem inv_empty (w : World) (me : Nat) : Inv w me Client.empty := by
  constructor <;> simp [Client.empty]

/-- The ways a step ends, each with what its guards established.  `enter` is the only one that adds a secret:
    its last argument names the three doors; `moved` is an eviction (`none`) or a rollback. -/
inductive StepEnds (w : World) (me : Nat) (c : Client) (st : Step) : Client → Prop
  | same : StepEnds w me c st c
  | enter (s : Nat) (g : GState) : w s = some g → me ∈ g.members ∨ me ∈ g.added →
      (st = .create s ∨ st = .join s ∨ ∃ frm, st = .apply frm s ∧ c.cur ((w frm).map (·.gid) |>.getD 0) = some frm) →
      StepEnds w me c st { setCur c g.gid (some s) with held := s :: c.held }
  | moved (gid : Nat) (o : Option Nat) : (∀ s, o = some s → s ∈ c.held ∧ gidOf w s = some gid) →
      StepEnds w me c st (setCur c gid o)
  | stored (mid s : Nat) : (s ∈ c.held ∨ ∃ gid, c.cur gid = some s) →
      StepEnds w me c st { c with msgs := (mid, s) :: c.msgs }
  | forgot (s : Nat) : (∀ gid, gidOf w s = some gid → c.cur gid ≠ some s) →
      StepEnds w me c st { c with held := c.held.filter (· != s) }

theorem step_ends (w : World) (me : Nat) (c : Client) (st : Step) : StepEnds w me c st (step w me c st) := by
  cases st with
  | create s =>
    simp only [step]
    cases hs : w s with
    | none => exact .same
    | some g =>
      refine ite_elim (fun hc => ?_) fun _ => .same
      simp only [Bool.and_eq_true, List.contains_iff_mem] at hc
      exact .enter s g hs (.inl hc.2) (.inl rfl)
  | apply frm to =>
    simp only [step]
    cases hf : w frm with
    | none => exact .same
    | some gf =>
      cases ht : w to with
      | none => exact .same
      | some gt =>
        refine ite_elim (fun hc => ?_) fun _ => .same
        simp only [Bool.and_eq_true, beq_iff_eq] at hc
        refine ite_elim (fun hm => ?_) fun _ => .moved _ none fun _ e => nomatch e
        rw [← hc.1.2]
        exact .enter to gt ht (.inl (List.contains_iff_mem.mp hm)) (.inr (.inr ⟨frm, rfl, by simp [hf, hc.2]⟩))
  | join s =>
    simp only [step]
    cases hs : w s with
    | none => exact .same
    | some g =>
      exact ite_elim (fun hc => .enter s g hs (.inr (List.contains_iff_mem.mp hc)) (.inr (.inl rfl))) fun _ => .same
  | send mid s =>
    simp only [step]
    cases hs : w s with
    | none => exact .same
    | some g => exact ite_elim (fun hc => .stored mid s (.inr ⟨g.gid, beq_iff_eq.mp hc⟩)) fun _ => .same
  | recv mid s => exact ite_elim (fun hc => .stored mid s (.inl (List.contains_iff_mem.mp hc))) fun _ => .same
  | rollback s =>
    simp only [step]
    cases hs : w s with
    | none => exact .same
    | some g =>
      refine ite_elim (fun hc => ?_) fun _ => .same
      simp only [Bool.and_eq_true, List.contains_iff_mem] at hc
      exact .moved g.gid (some s) fun s' e => by cases e; exact ⟨hc.1, by simp [gidOf, hs]⟩
  | forget s =>
    simp only [step]
    cases hs : w s with
    | none => exact .forgot s fun gid hg => by simp [gidOf, hs] at hg
    | some g =>
      refine ite_elim (fun _ => .same) fun hc => .forgot s fun gid hg e => ?_
      obtain rfl : g.gid = gid := by simpa [gidOf, hs] using hg
      exact hc (beq_iff_eq.mpr e)

theorem inv_step (w : World) (hw : w.wf) (me : Nat) (c : Client) (st : Step) (h : Inv w me c) :
    Inv w me (step w me c st) := by
  obtain ⟨h1, h2, h3⟩ := h
  -- `setCur` at `gid` keeps the second clause wherever the new current state is held and of that group
  have cur {held : List Nat} {gid : Nat} {o : Option Nat} (hsub : ∀ s, s ∈ c.held → s ∈ held)
      (ho : ∀ s, o = some s → s ∈ held ∧ gidOf w s = some gid) :
      ∀ gid' s, (setCur c gid o).cur gid' = some s → s ∈ held ∧ gidOf w s = some gid' := by
    intro gid' s hcur
    simp only [setCur] at hcur
    by_cases e : gid' = gid
    · rw [if_pos e] at hcur; exact e ▸ ho s hcur
    · rw [if_neg e] at hcur; exact ⟨hsub s (h2 gid' s hcur).1, (h2 gid' s hcur).2⟩
  have e := step_ends w me c st
  generalize step w me c st = c' at e ⊢
  cases e with
  | same => exact ⟨h1, h2, h3⟩
  | enter s g hs hm _ =>
    have hmem : memberOf w me s = true := by
      simp only [memberOf, hs, List.contains_iff_mem]
      exact hm.elim id (hw s g hs me)
    refine ⟨fun s' hs' => ?_, cur (fun _ => List.mem_cons_of_mem _) fun s' e => ?_, h3⟩
    · rcases List.mem_cons.mp hs' with rfl | e
      · exact hmem
      · exact h1 s' e
    · cases e; exact ⟨List.mem_cons_self, by simp [gidOf, hs]⟩
  | moved gid o ho => exact ⟨h1, cur (fun _ => id) ho, h3⟩
  | stored mid s hs =>
    refine ⟨h1, h2, fun mid' s' hm => ?_⟩
    rcases List.mem_cons.mp hm with e | e
    · cases e; exact h1 s (hs.elim id fun ⟨gid, hcur⟩ => (h2 gid s hcur).1)
    · exact h3 mid' s' e
  | forgot s hne =>
    refine ⟨fun s' hs' => h1 s' (List.mem_filter.mp hs').1, fun gid s' hcur => ?_, h3⟩
    obtain ⟨a, b⟩ := h2 gid s' hcur
    refine ⟨List.mem_filter.mpr ⟨a, ?_⟩, b⟩
    -- the current state of a group is never the one forgotten
    have : s' ≠ s := fun e => hne gid (e ▸ b) (e ▸ hcur)
    simpa using this

theorem inv_run (w : World) (hw : w.wf) (me : Nat) (c : Client) (steps : List Step) (h : Inv w me c) :
    Inv w me (run w me c steps) := by
  induction steps generalizing c with
  | nil => exact h
  | cons st rest ih => exact ih _ (inv_step w hw me c st h)

/-- **knowledge_inv.**  In every world and after every history of steps — own operations and ANY events
    fed in ANY order — a client holds the secrets of a state only if it is a member in that state. -/
theorem knowledge_inv (w : World) (hw : w.wf) (me : Nat) (steps : List Step) (s : Nat)
    (h : s ∈ (run w me Client.empty steps).held) : memberOf w me s = true :=
  (inv_run w hw me _ steps (inv_empty w me)).heldMember s h

/-- **C03.**  Every message row a client stores was sent in a state in which that client is a member —
    never-members, ex-members (for states after their removal), members of other groups and joiners (for
    states before they joined) store nothing of it, whatever they are fed. -/
theorem C03 (w : World) (hw : w.wf) (me : Nat) (steps : List Step) (mid s : Nat)
    (h : (mid, s) ∈ (run w me Client.empty steps).msgs) : memberOf w me s = true :=
  (inv_run w hw me _ steps (inv_empty w me)).msgMember mid s h

/-- secrets enter only through the three doors: creating the group, a welcome that names the client, a
    commit applied from the client's current state to a state in which it is a member -/
theorem held_only_by (w : World) (me : Nat) (c : Client) (st : Step) (s : Nat)
    (h : s ∈ (step w me c st).held) :
    s ∈ c.held ∨ st = .create s ∨ st = .join s ∨ ∃ frm, st = .apply frm s ∧ c.cur ((w frm).map (·.gid) |>.getD 0) = some frm := by
  have e := step_ends w me c st
  generalize step w me c st = c' at e h
  cases e with
  | same | moved | stored => exact .inl h
  | enter s' g _ _ door =>
    rcases List.mem_cons.mp h with rfl | h
    · exact .inr door
    · exact .inl h
  | forgot => exact .inl (List.mem_filter.mp h).1

/-- **evicted.**  Once a client has applied the commit that removes it, the group has no current state for
    it: `create_message` (`send`) in ANY state of that group is refused, rollbacks are refused, and it holds
    no secret of the new state — so it can neither send nor read what is sent from then on. -/
theorem evicted_cannot_send_or_read (w : World) (me : Nat) (c : Client) (frm to : Nat) (gf gt : GState)
    (hf : w frm = some gf) (ht : w to = some gt) (hp : gt.parent = some frm) (hg : gt.gid = gf.gid)
    (hcur : c.cur gf.gid = some frm) (hout : gt.members.contains me = false) (hnot : to ∉ c.held) :
    let c' := step w me c (.apply frm to)
    c'.cur gf.gid = none ∧ to ∉ c'.held ∧
    (∀ mid s g, w s = some g → g.gid = gf.gid → step w me c' (.send mid s) = c') ∧
    (∀ mid, step w me c' (.recv mid to) = c') := by
  have hout' : me ∉ gt.members := by simpa using hout
  have hc' : step w me c (.apply frm to) = setCur c gf.gid none := by
    simp [step, hf, ht, hp, hg, hcur, hout']
  simp only [hc']
  have hnot' : to ∉ (setCur c gf.gid none).held := hnot
  exact ⟨by simp [setCur], hnot, fun mid s g hs hgid => by simp [step, hs, setCur, hgid], fun mid => by simp [step, hnot']⟩

/-- **joiner.**  A client that enters a group through a welcome holds, of that group, exactly the state
    the welcome leads to: a message sent in any EARLIER state is refused, whatever order events arrive in
    (until the client itself gains another state through one of the three doors). -/
theorem joiner_reads_nothing_earlier (w : World) (me s : Nat) (g : GState) (hs : w s = some g)
    (hadd : g.added.contains me = true) (mid p : Nat) (hp : p ≠ s) :
    let c := step w me Client.empty (.join s)
    c.held = [s] ∧ step w me c (.recv mid p) = c := by
  have hadd' : me ∈ g.added := by simpa using hadd
  have hc : step w me Client.empty (.join s) = { setCur Client.empty g.gid (some s) with held := [s] } := by
    simp [step, hs, hadd', Client.empty]
  simp only [hc]
  refine ⟨by simp, ?_⟩
  simp [step, setCur, hp]

/-! ### non-vacuity: a world with an add, a removal and a later message -/

/-- states 0 (A,B) → 1 (A,B,C; C added) → 2 (A,C; B removed), all of group 7 -/
def demo : World := fun s =>
  match s with
  | 0 => some { gid := 7, epoch := 1, members := [10, 11], parent := none, added := [11] }
  | 1 => some { gid := 7, epoch := 2, members := [10, 11, 12], parent := some 0, added := [12] }
  | 2 => some { gid := 7, epoch := 3, members := [10, 12], parent := some 1, added := [] }
  | _ => none

theorem demo_wf : demo.wf := by
  intro s g hs c hc
  match s with
  | 0 => simp [demo] at hs; subst hs; simp at hc; simp [hc]
  | 1 => simp [demo] at hs; subst hs; simp at hc; simp [hc]
  | 2 => simp [demo] at hs; subst hs; simp at hc
  | n + 3 => simp [demo] at hs

/-- B (11) joins in state 0, follows to 1, is removed in 2 and is then fed everything again: it keeps the
    messages of states 0 and 1, gets neither message 30 (sent in state 2) nor a way to send (40, 41 refused);
    C (12) joined in state 1, follows to 2 and never gets message 10 (state 0); an outsider (13) gets nothing. -/
example :
    let feed : List Step := [.recv 10 0, .recv 20 1, .recv 30 2, .apply 0 1, .apply 1 2, .recv 30 2, .recv 10 0]
    let b := run demo 11 Client.empty ([.join 0, .recv 10 0, .apply 0 1, .recv 20 1, .apply 1 2, .send 40 2, .send 41 1] ++ feed)
    let c := run demo 12 Client.empty ([.join 1] ++ feed)
    let o := run demo 13 Client.empty feed
    (b.msgs.map (·.1)).eraseDups = [10, 20] ∧ b.cur 7 = none ∧
    (c.msgs.map (·.1)).eraseDups = [30, 20] ∧ c.cur 7 = some 2 ∧ o.msgs = [] := by decide

end MdkVerif.Props.C03
