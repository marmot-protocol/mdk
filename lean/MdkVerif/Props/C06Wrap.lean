import MdkVerif.Model.Wrap
import MdkVerif.Proofs.Wrap
/-
  C06 (outer layer) / C08 (routing) — `process_message` up to the MLS layer, for a client that holds several
  groups, over `Model.Wrap` (which follows the code incl. its defects; every constant is regenerated from the
  source).  All statements are for EVERY store, configuration, clock reading and raw event.

  1 `wrap_accept_iff`                 decision logic: exactly when an event reaches the MLS layer of a group
  2 `wrap_refuse_frame`               a refusal changes no group (but for the exporter-secret cache) and no OTHER record
  3 `wrap_routes_only_by_current_id`  a result names a group only if the event's tag is that group's current id;
    `wrap_old_id_no_longer_routes`    after a rotation the old id routes nowhere
  4 `wrap_redeliver`                  a refused event stays refused, any number of times, at any later time, and
                                      changes nothing at all
  5 `wrap_failed_record`, `wrap_reason_table`   what is written, and that the reason is one of the fixed table
  6 `wrap_no_panic` (the full statement, since the guard of /repo a6aae31; `wrap_short_payload_refused` is the former panic witness);
    `wrap_no_panic_partial`, `wrap_no_panic_of_guard`
-/
namespace MdkVerif.Props.C06Wrap
open MdkVerif MdkVerif.Wrap

/-! ### 1. acceptance, as decision logic -/

/-- **wrap_accept_iff**: `decrypt_message` hands the plaintext `i` to the MLS layer of the group `g` IFF the event
    is not blocked by a Failed / EpochInvalidated record ∧ its kind is 445 ∧ created_at lies in the window
    [now ⊖ max_age, now ⊕ skew] ∧ exactly one tag is named `h`, its value is 64 hex characters (either case)
    ∧ `g` is the group found under the decoded id ∧ its MLS group loads ∧ one of the secrets tried for `g`
    (the current one, then the stored ones of the LOOKBACK previous epoch numbers) opens the content -/
theorem wrap_accept_iff (cfg : Cfg) (now : Nat) (st : Store) (e : Ev) (g : Group) (i : Inner) :
    outer cfg now st e = .opened g i ↔
      isBlocked st e = false ∧
      e.kind = Generated.kindMlsGroupMessage ∧
      e.createdAt ≤ satAdd now cfg.skew ∧ now - cfg.maxAge ≤ e.createdAt ∧
      (∃ t v nid, hTags e = [t] ∧ t[1]? = some v ∧ v.length = Generated.hTagHexLen ∧ hexDecode v = some nid ∧
        findGroup st.groups nid = some g) ∧
      g.loadable = true ∧
      ∃ k ∈ g.keys, nip44Open e.content k = .ok i := by
  rw [show Outer.opened g i = Outer.ofOpen g (.ok i) from rfl, outer_ofOpen_iff, openWith_eq e.content g.keys (.ok i) nofun]
  constructor
  · rintro ⟨hb, nid, hv, hf, hl, ho⟩
    obtain ⟨hk, h1, h2, hx⟩ := (validate_ok cfg now e nid).mp hv
    obtain ⟨t, v, ht, hv1, hlen, hd⟩ := (extractNid_ok e nid).mp hx
    exact ⟨hb, hk, h1, h2, ⟨t, v, nid, ht, hv1, hlen, hd, hf⟩, hl, ho⟩
  · rintro ⟨hb, hk, h1, h2, ⟨t, v, nid, ht, hv1, hlen, hd, hf⟩, hl, ho⟩
    exact ⟨hb, nid, (validate_ok cfg now e nid).mpr ⟨hk, h1, h2, (extractNid_ok e nid).mpr ⟨t, v, ht, hv1, hlen, hd⟩⟩,
      hf, hl, ho⟩

/-- the result `handed g` is exactly: opened for a group with that MLS group id, and the plaintext is an MLS
    message of that very group -/
theorem wrap_handed_iff (cfg : Cfg) (now : Nat) (st : Store) (e : Ev) (gid : Nat) :
    (process cfg now st e).2 = .handed gid ↔ ∃ g, outer cfg now st e = .opened g (.mls g.gid) ∧ g.gid = gid := by
  constructor
  · intro h
    unfold process at h
    generalize ho : outer cfg now st e = o at h
    cases o with
    | opened g i =>
      dsimp only at h
      by_cases hi : i = .mls g.gid
      · rw [if_pos hi] at h; exact ⟨g, hi ▸ rfl, Res.handed.inj h⟩
      · rw [if_neg hi] at h; cases h
    | blockedAs r =>
      rcases blockedAs_cases ho with rfl | ⟨_, _, _, _, rfl⟩ <;> cases h
    | _ => cases h
  · rintro ⟨g, ho, rfl⟩
    rw [process, ho]
    exact congrArg Prod.snd (if_pos rfl)

/-- with pairwise distinct current ids (both backends enforce it) "the group found under the id" is THE group
    whose current nostr group id equals the tag -/
theorem wrap_accept_unique (cfg : Cfg) (now : Nat) (st : Store) (e : Ev) (g : Group) (i : Inner)
    (hd : st.groups.Pairwise (fun a b => a.nid ≠ b.nid)) (h : outer cfg now st e = .opened g i) :
    g ∈ st.groups ∧ extractNid e = .ok g.nid ∧ ∀ g' ∈ st.groups, extractNid e = .ok g'.nid → g' = g := by
  obtain ⟨hm, hx⟩ := routed_current_id (r := .ok i) h
  refine ⟨hm, hx, fun g' hg' hx' => ?_⟩
  rw [hx] at hx'
  have h1 := (findGroup_iff hd g.nid g').mpr ⟨hg', (Except.ok.inj hx').symm⟩
  rw [(findGroup_iff hd g.nid g).mpr ⟨hm, rfl⟩] at h1
  exact (Option.some.inj h1).symm

/-! ### 2. a refused event has no effect -/

/-- **wrap_refuse_frame**: whatever the outer layer answers (refusal, hand-over, even the panic), every group's
    nostr id, epochs, exporter state, loadability and opaque inner state (MLS state, members, data, proposals,
    messages) are exactly as before, every OTHER event's record is exactly as before, and a group's secret cache
    either is as before or gained the current epoch's own secret — for all stores and events.  In particular
    this holds whenever `process_message` reports failure. -/
theorem wrap_refuse_frame (cfg : Cfg) (now : Nat) (st : Store) (e : Ev) :
    (process cfg now st e).1.groups.map Group.frame = st.groups.map Group.frame ∧
    (∀ n, n ≠ e.id → alookup n (process cfg now st e).1.recs = alookup n st.recs) ∧
    (∀ x ∈ (process cfg now st e).1.groups, ∃ y ∈ st.groups, x = y ∨ x = y.ensure) := by
  refine ⟨?_, fun n h => process_recs_other cfg now st e n h, fun x hx => ?_⟩
  · rcases process_groups cfg now st e with h | ⟨g, _, _, h⟩
    · rw [h]
    · rw [h, touch_frame]
  · rcases process_groups cfg now st e with h | ⟨g, _, _, h⟩ <;> rw [h] at hx
    · exact ⟨x, hx, Or.inl rfl⟩
    · exact touch_mem hx

/-- the full statement (the groups are EQUAL after a refusal) … -/
def wrap_refuse_frame_full : Prop :=
  ∀ (cfg : Cfg) (now : Nat) (st : Store) (e : Ev), isRefusal (process cfg now st e).2 = true → (process cfg now st e).1.groups = st.groups

/-- … holds when the current epoch's exporter secret of every group is already stored (it is after the first
    message sent or received in that epoch) -/
theorem wrap_refuse_frame_stored (cfg : Cfg) (now : Nat) (st : Store) (e : Ev)
    (hs : ∀ g ∈ st.groups, (alookup g.epoch g.secrets).isSome = true) :
    (process cfg now st e).1.groups = st.groups := by
  rcases process_groups cfg now st e with h | ⟨g, r, ho, h⟩
  · exact h
  · rw [h]; exact touch_of_stored _ g (hs g (routed_current_id ho).1)

/-- … and is false in general: a refused event fills the exporter-secret cache of the group it was routed to
    (`exporter_secret()` stores what it exports before the decryption is even tried) -/
def wG : Group := { gid := 0, nid := [1, 2], epoch := 1, recEpoch := 1, curSid := 7, secrets := [], loadable := true, inner := 0 }
def wTag : Tag := [hName, [48, 49, 48, 50] ++ List.replicate 60 48]    -- "h", "0102" followed by zeros …
def wGl : Group := { wG with nid := [1, 2] ++ List.replicate 30 0 }
def wSt : Store := ⟨[wGl], []⟩
def wGarbage : Ev := { id := 1, kind := 445, createdAt := 1000, tags := [wTag], content := .notBase64 }

theorem wrap_refuse_frame_full_false : ¬ wrap_refuse_frame_full := by
  intro h
  have := h Cfg.default 1000 wSt wGarbage (by decide +kernel)
  revert this; decide +kernel

/-! ### 3. routing -/

/-- **wrap_routes_only_by_current_id**: whenever the answer names a group (the plaintext was handed to its MLS layer,
    or the event is reported Unprocessable for it), that group is in the store and the event's h tag decodes to
    its CURRENT nostr group id -/
theorem wrap_routes_only_by_current_id (cfg : Cfg) (now : Nat) (st : Store) (e : Ev) (gid : Nat)
    (h : (process cfg now st e).2 = .handed gid ∨ (process cfg now st e).2 = .unprocessable gid) :
    ∃ g ∈ st.groups, g.gid = gid ∧ extractNid e = .ok g.nid := by
  unfold process at h
  generalize ho : outer cfg now st e = o at h
  cases o with
  | blockedAs r =>
    -- `extract_mls_group_id_from_event`
    rcases blockedAs_cases ho with rfl | ⟨nid, g, hx, hf, rfl⟩
    · rcases h with h | h <;> cases h
    · obtain ⟨hm, hn⟩ := findGroup_some hf
      rcases h with h | h <;> cases h
      exact ⟨g, hm, rfl, hn ▸ hx⟩
  | opened g i =>
    obtain ⟨hm, hx⟩ := routed_current_id (r := .ok i) ho
    refine ⟨g, hm, ?_, hx⟩
    simp only at h
    split at h <;> rcases h with h | h <;> cases h <;> rfl
  | _ => rcases h with h | h <;> cases h

/-- **wrap_old_id_no_longer_routes**: after the group `gid` — the only holder of the id `old` — rotated to another id,
    an event tagged with `old` is handed to NO group and reported for no group, whatever else it carries -/
theorem wrap_old_id_no_longer_routes (cfg : Cfg) (now : Nat) (st : Store) (e : Ev) (gid : Nat) (old new : Bytes)
    (hne : new ≠ old) (honly : ∀ g ∈ st.groups, g.nid = old → g.gid = gid) (htag : extractNid e = .ok old) (g' : Nat) :
    (process cfg now (rotate st gid new) e).2 ≠ .handed g' ∧ (process cfg now (rotate st gid new) e).2 ≠ .unprocessable g' := by
  have none_left : ∀ g ∈ (rotate st gid new).groups, g.nid ≠ old := by
    intro g hg
    unfold rotate at hg
    obtain ⟨y, hy, rfl⟩ := List.mem_map.mp hg
    split
    · exact hne
    · rename_i hgid
      intro hn
      exact hgid (honly y hy hn)
  refine not_or.mp fun h => ?_
  obtain ⟨g, hg, _, hx⟩ := wrap_routes_only_by_current_id cfg now _ e g' h
  rw [htag] at hx
  exact none_left g hg (Except.ok.inj hx).symm

/-! ### 4. re-delivery of a refused event -/

/-- **wrap_redeliver**: once an event was refused, offering it again — any number of times, at any later clock
    readings — leaves the WHOLE store (groups incl. the secret cache, every record) exactly as the first refusal
    left it, and every further answer is again a refusal (Unprocessable / PreviouslyFailed from step 0) -/
theorem wrap_redeliver (cfg : Cfg) (now : Nat) (st : Store) (e : Ev) (h : isRefusal (process cfg now st e).2 = true)
    (nows : List Nat) :
    offerAgain cfg e nows (process cfg now st e).1 = (process cfg now st e).1 ∧
    ∀ now', (process cfg now' (process cfg now st e).1 e).1 = (process cfg now st e).1 ∧
            isRefusal (process cfg now' (process cfg now st e).1 e).2 = true := by
  have hb := refused_then_blocked cfg now st e h
  have step : ∀ now', process cfg now' (process cfg now st e).1 e = ((process cfg now st e).1, blockedResult (process cfg now st e).1 e) :=
    fun now' => blocked_process cfg now' _ e hb
  constructor
  · induction nows with
    | nil => rfl
    | cons n r ih =>
      unfold offerAgain
      rw [step n]
      exact ih
  · intro now'
    rw [step now']
    exact ⟨rfl, blockedResult_refusal _ e⟩

/-! ### 5. what a refusal writes -/

/-- the error kinds the outer layer itself returns -/
def outerError (cfg : Cfg) (now : Nat) (st : Store) (e : Ev) : Option ErrKind :=
  match outer cfg now st e with
  | .invalid k => some k
  | .noGroup => some .groupNotFound
  | .notLoadable _ => some .groupNotFound
  | .undecryptable _ => some .message
  | _ => none

/-- **wrap_failed_record**: an error of the outer layer is returned as that error and leaves a record in state
    Failed whose reason is the sanitised reason of that error kind; the message id of an earlier record is kept -/
theorem wrap_failed_record (cfg : Cfg) (now : Nat) (st : Store) (e : Ev) (k : ErrKind) (h : outerError cfg now st e = some k) :
    (process cfg now st e).2 = .err k ∧
    ∃ r, alookup e.id (process cfg now st e).1.recs = some r ∧ r.state = 3 ∧ r.reason = some (reasonOf k) ∧
      r.mid = (alookup e.id st.recs).bind (·.mid) := by
  unfold outerError at h
  unfold process
  generalize outer cfg now st e = o at h
  cases o <;> cases h <;> exact ⟨rfl, recordFailure_self _ _ _ _ _⟩

/-- **wrap_reason_table**: the reason written for any error kind of this layer is an entry of the fixed table
    `sanitize_error_reason` can return (regenerated from the source), and no entry of that table can carry an
    identifier: at most 24 bytes, lower-case letters and underscores only -/
theorem wrap_reason_table (k : ErrKind) :
    reasonOf k < Generated.sanitizeReasons.length ∧
    ∀ s ∈ Generated.sanitizeReasons, s.length ≤ 24 ∧ ∀ c ∈ s, (97 ≤ c ∧ c ≤ 122) ∨ c = 95 := by
  constructor
  · cases k <;> decide +kernel
  · decide +kernel

/-- the reasons of the early failures, spelled out -/
theorem wrap_reason_values :
    Generated.sanitizeReasons[reasonOf .unexpectedEvent]? =
      some [105, 110, 118, 97, 108, 105, 100, 95, 101, 118, 101, 110, 116, 95, 116, 121, 112, 101] ∧       -- "invalid_event_type"
    Generated.sanitizeReasons[reasonOf .invalidTimestamp]? = Generated.sanitizeReasons[reasonOf .missingTag]? ∧
    Generated.sanitizeReasons[reasonOf .missingTag]? = Generated.sanitizeReasons[reasonOf .multipleTags]? ∧
    Generated.sanitizeReasons[reasonOf .multipleTags]? = Generated.sanitizeReasons[reasonOf .invalidFormat]? ∧
    reasonOf .groupNotFound ≠ reasonOf .message ∧ reasonOf .message = defaultReason := by
  decide +kernel

/-! ### 6. panics -/

/-- the full statement: the outer layer never panics … -/
def wrap_no_panic_full : Prop :=
  ∀ (cfg : Cfg) (now : Nat) (st : Store) (e : Ev), (process cfg now st e).2 ≠ .panic

/-- a payload that passes the HMAC under a secret the receiver tries, with a buffer of 0 or 1 bytes -/
def wShort : Ev :=
  { id := 2, kind := 445, createdAt := 1000, tags := [wTag],
    content := .bytes { version := 2, len := 65, macKey := some 7, claimed := 0, inner := .garbage } }

/-- … and it HOLDS since /repo a6aae31 (`fix:` payloads too short for NIP-44 v2 are refused before the nip44 call):
    the regenerated fact `mdkMinPayloadLen` = 99 ≥ minPayload + 2, so `wrap_no_panic_of_guard` (below) applies.  Before
    the repair the statement was false at `wShort` (nostr's NIP-44 v2 reads `buffer[0..2]` after the HMAC check without
    checking that the buffer has two bytes); `corpus/C06/wrap_nip44_short_buffer_panic.trace` is the regression trace. -/
theorem wrap_short_payload_refused :
    (process Cfg.default 1000 wSt wShort).2 ≠ .panic ∧
    (process Cfg.default 2000 (process Cfg.default 1000 wSt wShort).1 wShort).2 ≠ .panic ∧
    (alookup wShort.id (process Cfg.default 1000 wSt wShort).1.recs).isSome = true := by decide +kernel

/-- the inputs on which NIP-44 can panic: MAC-valid payloads of `minPayload` or `minPayload + 1` bytes -/
def shortSealed (c : Content) : Bool :=
  match c with
  | .bytes p => p.macKey.isSome && decide (minPayload ≤ p.len) && decide (p.len < minPayload + 2)
  | _ => false

theorem open_panic {c : Content} {k : Nat} (h : nip44Open c k = .panic) :
    shortSealed c = true ∧ Generated.nip44LenPrefixGuarded = false ∧ ∃ p, c = .bytes p ∧ Generated.mdkMinPayloadLen ≤ p.len := by
  obtain ⟨p, rfl, hk, hmin, hlen, hp⟩ := nip44Open_ne_err (c := c) (k := k) (by rw [h]; nofun)
  obtain ⟨hshort, hg⟩ := hp h
  refine ⟨?_, hg, p, rfl, hmin⟩
  simp only [shortSealed, hk, Option.isSome_some, Bool.true_and, Bool.and_eq_true, decide_eq_true_eq]
  exact ⟨hlen, hshort⟩

/-- **wrap_no_panic_partial**: an event whose content is not such a short sealed payload never makes the outer
    layer panic — for every store, configuration and clock -/
theorem wrap_no_panic_partial (cfg : Cfg) (now : Nat) (st : Store) (e : Ev) (h : shortSealed e.content = false) :
    (process cfg now st e).2 ≠ .panic := by
  intro hp
  obtain ⟨k, hk⟩ := process_panic hp
  rw [(open_panic hk).1] at h
  cases h

/-- **wrap_no_panic_of_guard**: as soon as the regenerated facts say that the length prefix is guarded — in nostr,
    or by a length check of mdk's own of at least `minPayload + 2` decoded bytes — the outer layer never panics -/
theorem wrap_no_panic_of_guard
    (hg : Generated.nip44LenPrefixGuarded = true ∨ minPayload + 2 ≤ Generated.mdkMinPayloadLen) : wrap_no_panic_full := by
  intro cfg now st e hp
  obtain ⟨k, hk⟩ := process_panic hp
  obtain ⟨hs, hn, p, hc, hm⟩ := open_panic hk
  rcases hg with hg | hg
  · rw [hg] at hn; cases hn
  · rw [hc] at hs
    unfold shortSealed at hs
    simp only [Bool.and_eq_true, decide_eq_true_eq] at hs
    omega

/-- **wrap_no_panic**: the full statement, for every configuration, clock, store and event -/
theorem wrap_no_panic : wrap_no_panic_full := wrap_no_panic_of_guard (Or.inr (by decide))

/-! ### ties to Model.Client (world engine), whose dedup rule and lookback are written out by hand there -/

/-- the record states that block re-processing are the two Model.Client tests for (`r.state == 3 || r.state == 4` in
    `deliverOnce`, Props/C07.lean `dedup_blocks`), here as a regenerated fact -/
theorem wrap_dedup_states_as_in_client (r : Rec) : blocked r = (r.state == 3 || r.state == 4) := by
  unfold blocked
  have : Generated.dedupBlockedStates = [3, 4] := by decide
  rw [this]
  simp only [List.contains, List.elem]
  cases (r.state == 3) <;> cases (r.state == 4) <;> rfl

/-- `Model.Client.outerOpens` looks back `List.range 5` epochs: the regenerated DEFAULT_EPOCH_LOOKBACK -/
theorem wrap_lookback_as_in_client : Generated.epochLookback = 5 := by decide

/-! ### non-vacuity: a well-formed event of a two-group store reaches the MLS layer of the right group; an event that
    carries the other group's id reaches the other group; the same ciphertext six epochs later does not open -/
def xA : Group := { gid := 0, nid := [1, 2] ++ List.replicate 30 0, epoch := 3, recEpoch := 3, curSid := 13, secrets := [(1, 11), (2, 12)], loadable := true, inner := 5 }
def xB : Group := { gid := 1, nid := [3, 4] ++ List.replicate 30 0, epoch := 9, recEpoch := 9, curSid := 29, secrets := [(3, 23), (9, 29)], loadable := true, inner := 6 }
def xSt : Store := ⟨[xA, xB], []⟩
def xTagB : Tag := [hName, [48, 51, 48, 52] ++ List.replicate 60 48]
def xGood (sid gid : Nat) (tag : Tag) : Ev :=
  { id := 9, kind := 445, createdAt := 1000, tags := [[[101], [49]], tag],
    content := .bytes { version := 2, len := 65 + 2 + 64, macKey := some sid, claimed := 40, inner := .mls gid } }

example : (process Cfg.default 1000 xSt (xGood 12 0 wTag)).2 = .handed 0 ∧        -- previous epoch's secret of A
          (process Cfg.default 1000 xSt (xGood 29 1 xTagB)).2 = .handed 1 ∧       -- current secret of B
          (process Cfg.default 1000 xSt (xGood 23 1 xTagB)).2 = .err .message ∧   -- six epochs back: outside the lookback
          (process Cfg.default 1000 xSt (xGood 12 0 xTagB)).2 = .err .message ∧   -- A's message under B's id: B's secrets do not open it
          isRefusal (process Cfg.default 1000 xSt (xGood 23 1 xTagB)).2 = true := by decide +kernel

/-- the hypothesis of `wrap_old_id_no_longer_routes` is satisfiable: A rotates away from its id -/
example : (∀ g ∈ xSt.groups, g.nid = xA.nid → g.gid = 0) ∧ (extractNid (xGood 12 0 wTag)).toOption = some xA.nid ∧
    (process Cfg.default 1000 (rotate xSt 0 ([9, 9] ++ List.replicate 30 0)) (xGood 12 0 wTag)).2 = .err .groupNotFound := by decide +kernel

/-- the hypothesis of `wrap_refuse_frame_stored` is satisfiable -/
example : ∀ g ∈ [{ xA with secrets := [(3, 13)] }, xB], (alookup g.epoch g.secrets).isSome = true := by decide

end MdkVerif.Props.C06Wrap
