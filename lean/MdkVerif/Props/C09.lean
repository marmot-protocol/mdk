import MdkVerif.Model.Store
import MdkVerif.Proofs.Ite
import MdkVerif.Proofs.Store
/-
  C09 — Rollback restores exactly one group's state and destroys nothing else.
  All statements are for every store value, both backends, every group id and snapshot name.
-/
namespace MdkVerif.Props.C09
open MdkVerif MdkVerif.Store List

/-- a snapshot is well formed when the record it holds belongs to the group it was taken for
    (true of every snapshot `takeSnap` produces: `takeSnap_wf`, hence of every stored one: `snaps_wf_step`) -/
def SnapWF (p : Snap) : Prop := ∀ g, p.group = some g → g.gid = p.gid

theorem takeSnap_wf (s : Store) (gid name ts : Nat) : SnapWF (takeSnap s gid name ts) := by
  intro g hg
  simp only [takeSnap] at hg ⊢
  exact findGroup_gid hg

/-- the restored relay set -/
theorem relays_after (p : Snap) (gid : Nat) (l : List (Nat × List Nat)) :
    (alookup gid (if p.relays.isEmpty then aerase gid l else ainsert gid p.relays (aerase gid l))).getD []
      = p.relays := by
  by_cases he : p.relays.isEmpty = true
  · have : p.relays = [] := by simpa using he
    simp [he, alookup_aerase_self, this]
  · simp [he, alookup_ainsert_self]

/-! ### restore_exact: the group's record, relays, per-epoch secrets and MLS rows are exactly the
    snapshot's, i.e. what `takeSnap` copied when the snapshot was taken -/

theorem restore_exact (s s' : Store) (gid name : Nat) (p : Snap)
    (hf : findSnap s gid name = some p) (hwf : SnapWF p)
    (hr : snapRollback s gid name = some s') :
    findGroup s' gid = p.group ∧ (alookup gid s'.relays).getD [] = p.relays ∧
    groupSecrets s' gid = p.secrets ∧ groupMls s' gid = p.mls := by
  obtain ⟨_, hg, _⟩ := findSnap_spec hf
  subst hg
  simp only [snapRollback, hf] at hr
  -- the group's record after the restore, whichever backend wrote it
  have hgrp : findGroup { s with groups := match p.group with
      | some g => replaceGroup g s.groups
      | none => s.groups.filter (·.gid != p.gid) } p.gid = p.group := by
    cases hpg : p.group with
    | none => exact find_filter_ne_self _ _
    | some g => rw [← hwf g hpg]; exact find_replaceGroup_self g _
  rcases backend_cases s with hb | hb
  · rw [restoreFrom_mem p hb] at hr
    obtain rfl := Option.some.inj hr
    exact ⟨hgrp, relays_after p _ _, rows_restore_self _ _ _, rows_restore_self _ _ _⟩
  · rw [restoreFrom_sql p hb] at hr
    cases hpg : p.group with
    | none => rw [hpg] at hr; cases hr
    | some g =>
      rw [hpg] at hr hgrp
      obtain rfl := Option.some.inj (Option.ite_none_left_eq_some.mp hr).2
      exact ⟨hgrp, by simp only [alookup_ainsert_self, Option.getD_some], rows_restore_self _ _ _, rows_restore_self _ _ _⟩

/-! ### restore_frame: nothing that belongs to other groups changes; no message, processed-message
    record, welcome, processed-welcome or other snapshot is destroyed; exactly the named snapshot is
    consumed.  For SQLite `s'.msgs = s.msgs` depends on `Generated.sqlRestoreCascadesMessages = false`
    (re-extracted each run from the restore SQL and the schema's ON DELETE CASCADE edges). -/

theorem restore_frame (s s' : Store) (gid name : Nat) (p : Snap)
    (hf : findSnap s gid name = some p) (hwf : SnapWF p)
    (hr : snapRollback s gid name = some s') :
    (∀ k, k ≠ gid → findGroup s' k = findGroup s k ∧ alookup k s'.relays = alookup k s.relays ∧
                    groupSecrets s' k = groupSecrets s k ∧ groupMls s' k = groupMls s k) ∧
    s'.msgs = s.msgs ∧ s'.pms = s.pms ∧ s'.welcomes = s.welcomes ∧ s'.pws = s.pws ∧
    s'.snaps = dropSnap gid name s.snaps := by
  have hcas : Generated.sqlRestoreCascadesMessages = false := by decide
  obtain ⟨_, hg, hn⟩ := findSnap_spec hf
  subst hg; subst hn
  simp only [snapRollback, hf] at hr
  -- another group's record after the restore, whichever backend wrote it
  have hgrp : ∀ k, k ≠ p.gid → findGroup { s with groups := match p.group with
      | some g => replaceGroup g s.groups
      | none => s.groups.filter (·.gid != p.gid) } k = findGroup s k := by
    intro k hk
    cases hpg : p.group with
    | none => exact find_filter_ne_other _ _ _ hk
    | some g => exact find_replaceGroup_ne g _ k (by rw [hwf g hpg]; exact hk)
  have hrows : ∀ (rows : List (Nat × Nat × Nat)) (kv : List (Nat × Nat)) k, k ≠ p.gid →
      ((rows.filter (·.1 != p.gid) ++ kv.map (fun x => (p.gid, x.1, x.2))).filter (·.1 == k)).map (·.2) =
        (rows.filter (·.1 == k)).map (·.2) := fun rows kv k hk => by rw [rows_restore_ne _ _ _ _ hk]
  rcases backend_cases s with hb | hb
  · rw [restoreFrom_mem p hb] at hr
    obtain rfl := Option.some.inj hr
    refine ⟨fun k hk => ⟨hgrp k hk, ?_, hrows _ _ k hk, hrows _ _ k hk⟩, rfl, rfl, rfl, rfl, rfl⟩
    show alookup k (if p.relays.isEmpty then _ else _) = _
    split
    · exact alookup_aerase_ne _ _ _ hk
    · rw [alookup_ainsert_ne _ _ _ _ hk, alookup_aerase_ne _ _ _ hk]
  · rw [restoreFrom_sql p hb] at hr
    cases hpg : p.group with
    | none => rw [hpg] at hr; cases hr
    | some g =>
      rw [hpg] at hr hgrp
      obtain rfl := Option.some.inj (Option.ite_none_left_eq_some.mp hr).2
      refine ⟨fun k hk => ⟨hgrp k hk, ?_, hrows _ _ k hk, hrows _ _ k hk⟩, by simp only [hcas]; rfl, rfl, rfl, rfl, rfl⟩
      show alookup k (ainsert p.gid p.relays (aerase p.gid s.relays)) = _
      rw [alookup_ainsert_ne _ _ _ _ hk, alookup_aerase_ne _ _ _ hk]

/-- a refused rollback (unknown snapshot, or SQLite's UNIQUE conflict) leaves the store as it was -/
theorem restore_refused_no_effect (s : Store) (gid name : Nat) (h : snapRollback s gid name = none) :
    (step s (.snapRollback gid name)).1 = s := by
  simp [step, okErr, h]

/-- other snapshots survive a rollback -/
theorem restore_keeps_other_snapshots (s s' : Store) (gid name : Nat) (p q : Snap)
    (hf : findSnap s gid name = some p) (hwf : SnapWF p) (hr : snapRollback s gid name = some s')
    (hq : q ∈ s.snaps) (hne : ¬ (q.gid = gid ∧ q.name = name)) : q ∈ s'.snaps := by
  rw [(restore_frame s s' gid name p hf hwf hr).2.2.2.2.2]
  simp only [dropSnap, List.mem_filter]
  refine ⟨hq, ?_⟩
  simp only [Bool.not_eq_true', Bool.and_eq_false_iff, beq_eq_false_iff_ne]
  by_cases c : q.gid = gid
  · right; intro h; exact hne ⟨c, h⟩
  · left; exact c

/-! ### snapshot_pure: taking, releasing, listing or pruning snapshots changes no live state -/

/-- everything except the snapshot table -/
def live (s : Store) : Store := { s with snaps := [] }

theorem snapshot_pure_create (s s' : Store) (gid name ts : Nat) (h : snapCreate s gid name ts = some s') :
    live s' = live s := by
  rcases snapCreate_some h with ⟨rfl, _⟩ | rfl <;> rfl

theorem snapshot_pure_release (s : Store) (gid name : Nat) : live (snapRelease s gid name) = live s := rfl
theorem snapshot_pure_prune (s : Store) (t : Nat) : live (snapPrune s t).1 = live s := rfl
theorem snapshot_pure_list (s : Store) (gid : Nat) : (step s (.snapList gid)).1 = s := rfl

/-! ### retake_replaces: re-taking a snapshot under an existing name replaces it -/

/-- on both backends a successful (re-)take leaves exactly the new snapshot under that name.
    (That a re-take on SQLite does succeed is `retake_succeeds`, which rests on `Generated.sqlSnapshotRetakeReplaces`.) -/
theorem retake_replaces (s s' : Store) (gid name ts : Nat)
    (hrows : (takeSnap s gid name ts).rows ≠ 0 ∨ s.backend = .mem)
    (h : snapCreate s gid name ts = some s') :
    findSnap s' gid name = some (takeSnap s gid name ts) := by
  rcases snapCreate_some h with ⟨_, hb, h0⟩ | rfl
  · rcases hrows with c | c
    · exact absurd h0 c
    · rw [hb] at c; cases c
  · exact findSnap_drop_append s.snaps (takeSnap s gid name ts)

/-- and taking a snapshot of an existing group never fails, whether or not the name is in use -/
theorem retake_succeeds (s : Store) (gid name ts : Nat) (hg : (findGroup s gid).isSome) :
    (snapCreate s gid name ts).isSome := by
  rw [snapCreate_of_group name ts hg]; rfl

/-! ### every stored snapshot is well formed, in every reachable store -/

def SnapsWF (s : Store) : Prop := ∀ p ∈ s.snaps, SnapWF p

theorem snaps_wf_empty (b : Backend) : SnapsWF (Store.empty b) := by
  intro p hp; simp [Store.empty] at hp

theorem snaps_wf_step (s : Store) (op : Op) (h : SnapsWF s) : SnapsWF (step s op).1 := by
  intro p hp
  rcases step_snaps s op p hp with h1 | ⟨g, n, t, _, rfl⟩
  · exact h p h1
  · exact takeSnap_wf s g n t

/-- in every store reachable from the empty one by any operation sequence, every stored snapshot
    is well formed — so `restore_exact` / `restore_frame` apply to every rollback of every history -/
theorem snaps_wf_reachable (b : Backend) (ops : List Op) : SnapsWF (run (Store.empty b) ops) := by
  exact foldl_invariant snaps_wf_step ops _ (snaps_wf_empty b)

/-- **C09 for every history**: after any operation sequence on either backend, a successful rollback
    restores the group exactly and leaves everything else intact -/
theorem C09_rollback_any_history (b : Backend) (ops : List Op) (gid name : Nat) (s' : Store)
    (hr : snapRollback (run (Store.empty b) ops) gid name = some s') :
    ∃ p, findSnap (run (Store.empty b) ops) gid name = some p ∧
      findGroup s' gid = p.group ∧ (alookup gid s'.relays).getD [] = p.relays ∧
      groupSecrets s' gid = p.secrets ∧ groupMls s' gid = p.mls ∧
      s'.msgs = (run (Store.empty b) ops).msgs ∧ s'.pms = (run (Store.empty b) ops).pms ∧
      s'.welcomes = (run (Store.empty b) ops).welcomes ∧ s'.pws = (run (Store.empty b) ops).pws ∧
      s'.snaps = dropSnap gid name (run (Store.empty b) ops).snaps ∧
      (∀ k, k ≠ gid → findGroup s' k = findGroup (run (Store.empty b) ops) k ∧
          alookup k s'.relays = alookup k (run (Store.empty b) ops).relays ∧
          groupSecrets s' k = groupSecrets (run (Store.empty b) ops) k ∧
          groupMls s' k = groupMls (run (Store.empty b) ops) k) := by
  cases hf : findSnap (run (Store.empty b) ops) gid name with
  | none => simp [snapRollback, hf] at hr
  | some p =>
    have hwf := snaps_wf_reachable b ops p (findSnap_spec hf).1
    obtain ⟨e1, e2, e3, e4⟩ := restore_exact _ s' gid name p hf hwf hr
    obtain ⟨f0, f1, f2, f3, f4, f5⟩ := restore_frame _ s' gid name p hf hwf hr
    exact ⟨p, rfl, e1, e2, e3, e4, f1, f2, f3, f4, f5, f0⟩

/-- non-vacuity: a concrete history with two groups, messages, a snapshot, later writes and a rollback -/
def exOps : List Op :=
  [ .saveGroup { gid := 1, nid := 11, nameLen := 1, descLen := 0, admins := 1, img := 0, lastId := none, lastAt := none, lastProc := none, epoch := 0, state := 0, selfUpd := 0 },
    .saveGroup { gid := 2, nid := 12, nameLen := 1, descLen := 0, admins := 1, img := 0, lastId := none, lastAt := none, lastProc := none, epoch := 0, state := 0, selfUpd := 0 },
    .saveSecret 1 0 7, .mlsWrite 1 0 5, .replaceRelays 1 [1, 2],
    .snapCreate 1 3 1000,
    .saveMessage { id := 7, gid := 1, pk := 0, kind := 9, created := 100, processed := 101, content := 0, contentLen := 4, tag := 0, wrapper := 5, epoch := some 1, state := 1 },
    .saveGroup { gid := 1, nid := 11, nameLen := 2, descLen := 0, admins := 1, img := 0, lastId := none, lastAt := none, lastProc := none, epoch := 1, state := 0, selfUpd := 0 },
    .saveSecret 1 1 8, .mlsWrite 1 0 6 ]

example : (snapRollback (run (Store.empty .sql) exOps) 1 3).isSome = true := by decide
example : ((snapRollback (run (Store.empty .sql) exOps) 1 3).map (·.msgs.length)) = some 1 := by decide
example : ((snapRollback (run (Store.empty .mem) exOps) 1 3).map (fun s => (findGroup s 1).map (·.epoch))) = some (some 0) := by decide

end MdkVerif.Props.C09
