import MdkVerif.Model.Ratchet
import MdkVerif.Proofs.Ratchet
/-
  C02, window part — application messages under reordering inside / outside the three configured windows
  (`MdkConfig::out_of_order_tolerance` T, `maximum_forward_distance` F, `max_past_epochs` P).

  Model: `Model/Ratchet.lean` (OpenMLS 0.8.1's DecryptionRatchet / MessageSecretsStore as read from its source —
  an ASSUMPTION about the dependency, checked against the real crate by the `msgwin` correspondence run — and what
  mdk-core does with the verdict).  All statements are for ALL T, F, P, all burst sizes and all delivery lists.
-/
namespace MdkVerif.Props.C02Win
open MdkVerif.Ratchet

/-! ## one sender's messages of one epoch at one receiver (the ratchet) -/

/-- **exactly_once**, for ANY delivery list (any order, any repetition, no window hypothesis): no generation is
    ever accepted twice -/
theorem exactly_once (T F : Nat) (l : List Nat) : (acceptedGens T F Ratchet.new l).Nodup :=
  (acceptedGens_nodup l (inv_new T)).1

/-- **inside_windows_all_accepted** (`inside_windows_all_stored` at the level of the ratchet): if the delivery list
    offers every generation once and never offers one more than `F` ahead of the head nor more than `T` behind it
    (`inWin`, decided on the list alone), then every offer is accepted, and a second offer of any of them afterwards is refused and leaves the ratchet as it is -/
theorem inside_windows_all_accepted (T F : Nat) (l : List Nat) (hn : l.Nodup) (hw : inWin T F 0 l = true) :
    (run T F Ratchet.new l).2 = l.map (fun _ => Verdict.accepted) ∧
    acceptedGens T F Ratchet.new l = l ∧
    ∀ g ∈ l, (recv T F (run T F Ratchet.new l).1 g).2 ≠ .accepted ∧
             (recv T F (run T F Ratchet.new l).1 g).1 = (run T F Ratchet.new l).1 := by
  have h := run_inside (T := T) (F := F) l (inv_new T) hn (by simp) hw
  refine ⟨h.1, h.2, ?_⟩
  intro g hg
  have inv := run_inv (T := T) (F := F) l (inv_new T)
  rw [h.2] at inv
  have hne : (recv T F (run T F Ratchet.new l).1 g).2 ≠ .accepted := by
    intro hacc
    exact (recv_accepted_inv inv hacc).1 (by simp [hg])
  exact ⟨hne, recv_refused_same inv hne⟩

/-- the hypothesis is satisfiable by a non-trivial permutation: T = 2, F = 3, seven messages -/
example : inWin 2 3 0 [1, 0, 3, 2, 5, 4, 6] = true ∧ [1, 0, 3, 2, 5, 4, 6].Nodup := by decide +kernel
example : (run 2 3 Ratchet.new [1, 0, 3, 2, 5, 4, 6]).2 = List.replicate 7 Verdict.accepted := by decide +kernel
/-- … and it is not vacuous the other way: the same seven messages reversed leave the window (T = 2) -/
example : inWin 2 3 0 [6, 5, 4, 3, 2, 1, 0] = false := by decide +kernel
example : (run 2 3 Ratchet.new [3, 2, 1, 0]).2 = [.accepted, .accepted, .tooOld, .tooOld] := by decide +kernel

/-- **outside_window_refused**: the verdict on the next offer, for every state a delivery list can lead to, in terms of
    the history alone (`A` = the generations accepted so far, `headOf A` = one more than the largest of them):
    too far ahead, too old, or already used ⇒ refused with exactly that verdict; accepted iff none of the three (and the
    generation is not `u32::MAX`); a refusal never changes the ratchet; `IndexOutOfBounds` cannot happen -/
theorem outside_window_refused (T F : Nat) (l : List Nat) (g : Nat) :
    let r := (run T F Ratchet.new l).1
    let A := acceptedGens T F Ratchet.new l
    r.head = headOf A.reverse ∧
    ((r.head < u32Max - F ∧ g > r.head + F) → recv T F r g = (r, .tooFarAhead)) ∧
    (¬ (r.head < u32Max - F ∧ g > r.head + F) → (g < r.head ∧ r.head - g > T) → recv T F r g = (r, .tooOld)) ∧
    ((recv T F r g).2 = .reused ↔ (g ≤ r.head + F ∨ u32Max - F ≤ r.head) ∧ r.head ≤ g + T ∧ g ∈ A) ∧
    ((recv T F r g).2 = .accepted ↔ (g ≤ r.head + F ∨ u32Max - F ≤ r.head) ∧ r.head ≤ g + T ∧ g < u32Max ∧ g ∉ A) ∧
    ((recv T F r g).2 ≠ .accepted → (recv T F r g).1 = r) ∧
    (recv T F r g).2 ≠ .indexOutOfBounds := by
  intro r A
  have inv : Inv T r A.reverse := by simpa using run_inv (T := T) (F := F) l (inv_new T)
  refine ⟨inv.hd, fun h => recv_tooFar h, fun h1 h2 => recv_tooOld h1 h2, ?_, ?_,
    recv_refused_same inv, recv_never_oob inv g⟩
  · rw [(recv_spec F inv g).2.1, not_tooFar_iff, not_tooOld_iff, List.mem_reverse]
    exact ⟨fun ⟨a, b, _, d⟩ => ⟨a, b, d⟩, fun ⟨a, b, d⟩ => ⟨a, b, inv.lt g (List.mem_reverse.2 d), d⟩⟩
  · rw [(recv_spec F inv g).1, not_tooFar_iff, not_tooOld_iff, List.mem_reverse]

/-- the three refusals at work: T = 1, F = 2 -/
example : (run 1 2 Ratchet.new [3, 0, 1, 2, 2, 4, 1]).2 =
    [.tooFarAhead, .accepted, .accepted, .accepted, .reused, .accepted, .tooOld] := by decide +kernel

/-! ## window_monotone -/

/-- one offer, from states with the same history: what the smaller windows accept the larger ones accept -/
theorem window_monotone_step (T T' F F' : Nat) (hT : T ≤ T') (hF : F ≤ F') (r r' : Ratchet) (sim : Sim T r r') (g : Nat)
    (h : (recv T F r g).2 = .accepted) : (recv T' F' r' g).2 = .accepted := by
  have nf : ¬ TooFar F r g := fun hf => by rw [recv_tooFar hf] at h; cases h
  exact (sim_step hT hF sim g (fun hf => absurd hf nf)).2 h

/-- a larger TOLERANCE accepts, offer by offer, everything a smaller one accepts — for every delivery list -/
theorem window_monotone_T (T T' F : Nat) (hT : T ≤ T') (l : List Nat) (i : Nat)
    (h : (run T F Ratchet.new l).2[i]? = some .accepted) : (run T' F Ratchet.new l).2[i]? = some .accepted :=
  sim_run hT (Nat.le_refl F) l ⟨rfl, by simp [Ratchet.new]⟩ (farOK_same T F _ l) i h

/-- the full statement for the FORWARD DISTANCE … -/
def window_monotone_F_full : Prop :=
  ∀ (T F F' : Nat), F ≤ F' → ∀ (l : List Nat) (i : Nat),
    (run T F Ratchet.new l).2[i]? = some .accepted → (run T F' Ratchet.new l).2[i]? = some .accepted

/-- … is FALSE of OpenMLS's ratchet: with T = 2, generation 3 offered first is too far ahead for F = 1 (refused, nothing
    changes) and generation 0 is then accepted; with F = 5 generation 3 is accepted, the head jumps to 4, the queue is
    cut to T = 2 entries, and generation 0 is then too old.  (Not a defect of mdk: a property of the windows.) -/
theorem window_monotone_F_full_false : ¬ window_monotone_F_full := by
  intro h
  have := h 2 1 5 (by decide +kernel) [3, 0] 1 (by decide +kernel)
  revert this; decide +kernel

/-- what holds: a larger forward distance (and tolerance) accepts everything the smaller ones accept on every delivery
    list on which the smaller configuration never refuses an offer as too far ahead -/
theorem window_monotone_partial (T T' F F' : Nat) (hT : T ≤ T') (hF : F ≤ F') (l : List Nat)
    (hfar : Verdict.tooFarAhead ∉ (run T F Ratchet.new l).2) (i : Nat)
    (h : (run T F Ratchet.new l).2[i]? = some .accepted) : (run T' F' Ratchet.new l).2[i]? = some .accepted :=
  sim_run hT hF l ⟨rfl, by simp [Ratchet.new]⟩ (farOK_of_none l hfar) i h

example : Verdict.tooFarAhead ∉ (run 1 2 Ratchet.new [1, 0, 2, 4, 3]).2 := by decide +kernel

/-- inside the smaller windows is inside the larger ones -/
theorem window_monotone (T T' F F' : Nat) (hT : T ≤ T') (hF : F ≤ F') (l : List Nat) (hn : l.Nodup)
    (hw : inWin T F 0 l = true) :
    inWin T' F' 0 l = true ∧ (run T' F' Ratchet.new l).2 = l.map (fun _ => Verdict.accepted) :=
  ⟨inWin_mono hT hF 0 l hw, (inside_windows_all_accepted T' F' l hn (inWin_mono hT hF 0 l hw)).1⟩

/-! ## the past-epoch window (the message-secrets store) -/

inductive SOp where
  | commit                          -- a commit is merged: the epoch advances
  | offer (m sender g : Nat)        -- an application message of epoch m is offered
  deriving DecidableEq, Repr

def runStore (T F P : Nat) : Store → List SOp → Store
  | s, [] => s
  | s, .commit :: l => runStore T F P (advance P s) l
  | s, .offer m sender g :: l => runStore T F P (mlsRecv T F s m sender g).1 l

theorem runStore_pastOK (T F P e0 : Nat) (ops : List SOp) (s : Store) (h : PastOK P e0 s) :
    PastOK P e0 (runStore T F P s ops) := by
  induction ops generalizing s with
  | nil => exact h
  | cons o l ih =>
    cases o with
    | commit => exact ih _ (pastOK_advance h)
    | offer m sender g => exact ih _ (pastOK_mlsRecv h T F m sender g)

/-- **past-epoch window**: after ANY history of commits and offers, a message of epoch `m` finds no secrets
    (`epochGone`) iff the receiver is more than `P` epochs past `m` (or `m` is from before it joined) -/
theorem epoch_window (T F P e0 : Nat) (ops : List SOp) (m sender g : Nat) :
    let s := runStore T F P { epoch := e0, cur := [], pastTrees := [] } ops
    ((mlsRecv T F s m sender g).2 = .epochGone ↔ m < s.epoch ∧ (s.epoch - m > P ∨ m < e0)) ∧
    ((mlsRecv T F s m sender g).2 = .epochGone → (mlsRecv T F s m sender g).1 = s) := by
  intro s
  have ok : PastOK P e0 s := runStore_pastOK T F P e0 ops _ (pastOK_init P e0)
  have key := treeFor_none_iff ok m
  unfold mlsRecv
  cases ht : treeFor s m with
  | none => exact ⟨by simp [← key, ht], fun _ => rfl⟩
  | some t =>
    have hne : ¬ (m < s.epoch ∧ (s.epoch - m > P ∨ m < e0)) := by rw [← key, ht]; simp
    simp only
    have ng := recv_ne_epochGone T F ((tlookup sender t).getD Ratchet.new) g
    by_cases ha : (recv T F ((tlookup sender t).getD Ratchet.new) g).2 = .accepted
    · simp [ha, hne]
    · simp [ha, hne, ng]

/-! ## the mdk client: what is stored -/

inductive COp where
  | send (n mid tok : Nat)
  | commit
  | deliver (w : Msg)
  deriving DecidableEq, Repr

def runCl : Cl → List COp → Cl
  | c, [] => c
  | c, .send n mid tok :: l => runCl (send c n mid tok).1 l
  | c, .commit :: l => runCl (applyCommit c) l
  | c, .deliver w :: l => runCl (deliver c w).1 l

/-- every client a history of sends, commits and deliveries can lead to retains exactly the last
    `min P (epoch - joined)` epochs (the hypothesis `PastOK` of the theorems below) -/
theorem reachable_pastOK (ops : List COp) (c : Cl) (h : PastOK c.cfg.P c.joined c.st) :
    PastOK (runCl c ops).cfg.P (runCl c ops).joined (runCl c ops).st := by
  induction ops generalizing c with
  | nil => exact h
  | cons o l ih =>
    cases o with
    | send n mid tok => exact ih _ h
    | commit => exact ih _ (pastOK_advance h)
    | deliver w =>
      apply ih
      obtain ⟨h1, h2, _, h4⟩ := deliver_frame c w
      rw [h1, h2]
      rcases h4 with h4 | h4
      · rw [h4]; exact h
      · rw [h4]; exact pastOK_mlsRecv h _ _ _ _ _

theorem init_pastOK (id : Nat) (cfg : Cfg) (e0 : Nat) : PastOK (initCl id cfg e0).cfg.P (initCl id cfg e0).joined (initCl id cfg e0).st :=
  pastOK_init cfg.P e0

/-- **inside_windows_all_stored**: one sender's burst of one epoch, offered for the first time to a receiver that has not
    yet seen a message of that sender in that epoch, in ANY order that stays inside the out-of-order and forward-distance
    windows (`inWin`, decided on the delivery list), while the receiver is at most `max_past_epochs` — and at most
    mdk's fixed `DEFAULT_EPOCH_LOOKBACK` — epochs past the burst's epoch: every delivery returns the message, every
    message ends in exactly the row its sender gave it (id, author, content token; state Processed), and a second
    offer of any of them is `Unprocessable` and changes neither rows nor ratchets -/
theorem inside_windows_all_stored (c : Cl) (m s : Nat) (ws : List Msg)
    (ok : PastOK c.cfg.P c.joined c.st)
    (hs : s ≠ c.id) (hj : c.joined ≤ m) (hme : m ≤ c.st.epoch)
    (hP : c.st.epoch - m ≤ c.cfg.P) (hL : c.st.epoch - m ≤ c.cfg.L)
    (first : ∀ t, treeFor c.st m = some t → tlookup s t = none)
    (same : ∀ w ∈ ws, w.sender = s ∧ w.epoch = m)
    (gens : (ws.map (·.gen)).Nodup) (wrappers : (ws.map (·.n)).Nodup) (mids : (ws.map (·.mid)).Nodup)
    (fresh : ∀ w ∈ ws, tlookup w.n c.recs = none)
    (hw : inWin c.cfg.T c.cfg.F 0 (ws.map (·.gen)) = true) :
    (deliverAll c ws).2 = ws.map (fun w => Res.app w.mid) ∧
    (∀ w ∈ ws, findRow w.mid (deliverAll c ws).1.rows = some ⟨w.mid, s, 1, c.st.epoch, w.tok⟩) ∧
    (∀ k, k ∉ ws.map (·.mid) → findRow k (deliverAll c ws).1.rows = findRow k c.rows) ∧
    (∀ w ∈ ws, (deliver (deliverAll c ws).1 w).2 = .unprocessable ∧
               (deliver (deliverAll c ws).1 w).1.rows = (deliverAll c ws).1.rows ∧
               (deliver (deliverAll c ws).1 w).1.st = (deliverAll c ws).1.st) := by
  obtain ⟨r, ch⟩ := chain_of_window ok hs hj hme hP hL
  have hr : r = Ratchet.new := by
    obtain ⟨t, ht, e⟩ := ch.tree
    rw [first t ht] at e
    exact e.symm
  subst hr
  have st := deliverAll_inside ws ch (inv_new c.cfg.T) same gens (by simp) wrappers mids
    (by intro w hw rc hrc; rw [fresh w hw] at hrc; cases hrc) hw
  obtain ⟨r', chr, invr⟩ := st.chain
  refine ⟨st.res, st.row, st.rowElse, ?_⟩
  intro w hwm
  obtain ⟨hws, hwe⟩ := same w hwm
  have e0 : deliver (deliverAll c ws).1 w = step1 (deliverAll c ws).1 w :=
    deliver_eq_step1 (by intro rc hrc; rw [st.record w hwm] at hrc; cases hrc; simp)
  have hne : (recv (deliverAll c ws).1.cfg.T (deliverAll c ws).1.cfg.F r' w.gen).2 ≠ .accepted := by
    rw [st.cfg]
    intro hacc
    exact (recv_accepted_inv invr hacc).1 (by simp; exact ⟨w, hwm, rfl⟩)
  rw [e0, step1_refuse chr w hws hwe hne]
  exact ⟨rfl, rfl, rfl⟩

/-- the hypotheses are satisfiable: receiver 1 (T = 2, F = 3, P = 1) is one epoch past a burst of five that arrives in
    the order 1 0 3 2 4 -/
def rx : Cl := applyCommit (initCl 1 ⟨2, 3, 1, 5⟩ 1)
def burst : List Msg := [⟨11, 0, 1, 1, 101, 7⟩, ⟨10, 0, 1, 0, 100, 6⟩, ⟨13, 0, 1, 3, 103, 9⟩, ⟨12, 0, 1, 2, 102, 8⟩, ⟨14, 0, 1, 4, 104, 10⟩]
example : (deliverAll rx burst).2 = [.app 101, .app 100, .app 103, .app 102, .app 104] ∧
    (deliverAll rx burst).1.rows.length = 5 ∧ inWin 2 3 0 (burst.map (·.gen)) = true := by decide +kernel

/-- **exactly_once at the client**: ANY list of wrappers carrying messages of one sender and one epoch — any order, any
    repetition, the same generation under different wrappers — offered to a receiver that can open that chain: the
    deliveries that return a message have pairwise different generations (`appGens`: the generations of the deliveries
    whose result was `app`) -/
theorem exactly_once_client (c : Cl) (m s : Nat) (r : Ratchet) (A : List Nat) (ch : Chain c m s r) (inv : Inv c.cfg.T r A)
    (ws : List Msg) (same : ∀ w ∈ ws, w.sender = s ∧ w.epoch = m) :
    (appGens c ws).Nodup ∧ ∀ g ∈ appGens c ws, g ∉ A :=
  appGens_nodup ws ch inv same

/-- the same wrapper three times and its generation under a second wrapper: one acceptance -/
example : appGens rx [⟨11, 0, 1, 1, 101, 7⟩, ⟨11, 0, 1, 1, 101, 7⟩, ⟨15, 0, 1, 1, 101, 7⟩, ⟨10, 0, 1, 0, 100, 6⟩, ⟨11, 0, 1, 1, 101, 7⟩] = [1, 0] := by decide +kernel

/-- the full statement: the CONFIGURED windows alone (no mention of the fixed outer look-back) … -/
def inside_windows_all_stored_full : Prop :=
  ∀ (c : Cl) (m s : Nat) (ws : List Msg), PastOK c.cfg.P c.joined c.st → s ≠ c.id → c.joined ≤ m → m ≤ c.st.epoch →
    c.st.epoch - m ≤ c.cfg.P →
    (∀ t, treeFor c.st m = some t → tlookup s t = none) → (∀ w ∈ ws, w.sender = s ∧ w.epoch = m) →
    (ws.map (·.gen)).Nodup → (ws.map (·.n)).Nodup → (ws.map (·.mid)).Nodup → (∀ w ∈ ws, tlookup w.n c.recs = none) →
    inWin c.cfg.T c.cfg.F 0 (ws.map (·.gen)) = true →
    (deliverAll c ws).2 = ws.map (fun w => Res.app w.mid)

/-- receiver with `max_past_epochs = 8` (look-back 5 as in mdk-core), six commits after it joined in epoch 1 -/
def rx8 : Cl := applyCommit (applyCommit (applyCommit (applyCommit (applyCommit (applyCommit (initCl 1 ⟨5, 1000, 8, 5⟩ 1))))))

/-- … is FALSE of mdk: a message six epochs old is inside `max_past_epochs = 8` (OpenMLS still holds its secrets), but
    the outer layer only tries the exporter secrets of 5 past epochs — `Err`, a Failed record, blocked for ever
    (corpus/C02/msgwin_past_epochs_capped.trace replays this on the implementation) -/
theorem witness_past_epochs_capped :
    rx8.st.epoch = 7 ∧ (treeFor rx8.st 1).isSome = true ∧
    (deliver rx8 ⟨1, 0, 1, 1, 1, 2⟩).2 = .errMessage ∧
    (deliver (deliver rx8 ⟨1, 0, 1, 1, 1, 2⟩).1 ⟨1, 0, 1, 1, 1, 2⟩).2 = .unprocessable ∧
    (deliver rx8 ⟨3, 0, 2, 0, 2, 3⟩).2 = .app 2 := by decide +kernel

theorem inside_windows_all_stored_full_false : ¬ inside_windows_all_stored_full := by
  intro h
  have ok : PastOK rx8.cfg.P rx8.joined rx8.st := reachable_pastOK [.commit, .commit, .commit, .commit, .commit, .commit] _ (init_pastOK 1 ⟨5, 1000, 8, 5⟩ 1)
  -- the remaining hypotheses and the conclusion are closed: evaluated together
  have := h rx8 1 0 [⟨1, 0, 1, 1, 1, 2⟩] ok
  revert this; decide +kernel

/-- **outside the windows, at the client**: an offer OpenMLS refuses (too far ahead, too old, reused) is `Unprocessable`,
    leaves rows and ratchets as they are, and leaves a Failed record — which makes every later offer of the same wrapper
    `Unprocessable` without a look (step-0 dedup), whatever the windows would say by then -/
theorem refused_without_effect_and_for_ever (c : Cl) (m s : Nat) (r : Ratchet) (ch : Chain c m s r) (w : Msg)
    (hs : w.sender = s) (hm : w.epoch = m) (notBlocked : ∀ rc, tlookup w.n c.recs = some rc → rc.state ≠ 3)
    (href : (recv c.cfg.T c.cfg.F r w.gen).2 ≠ .accepted) :
    (deliver c w).2 = .unprocessable ∧ (deliver c w).1.rows = c.rows ∧ (deliver c w).1.st = c.st ∧
    deliver (deliver c w).1 w = ((deliver c w).1, .unprocessable) := by
  rw [deliver_eq_step1 notBlocked, step1_refuse ch w hs hm href]
  refine ⟨rfl, rfl, rfl, ?_⟩
  unfold deliver
  have : tlookup w.n (recordFailure c w.n (some c.st.epoch)).recs =
      some ⟨3, some c.st.epoch, (tlookup w.n c.recs).bind (·.mid)⟩ := by
    simp only [recordFailure]; exact tlookup_tinsert_self _ _ _
  rw [this]; simp

/-- observed consequence (outside the property's hypothesis): T = 1, F = 2; generation 3 arrives first (too far ahead),
    then 0 1 2; now generation 3 is the very next one — and its wrapper is refused for ever -/
def rx12 : Cl := initCl 1 ⟨1, 2, 1, 5⟩ 1
theorem witness_refused_once_lost_for_ever :
    (deliverAll rx12 [⟨3, 0, 1, 3, 3, 4⟩, ⟨0, 0, 1, 0, 0, 1⟩, ⟨1, 0, 1, 1, 1, 2⟩, ⟨2, 0, 1, 2, 2, 3⟩, ⟨3, 0, 1, 3, 3, 4⟩]).2 =
      [.unprocessable, .app 0, .app 1, .app 2, .unprocessable] := by decide +kernel

/-! ## the sender's own copy -/

def commits : Nat → Cl → Cl
  | 0, c => c
  | k + 1, c => commits k (applyCommit c)

/-- what `k` commits leave of a client: everything but the message-secrets store, which moves `k` epochs on -/
structure CommitsFrame (k : Nat) (c c' : Cl) : Prop where
  rows : c'.rows = c.rows
  recs : c'.recs = c.recs
  id : c'.id = c.id
  cfg : c'.cfg = c.cfg
  joined : c'.joined = c.joined
  epoch : c'.st.epoch = c.st.epoch + k
  pastOK : PastOK c.cfg.P c.joined c.st → PastOK c.cfg.P c.joined c'.st

theorem commits_frame (k : Nat) (c : Cl) : CommitsFrame k c (commits k c) := by
  induction k generalizing c with
  | zero => exact ⟨rfl, rfl, rfl, rfl, rfl, rfl, id⟩
  | succ k ih =>
    have f := ih (applyCommit c)
    refine ⟨f.rows, f.recs, f.id, f.cfg, f.joined, ?_, fun ok => f.pastOK (pastOK_advance ok)⟩
    rw [show commits (k + 1) c = commits k (applyCommit c) from rfl, f.epoch]
    simp only [applyCommit, advance]; omega

/-- **own_copy_confirmed**: the sender's own message, returning from the relay after `k` further commits with `k` inside
    `max_past_epochs` (and the fixed look-back), is returned and its cached row goes Created → Processed; a second echo is
    `Unprocessable` and changes nothing -/
theorem own_copy_confirmed (c : Cl) (ok : PastOK c.cfg.P c.joined c.st) (n mid tok k : Nat)
    (hk : k ≤ c.cfg.P) (hk' : k ≤ c.cfg.L) :
    let w := (send c n mid tok).2
    let c2 := commits k (send c n mid tok).1
    (deliver c2 w).2 = .app mid ∧
    findRow mid (deliver c2 w).1.rows = some ⟨mid, c.id, 1, c.st.epoch, tok⟩ ∧
    (deliver (deliver c2 w).1 w).2 = .unprocessable ∧ (deliver (deliver c2 w).1 w).1 = (deliver c2 w).1 := by
  intro w c2
  have f := commits_frame k (send c n mid tok).1
  have hrec : tlookup w.n c2.recs = some ⟨0, some c.st.epoch, some mid⟩ := by
    show tlookup n c2.recs = _
    rw [f.recs]; simp only [send]; exact tlookup_tinsert_self _ _ _
  have hrow : findRow mid c2.rows = some ⟨mid, c.id, 0, c.st.epoch, tok⟩ := by
    rw [f.rows]; simp only [send]; exact findRow_upsert_self ⟨mid, c.id, 0, c.st.epoch, tok⟩ c.rows
  have hep : c2.st.epoch - w.epoch = k := by rw [f.epoch]; exact Nat.add_sub_cancel_left ..
  have ok2 : PastOK c2.cfg.P c2.joined c2.st := by rw [f.cfg, f.joined]; exact f.pastOK ok
  obtain ⟨houter, t, ht⟩ := opens_of_window ok2 (m := w.epoch) (by rw [f.joined]; exact ok.1)
    (by rw [f.epoch]; exact Nat.le_add_right ..) (by rw [hep, f.cfg]; exact hk) (by rw [hep, f.cfg]; exact hk')
  have hid : w.sender = c2.id := by rw [f.id]; rfl
  have e : deliver c2 w = ({ c2 with rows := upsertRow ⟨mid, c.id, 1, c.st.epoch, tok⟩ c2.rows, recs := tinsert w.n ⟨1, some c.st.epoch, some mid⟩ c2.recs }, .app mid) := by
    rw [deliver_eq_step1 (by rw [hrec]; intro rc e; cases e; exact (by decide : (0 : Nat) ≠ 3)), step1_open houter ht, if_pos hid,
      ownMessage_created hrec rfl rfl hrow]
  rw [e]
  refine ⟨rfl, findRow_upsert_self ⟨mid, c.id, 1, c.st.epoch, tok⟩ c2.rows, ?_⟩
  -- the echo finds the record Processed: neither blocked nor Created
  have echo : ∀ rows, deliver { c2 with rows := rows, recs := tinsert w.n ⟨1, some c.st.epoch, some mid⟩ c2.recs } w =
      ({ c2 with rows := rows, recs := tinsert w.n ⟨1, some c.st.epoch, some mid⟩ c2.recs }, .unprocessable) := by
    intro rows
    have hrec2 := tlookup_tinsert_self w.n (⟨1, some c.st.epoch, some mid⟩ : Rec) c2.recs
    rw [deliver_eq_step1 (by rw [hrec2]; intro rc e; cases e; exact (by decide : (1 : Nat) ≠ 3)),
      step1_open (c := { c2 with rows := rows, recs := _ }) houter ht, if_pos hid,
      ownMessage_notCreated hrec2 Nat.one_ne_zero]
  dsimp only
  rw [echo]
  exact ⟨rfl, rfl⟩

end MdkVerif.Props.C02Win
