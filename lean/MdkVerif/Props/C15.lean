import MdkVerif.Model.Codec
import MdkVerif.Model.Tags
import MdkVerif.Proofs.Codec
import MdkVerif.Proofs.Tags
/-
  C15 — Wire formats round-trip and parsers accept nothing ambiguous.
  The property theorems (the lemmas they rest on live in Proofs/Codec.lean and Proofs/Tags.lean).

  Every theorem about the group-data extension holds for EVERY `Env` (= every notion of UTF-8
  validity and every `RelayUrl::parse`), every value, every byte string — no size bound.
-/
namespace MdkVerif.Props.C15
open MdkVerif MdkVerif.Codec MdkVerif.Tags List

/-! ### 1. the variable-length length prefix (tls_codec, `mls` feature) -/

/-- every length below 2^30 has an encoding -/
theorem vlen_total (n : Nat) (h : n < 1073741824) : ∃ hdr, encLen n = some hdr :=
  encLen_isSome n h

/-- lengths of 2^30 and more are refused by the encoder -/
theorem vlen_cap (n : Nat) (h : 1073741824 ≤ n) : encLen n = none := by
  unfold encLen
  rw [if_neg (by omega), if_neg (by omega), if_neg (by omega)]

/-- reading back a written prefix gives the length, the prefix width, and leaves the rest untouched -/
theorem vlen_roundtrip (n : Nat) (hdr tl : Bytes) (h : encLen n = some hdr) :
    decLen (hdr ++ tl) = some (n, hdr.length, tl) :=
  decLen_encLen n tl hdr h

/-- the prefix the reader accepts is exactly the one the writer produces: a non-minimal prefix
    (and the 8-byte form) is refused, so a length has ONE accepted spelling -/
theorem vlen_minimal (bs : Bytes) (hb : isBytes bs = true) (n k : Nat) (rest : Bytes)
    (h : decLen bs = some (n, k, rest)) :
    ∃ hdr, encLen n = some hdr ∧ bs = hdr ++ rest ∧ k = hdr.length := by
  cases bs with
  | nil => cases h
  | cons b0 r =>
    have hb0 := (isBytes_cons b0 r).mp hb
    have hv : b0 % 64 < 64 := Nat.mod_lt _ (by decide)
    have hsplit : b0 / 64 * 64 + b0 % 64 = b0 := Nat.div_add_mod' b0 64
    unfold decLen at h
    dsimp only at h
    by_cases t0 : b0 / 64 = 0
    · rw [if_pos t0] at h
      rw [t0, Nat.zero_mul, Nat.zero_add] at hsplit
      rw [hsplit] at h hv
      rcases encLen_cases b0 with ⟨_, hm, he⟩ | ⟨hn, _⟩ | ⟨hn, _⟩ | ⟨hn, _⟩
      · rw [if_pos hm] at h; cases h; exact ⟨[n], he, rfl, rfl⟩
      all_goals exact absurd hv (Nat.not_lt_of_le (Nat.le_trans (by decide) hn))
    rw [if_neg t0] at h
    by_cases t1 : b0 / 64 = 1
    · rw [if_pos t1] at h
      cases r with
      | nil => cases h
      | cons b1 r' =>
        have hb1 := ((isBytes_cons b1 r').mp hb0.2).1
        dsimp only at h
        by_cases hm : minLenLen (b0 % 64 * 256 + b1) = 2
        · rw [if_pos hm] at h; cases h
          rcases encLen_cases (b0 % 64 * 256 + b1) with ⟨_, hm', _⟩ | ⟨_, _, _, he⟩ | ⟨_, _, hm', _⟩ | ⟨_, hm', _⟩
          · rw [hm'] at hm; cases hm
          · rw [mul_add_div _ hb1, Nat.mul_add_mod_of_lt hb1] at he
            have e0 : 64 + b0 % 64 = b0 := by rw [t1] at hsplit; exact hsplit
            rw [e0] at he
            exact ⟨[b0, b1], he, rfl, rfl⟩
          · rw [hm'] at hm; cases hm
          · rw [hm'] at hm; cases hm
        · rw [if_neg hm] at h; cases h
    rw [if_neg t1] at h
    by_cases t2 : b0 / 64 = 2
    · rw [if_pos t2] at h
      cases r with
      | nil => cases h
      | cons b1 r =>
      cases r with
      | nil => cases h
      | cons b2 r =>
      cases r with
      | nil => cases h
      | cons b3 r' =>
        have hr1 := (isBytes_cons b1 _).mp hb0.2
        have hr2 := (isBytes_cons b2 _).mp hr1.2
        have hb3 := ((isBytes_cons b3 _).mp hr2.2).1
        dsimp only at h
        by_cases hm : minLenLen (((b0 % 64 * 256 + b1) * 256 + b2) * 256 + b3) = 4
        · rw [if_pos hm] at h; cases h
          have hd := digits4 (b0 % 64) b1 b2 b3 hr1.1 hr2.1 hb3
          rcases encLen_cases (((b0 % 64 * 256 + b1) * 256 + b2) * 256 + b3) with
            ⟨_, hm', _⟩ | ⟨_, _, hm', _⟩ | ⟨_, _, _, he⟩ | ⟨hn, _⟩
          · rw [hm'] at hm; cases hm
          · rw [hm'] at hm; cases hm
          · have e0 : 128 + b0 % 64 = b0 := by rw [t2] at hsplit; exact hsplit
            rw [hd.1, hd.2.1, hd.2.2.1, hd.2.2.2, e0] at he
            exact ⟨[b0, b1, b2, b3], he, rfl, rfl⟩
          · have := (Nat.div_lt_iff_lt_mul (by decide)).mp (hd.1 ▸ hv)
            exact absurd this (Nat.not_lt_of_le hn)
        · rw [if_neg hm] at h; cases h
    · rw [if_neg t2] at h; cases h

theorem vlen_unique (a b : Bytes) (ha : isBytes a = true) (hb : isBytes b = true) (n ka kb : Nat) (ra rb : Bytes)
    (h1 : decLen a = some (n, ka, ra)) (h2 : decLen b = some (n, kb, rb)) :
    a.take ka = b.take kb := by
  obtain ⟨h, e1, rfl, rfl⟩ := vlen_minimal a ha n ka ra h1
  obtain ⟨h', e2, rfl, rfl⟩ := vlen_minimal b hb n kb rb h2
  rw [e1] at e2; cases e2; simp

example : decLen [64, 5] = none := by decide               -- 5 spelled with two bytes
example : decLen [128, 0, 0, 5, 9] = none := by decide     -- 5 spelled with four bytes
example : decLen [192, 0, 0, 0, 0, 0, 0, 5] = none := by decide   -- 8-byte form
example : decLen [5, 9] = some (5, 1, [9]) := by decide
example : isBytes [64, 5] = true := by decide

/-! ### 2. the group-data extension -/

/-- every well-formed value serialises -/
theorem encode_total (env : Env) (x : Ext) (h : x.WF env) : ∃ bs, encode x = some bs := by
  obtain ⟨n, hn⟩ := encVecU8_isSome x.name h.name.2.2
  obtain ⟨d, hd⟩ := encVecU8_isSome x.desc h.desc.2.2
  have hal := flatten_length_of_all 32 x.admins (fun a ha => (h.admins.1 a ha).1)
  obtain ⟨ahdr, hah⟩ := encLen_isSome x.admins.flatten.length (by rw [hal]; exact h.admins.2.2)
  obtain ⟨c, hc⟩ := encElems_isSome (x.relays.map (fun r => r.text))
    (by intro e he; simp at he; obtain ⟨r, hr, rfl⟩ := he; exact (h.relays.1 r hr).2.2)
  have hcl := (encElems_length _ c hc).1
  obtain ⟨rhdr, hrh⟩ := encLen_isSome c.length (by rw [hcl]; exact h.relaysSize)
  obtain ⟨e5, h5⟩ := encVecU8_isSome (optBytes x.ih) (optBytes_small 32 (by decide) _ h.ih)
  obtain ⟨e6, h6⟩ := encVecU8_isSome (optBytes x.ik) (optBytes_small 32 (by decide) _ h.ik)
  obtain ⟨e7, h7⟩ := encVecU8_isSome (optBytes x.inn) (optBytes_small 12 (by decide) _ h.inn)
  obtain ⟨e8, h8⟩ := encVecU8_isSome (optBytes x.iu) (optBytes_small 32 (by decide) _ h.iu)
  simp only [encode, encRaw, asRaw, hn, hd, encVecArr, hah, encVecVec, hc, hrh, h5, h6, h7, h8, Option.map_some]
  exact ⟨_, rfl⟩

/-- **round trip**: for every well-formed extension value — any UTF-8 name / description, any admin
    and relay sets, every presence pattern of the four optional image fields, version 1..65535 —
    deserialising what was serialised gives back the value -/
theorem decode_encode (env : Env) (x : Ext) (h : x.WF env) (bs : Bytes) (he : encode x = some bs) :
    decode env bs = .ok x := by
  have hd := decRaw_encRaw (asRaw x) bs [] he h.gid.1 (fun a ha => (h.admins.1 a ha).1)
  rw [List.append_nil] at hd
  simp only [decode, hd, List.isEmpty_nil, if_true]
  exact fromRaw_asRaw env x h

/-- **trailing bytes** after a valid encoding are refused -/
theorem reject_trailing (env : Env) (x : Ext) (h : x.WF env) (bs t : Bytes) (he : encode x = some bs)
    (ht : t ≠ []) : decode env (bs ++ t) = .error .trailing := by
  have hd := decRaw_encRaw (asRaw x) bs t he h.gid.1 (fun a ha => (h.admins.1 a ha).1)
  have : t.isEmpty = false := by cases t <;> simp_all
  simp [decode, hd, this]

/-- **version 0** is never accepted, whatever the bytes -/
theorem reject_version0 (env : Env) (bs : Bytes) (x : Ext) (h : decode env bs = .ok x) : 1 ≤ x.version := by
  obtain ⟨raw, hr⟩ := decode_ok h
  obtain ⟨h1, h2, _⟩ := fromRaw_inv env raw x hr
  rw [h2]; exact Nat.one_le_iff_ne_zero.mpr h1

theorem reject_version0_raw (env : Env) (raw : Raw) (h : raw.version = 0) :
    fromRaw env raw = .error .version0 := by
  simp [fromRaw, h]

/-- **fixed lengths**: an accepted value carries image hash / key / upload key of exactly 32 bytes and a
    nonce of exactly 12 bytes, or none; a field of any other length is refused, whatever the bytes -/
theorem reject_bad_len (env : Env) (bs : Bytes) (x : Ext) (h : decode env bs = .ok x) :
    (∀ b, x.ih = some b → b.length = 32) ∧ (∀ b, x.ik = some b → b.length = 32) ∧
    (∀ b, x.inn = some b → b.length = 12) ∧ (∀ b, x.iu = some b → b.length = 32) := by
  obtain ⟨raw, hr⟩ := decode_ok h
  obtain ⟨_, _, h1, h2, h3, h4⟩ := fromRaw_inv env raw x hr
  exact ⟨(optFixed_ok _ _ _ _ h1).1, (optFixed_ok _ _ _ _ h2).1, (optFixed_ok _ _ _ _ h3).1, (optFixed_ok _ _ _ _ h4).1⟩

theorem reject_bad_len_raw (env : Env) (raw : Raw) (x : Ext)
    (hbad : (raw.ih.length ≠ 0 ∧ raw.ih.length ≠ 32) ∨ (raw.ik.length ≠ 0 ∧ raw.ik.length ≠ 32) ∨
            (raw.inn.length ≠ 0 ∧ raw.inn.length ≠ 12) ∨ (raw.iu.length ≠ 0 ∧ raw.iu.length ≠ 32)) :
    fromRaw env raw ≠ .ok x := by
  intro h
  obtain ⟨_, _, h1, h2, h3, h4⟩ := fromRaw_inv env raw x h
  rcases hbad with hb | hb | hb | hb
  · exact (optFixed_ok _ _ _ _ h1).2.elim hb.1 hb.2
  · exact (optFixed_ok _ _ _ _ h2).2.elim hb.1 hb.2
  · exact (optFixed_ok _ _ _ _ h3).2.elim hb.1 hb.2
  · exact (optFixed_ok _ _ _ _ h4).2.elim hb.1 hb.2

/-- the facts of the source the codec model rests on (re-extracted on every run) -/
theorem layout_facts : Generated.extLayoutAsModelled = true ∧ Generated.extTrailingBytesChecked = true := by decide

/-- non-vacuity: a concrete well-formed value with unicode, two admins, two relays, two optional fields -/
def sample : Ext :=
  { version := 2, gid := List.replicate 32 7, name := [240, 159, 166, 128, 32, 103], desc := [],
    admins := [List.replicate 32 1, List.replicate 32 2],
    relays := [{ key := [119, 115, 115, 58, 47, 47, 97, 46, 105, 111, 47], text := [119, 115, 115, 58, 47, 47, 97, 46, 105, 111] },
               { key := [119, 115, 115, 58, 47, 47, 98, 46, 105, 111, 47, 120], text := [119, 115, 115, 58, 47, 47, 98, 46, 105, 111, 47, 120] }],
    ih := some (List.replicate 32 9), ik := none, inn := some (List.replicate 12 3), iu := none }

example : (encode sample).isSome = true := by decide +kernel
example : sample.WF stdEnv := by
  constructor <;> decide +kernel
set_option maxRecDepth 20000 in
example : decodesTo (decode stdEnv ((encode sample).getD [])) sample = true := by decide +kernel
set_option maxRecDepth 20000 in
example : failsWith (decode stdEnv ((encode sample).getD [] ++ [0])) .trailing = true := by decide +kernel

/-! ### 3. hex and the `h` tag -/

theorem hex_roundtrip (b : Bytes) (hb : isBytes b = true) : hexDec (hexEnc b) = some b :=
  hexDec_hexEnc b hb

theorem hex_length (s b : Bytes) (h : hexDec s = some b) : s.length = 2 * b.length :=
  hexDec_length s b h

/-- the `h` tag written for a 32-byte group id is read back as that id -/
theorem gid_roundtrip (g : Bytes) (hb : isBytes g = true) (hl : g.length = 32) :
    extractGid [{ name := .h, vals := [hexEnc g] }] = .ok g := by
  have h1 : (hexEnc g).length = 64 := by rw [hexEnc_length, hl]
  simp [extractGid, Tag.content, h1, hexDec_hexEnc g hb, hl]

/-- an accepted `h` tag is unique, 64 characters long, and decodes to exactly 32 bytes -/
theorem gid_length_check (tags : List Tag) (g : Bytes) (h : extractGid tags = .ok g) :
    g.length = 32 ∧ ∃ t v, tags.filter (fun t => t.name == .h) = [t] ∧ t.content = some v ∧
      v.length = 64 ∧ hexDec v = some g := by
  unfold extractGid at h
  match hf : tags.filter (fun t => t.name == .h), h with
  | [], h => simp [hf] at h
  | _ :: _ :: _, h => simp [hf] at h
  | [t], h =>
    simp only [hf] at h
    cases hc : t.content with
    | none => simp [hc] at h
    | some v =>
      simp only [hc] at h
      by_cases hl : v.length ≠ 64
      · rw [if_pos hl] at h; cases h
      · rw [if_neg hl] at h
        cases hd : hexDec v with
        | none => simp [hd] at h
        | some b =>
          simp only [hd] at h
          by_cases hb : b.length = 32
          · rw [if_pos hb] at h; cases h
            exact ⟨hb, t, v, hf, hc, by omega, hd⟩
          · rw [if_neg hb] at h; cases h

/-! ### 4. key-package events -/

/-- `validate_key_package_tags` accepts **iff** the explicit predicate `KpTagsSpec` holds:
    version = "1.0" ∧ ciphersuite = "0x0001" ∧ extensions ⊇ required (all well-formed) ∧ ≥ 1 relay, all
    valid ∧ exactly one non-empty hex `i` value — each read from the FIRST tag of its kind -/
theorem kp_tags_accept_iff (env : Env) (tags : List Tag) : kpTagsOk env tags = true ↔ KpTagsSpec env tags := by
  unfold kpTagsOk
  constructor
  · intro h
    split at h
    · rename_i pv cs ext rl it h1 h2 h3 h4 h5
      simp only [Bool.and_eq_true] at h
      obtain ⟨⟨⟨⟨a, b⟩, c⟩, d⟩, e⟩ := h
      obtain ⟨v, e⟩ := (iOk_iff it).mp e
      exact ⟨⟨pv, h1, beq_iff_eq.mp a⟩, ⟨cs, h2, (csOk_iff cs).mp b⟩, ⟨ext, h3, (extOk_iff ext).mp c⟩,
             ⟨rl, h4, (relaysOk_iff env rl).mp d⟩, ⟨it, v, h5, e⟩⟩
    · cases h
  · rintro ⟨⟨pv, h1, a⟩, ⟨cs, h2, b⟩, ⟨ext, h3, c⟩, ⟨rl, h4, d⟩, ⟨it, v, h5, e⟩⟩
    simp only [h1, h2, h3, h4, h5, pvOk, a, beq_self_eq_true, (csOk_iff cs).mpr b, (extOk_iff ext).mpr c,
      (relaysOk_iff env rl).mpr d, (iOk_iff it).mpr ⟨v, e⟩, Bool.and_self]

/-- `parse_key_package` accepts **iff** kind = 443, the tags are valid, some `encoding` tag says base64,
    the content is a valid key package, its credential identity is the event author, and the first
    `i` tag decodes to the key package's reference -/
theorem kp_accept_iff (env : Env) (ev : KpEvent) :
    parseKp env ev = .ok ↔
      ev.kind = Generated.kindMlsKeyPackage ∧ KpTagsSpec env ev.tags ∧ hasBase64Encoding ev.tags = true ∧
      ev.content = .ok ∧ ev.credIdentity.length = 32 ∧ ev.credIdentity = ev.author ∧
      iTagBytes ev.tags = some ev.kpRef := by
  rw [parseKp_ok_iff, kp_tags_accept_iff]

/-- **binding**: an accepted key-package event has kind 443, its credential identity IS the event's
    author, its first `i` tag IS (the hex of) the computed KeyPackageRef, and it carries an
    `encoding` tag whose value is `base64` up to ASCII case -/
theorem kp_bound (env : Env) (ev : KpEvent) (h : parseKp env ev = .ok) :
    ev.kind = 443 ∧ ev.credIdentity = ev.author ∧
    (∃ t v, firstTag .i ev.tags = some t ∧ t.content = some v ∧ hexDec v = some ev.kpRef) ∧
    (∃ t ∈ ev.tags, t.name = .encoding ∧ ∃ v, t.content = some v ∧ lower v = Generated.encodingTagValue) := by
  obtain ⟨hk, _, he, _, _, hid, hi⟩ := (kp_accept_iff env ev).mp h
  refine ⟨hk, hid, ?_, ?_⟩
  · unfold iTagBytes at hi
    cases hf : firstTag .i ev.tags with
    | none => simp [hf] at hi
    | some t =>
      cases hc : t.content with
      | none => simp [hf, hc] at hi
      | some v => simp only [hf, hc] at hi; exact ⟨t, v, rfl, hc, hi⟩
  · unfold hasBase64Encoding at he
    simp only [List.any_eq_true, Bool.and_eq_true, beq_iff_eq] at he
    obtain ⟨t, ht, hn, hv⟩ := he
    cases hc : t.content with
    | none => simp [hc] at hv
    | some v => simp only [hc, beq_iff_eq] at hv; exact ⟨t, ht, hn, v, hc, hv⟩

/-- each mutation the property names is refused (contrapositives of `kp_accept_iff`) -/
theorem kp_reject_wrong_kind (env : Env) (ev : KpEvent) (h : ev.kind ≠ 443) : parseKp env ev ≠ .ok :=
  fun hk => h (kp_bound env ev hk).1
theorem kp_reject_identity (env : Env) (ev : KpEvent) (h : ev.credIdentity ≠ ev.author) : parseKp env ev ≠ .ok :=
  fun hk => h (kp_bound env ev hk).2.1
theorem kp_reject_ref_mismatch (env : Env) (ev : KpEvent) (h : iTagBytes ev.tags ≠ some ev.kpRef) :
    parseKp env ev ≠ .ok :=
  fun hk => h ((kp_accept_iff env ev).mp hk).2.2.2.2.2.2
theorem kp_reject_no_encoding (env : Env) (ev : KpEvent) (h : ∀ t ∈ ev.tags, t.name ≠ .encoding) :
    parseKp env ev ≠ .ok := by
  intro hk
  obtain ⟨t, ht, hn, _⟩ := (kp_bound env ev hk).2.2.2
  exact h t ht hn
theorem kp_reject_bad_tags (env : Env) (ev : KpEvent) (h : ¬ KpTagsSpec env ev.tags) : parseKp env ev ≠ .ok :=
  fun hk => h ((kp_accept_iff env ev).mp hk).2.1

/-- **trailing bytes in the content**: a kind-443 event whose content is a valid key package followed by
    further bytes is refused (`KeyPackageIn::tls_deserialize_exact`; rests on `Generated.kpDeserializeExact`,
    re-extracted on every run — if the reader-based call comes back the fact flips and this proof breaks) -/
theorem kp_reject_trailing_content (env : Env) (ev : KpEvent) (h : ev.content = .trailing) :
    parseKp env ev ≠ .ok := by
  intro hk
  have := ((kp_accept_iff env ev).mp hk).2.2.2.1
  rw [h] at this; cases this

/-- **what the library writes, its own parser accepts** — provided the relay list is not empty -/
theorem kp_create_accepted (env : Env) (relays : List Bytes) (p : Bool) (ref author : Bytes)
    (hne : relays ≠ []) (hr : ∀ r ∈ relays, (env.relayParse r).isSome = true)
    (hb : isBytes ref = true) (hrl : ref ≠ []) (ha : author.length = 32) :
    parseKp env { kind := Generated.kindMlsKeyPackage, tags := kpCreate relays p ref, content := .ok,
                  author := author, credIdentity := author, kpRef := ref } = .ok := by
  have hhex : (hexEnc ref).isEmpty = false := by
    cases ref with
    | nil => exact absurd rfl hrl
    | cons a as => rfl
  have hdec := hexDec_hexEnc ref hb
  have hrel : relaysOk env { name := .relays, vals := relays } = true := (relaysOk_iff env _).mpr ⟨hne, hr⟩
  -- every tag that is looked for stands among the five first ones, whatever `p`; the rest is evaluated
  simp +decide [parseKp, kpContent, kpTagsOk, kpCreate, firstTag, hasBase64Encoding, iTagBytes, iOk, pvOk, Tag.content,
    hrel, hhex, hdec, ha]

/-- the full-strength statement (no condition on the relay list) — FALSE of the code -/
def kp_create_accepted_full : Prop :=
  ∀ (env : Env) (relays : List Bytes) (p : Bool) (ref author : Bytes),
    (∀ r ∈ relays, (env.relayParse r).isSome = true) → isBytes ref = true → ref ≠ [] → author.length = 32 →
    parseKp env { kind := Generated.kindMlsKeyPackage, tags := kpCreate relays p ref, content := .ok,
                  author := author, credIdentity := author, kpRef := ref } = .ok

/-- witness: `create_key_package_for_event(pk, [])` writes `["relays"]`, which `parse_key_package`
    refuses ("Relays tag must have at least one relay URL") — corpus/C15/zero_relays.trace -/
theorem kp_create_zero_relays_refused : ¬ kp_create_accepted_full := by
  intro h
  have := h stdEnv [] false (List.replicate 32 171) (List.replicate 32 161)
    (by intro r hr; cases hr) (by decide) (by decide) (by decide)
  revert this
  decide +kernel

example : ∃ relays : List Bytes, relays ≠ [] ∧ ∀ r ∈ relays, (stdEnv.relayParse r).isSome = true :=
  ⟨[[119, 115, 115, 58, 47, 47, 97, 46, 105, 111]], by decide, by decide⟩

/-! ### 5. welcome rumors -/

/-- the explicit acceptance predicate of `validate_welcome_event` -/
structure WelcomeSpec (env : Env) (r : Rumor) : Prop where
  kind : r.kind = Generated.kindMlsWelcome
  count : Generated.welcomeMinTags ≤ r.tags.length
  relaysValid : ∀ t ∈ r.tags, t.name = .relays → ∀ v ∈ t.vals, (env.relayParse v).isSome = true
  clientNonEmpty : ∀ t ∈ r.tags, t.name = .client → ∃ v, t.content = some v ∧ v ≠ []
  encodingExact : ∀ t ∈ r.tags, t.name = .encoding → t.content = some Generated.encodingTagValue
  hasRelays : ∃ t ∈ r.tags, t.name = .relays ∧ t.vals ≠ []
  hasEvent : ∃ t ∈ r.tags, t.name = .e ∧ ∃ v, t.content = some v ∧ v ≠ []
  hasEncoding : ∃ t ∈ r.tags, t.name = .encoding

theorem welcome_accept_iff (env : Env) (r : Rumor) : validateWelcome env r = true ↔ WelcomeSpec env r := by
  have hE : ∀ t : Tag, wSetsE t = true ↔ t.name = .e ∧ ∃ v, t.content = some v ∧ v ≠ [] := by
    intro t; unfold wSetsE; cases t.content <;> simp
  unfold validateWelcome
  rw [wScan_eq]
  by_cases hk : r.kind ≠ Generated.kindMlsWelcome
  · rw [if_pos hk]; exact ⟨nofun, fun h => absurd h.kind hk⟩
  by_cases hc : r.tags.length < Generated.welcomeMinTags
  · rw [if_neg hk, if_pos hc]; exact ⟨nofun, fun h => absurd hc (Nat.not_lt_of_le h.count)⟩
  by_cases hb : r.tags.any (wTagBad env) = true
  · rw [if_neg hk, if_neg hc, if_pos hb]
    obtain ⟨t, ht, hbt⟩ := List.any_eq_true.mp hb
    refine ⟨nofun, fun h => ?_⟩
    rw [(wTagBad_false_iff env t).mpr ⟨h.relaysValid t ht, h.clientNonEmpty t ht, h.encodingExact t ht⟩] at hbt
    cases hbt
  · rw [if_neg hk, if_neg hc, if_neg hb]
    have hok : ∀ t ∈ r.tags, _ := fun t ht => (wTagBad_false_iff env t).mp (by
      cases hbt : wTagBad env t with
      | false => rfl
      | true => exact absurd (List.any_eq_true.mpr ⟨t, ht, hbt⟩) hb)
    simp only [Bool.false_or, Bool.and_eq_true, List.any_eq_true, hE, wSetsRelays, wSetsEnc, beq_iff_eq, Bool.not_eq_true',
      List.isEmpty_eq_false_iff, and_assoc]
    exact ⟨fun ⟨h1, h2, h3⟩ => ⟨Classical.not_not.mp hk, Nat.le_of_not_lt hc, fun t ht => (hok t ht).1, fun t ht => (hok t ht).2.1,
        fun t ht => (hok t ht).2.2, h1, h2, h3⟩,
      fun h => ⟨h.hasRelays, h.hasEvent, h.hasEncoding⟩⟩

/-- each mutation the property names is refused (contrapositives of `welcome_accept_iff`) -/
theorem welcome_refused {env : Env} {r : Rumor} (h : ¬ WelcomeSpec env r) : validateWelcome env r = false :=
  Bool.not_eq_true _ ▸ mt (welcome_accept_iff env r).mp h

theorem welcome_reject_wrong_kind (env : Env) (r : Rumor) (h : r.kind ≠ 444) : validateWelcome env r = false :=
  welcome_refused fun s => h s.kind

theorem welcome_reject_no_encoding (env : Env) (r : Rumor) (h : ∀ t ∈ r.tags, t.name ≠ .encoding) :
    validateWelcome env r = false :=
  welcome_refused fun s => s.hasEncoding.elim fun t ht => h t ht.1 ht.2

theorem welcome_reject_non_base64 (env : Env) (r : Rumor) (t : Tag) (ht : t ∈ r.tags) (hn : t.name = .encoding)
    (hv : t.content ≠ some Generated.encodingTagValue) : validateWelcome env r = false :=
  welcome_refused fun s => hv (s.encodingExact t ht hn)

/-- **whatever an invitation produces, `process_welcome` accepts** — the FULL statement, for every relay
    list including the empty one: since the repair "inviting members requires at least one relay"
    (`Generated.inviteRequiresRelay`, re-extracted on every run) an empty relay list produces NO rumor
    (`create_group` / `add_members` return `Err(Error::Group)`), and every rumor that is produced passes
    validation and, with its own (exact) content, the whole of `process_welcome`.  If the precondition is
    removed from the source the fact flips and this proof breaks; the former witness stays in
    corpus/C15/zero_relays.trace as a regression trace. -/
theorem welcome_create_accepted (env : Env) (relays : List Bytes) (eid : Bytes) (tags : List Tag)
    (hr : ∀ r ∈ relays, (env.relayParse r).isSome = true) (he : eid ≠ [])
    (hprod : inviteTags relays eid = some tags) :
    processWelcome env { rumor := { kind := Generated.kindMlsWelcome, tags := tags }, content := .ok } = .ok := by
  have hfact : Generated.inviteRequiresRelay = true := by decide
  unfold inviteTags at hprod
  cases relays with
  | nil => rw [hfact] at hprod; cases hprod
  | cons r rs =>
    cases hprod
    have hall : (r :: rs).all (fun v => (env.relayParse v).isSome) = true := List.all_eq_true.mpr hr
    have he' : eid.isEmpty = false := List.isEmpty_eq_false_iff.mpr he
    simp +decide [processWelcome, hasBase64Encoding, validateWelcome, welcomeCreate, wScan, wTagBad, wSetsRelays, wSetsE, wSetsEnc,
      Tag.content, hall, he']

/-- an invitation without any relay produces nothing -/
theorem invite_zero_relays_refused (eid : Bytes) : inviteTags [] eid = none := by
  have hfact : Generated.inviteRequiresRelay = true := by decide
  simp [inviteTags, hfact]

example : ∃ tags, inviteTags [[119, 115, 115, 58, 47, 47, 97, 46, 105, 111]] [52, 50] = some tags := ⟨_, rfl⟩

/-- `process_welcome` accepts only validated rumors with exact content -/
theorem welcome_process_ok (env : Env) (ev : WelcomeEvent) (h : processWelcome env ev = .ok) :
    WelcomeSpec env ev.rumor ∧ ev.content = .ok := by
  have hfact : Generated.welcomeRejectsTrailing = true := by decide
  unfold processWelcome at h
  by_cases h1 : validateWelcome env ev.rumor = false
  · simp [h1] at h
  · have h1' : validateWelcome env ev.rumor = true := by simpa using h1
    by_cases h2 : hasBase64Encoding ev.rumor.tags = false
    · simp [h1, h2] at h
    · cases hc : ev.content <;> simp [h1, h2, hc, hfact] at h
      exact ⟨(welcome_accept_iff env ev.rumor).mp h1', rfl⟩

/-- **trailing bytes in the content**: a rumor whose content is a valid MLS welcome message followed by
    further bytes is refused (rests on `Generated.welcomeRejectsTrailing`) -/
theorem welcome_reject_trailing_content (env : Env) (ev : WelcomeEvent) (h : ev.content = .trailing) :
    processWelcome env ev ≠ .ok :=
  fun hk => by have := (welcome_process_ok env ev hk).2; rw [h] at this; cases this

/-! ### 6. imeta tags -/

/-- decimal printing and `u32` parsing of dimensions round-trip, for every pair of `u32` values -/
theorem imeta_dim_roundtrip (w h : Nat) (hw : w < 4294967296) (hh : h < 4294967296) :
    parseDim (showNat w ++ 120 :: showNat h) = some (w, h) := by
  have d1 : ∀ c ∈ showNat w, c ≠ 120 := fun c hc => by have := showNat_digits w c hc; unfold isDig at this; omega
  have d2 : ∀ c ∈ showNat h, c ≠ 120 := fun c hc => by have := showNat_digits h c hc; unfold isDig at this; omega
  simp [parseDim, splitX_one _ _ d1 d2, readU32_showNat w hw, readU32_showNat h hh]

/-- **parse ∘ create**: parsing the tag `create_imeta_tag` writes yields exactly the media reference
    `create_media_reference` builds — for every URL, every canonical allowed MIME type, every valid
    file name, every 32-byte hash, 12-byte nonce, every (optional) `u32 × u32` dimensions and every
    (optional) blurhash -/
theorem imeta_parse_create (u : Upload) (url : Bytes)
    (hm : validateMime u.mime = some u.mime) (hf : filenameOk u.filename = true)
    (hx : isBytes u.hash = true ∧ u.hash.length = 32) (hn : isBytes u.nonce = true ∧ u.nonce.length = 12)
    (hd : ∀ w h, u.dims = some (w, h) → w < 4294967296 ∧ h < 4294967296) :
    imetaParse (imetaCreate u url) = .ok (mediaRefOf u url) := by
  have hver : Generated.defaultSchemeVersion ∈ Generated.supportedSchemeVersions := by decide
  have hdim : ∀ w h, u.dims = some (w, h) → parseDim (showNat w ++ 120 :: showNat h) = some (w, h) :=
    fun w h e => imeta_dim_roundtrip w h (hd w h e).1 (hd w h e).2
  rcases hu : u.dims with _ | ⟨w, h⟩ <;> cases hb : u.blurhash <;>
    simp [imetaParse, imetaCreate, hu, hb, imetaLoop, item_url, item_m _ _ _ hm, item_filename _ _ hf,
      item_x _ _ hx.1 hx.2, item_n _ _ hn.1 hn.2, item_v, item_dim, item_blurhash, hdim, hver, mediaRefOf]

/-- every MIME type of the allow-list (and the escape hatch) is its own canonical form, so the
    hypothesis `hm` above holds for everything `encrypt_for_upload` can produce -/
theorem mime_allowlist_canonical :
    (Generated.escapeHatchMimeType :: Generated.supportedMimeTypes).all (fun m => validateMime m == some m) = true := by
  decide +kernel

example : filenameOk [97, 32, 98, 46, 112, 110, 103] = true := by decide
example : validateMime [32, 73, 77, 65, 71, 69, 47, 80, 78, 71, 32, 59, 113] = some [105, 109, 97, 103, 101, 47, 112, 110, 103] := by decide

/-- rejection lemmas: a tag lacking a mandatory field is refused -/
theorem imeta_reject_missing (t : Tag) (k : Bytes) (hk : k ∈ [kUrl, kM, kFilename, kX, kN, kV])
    (hmiss : ∀ it ∈ t.vals, ∀ v, splitKV it ≠ some (k, v)) (r : MediaRef) : imetaParse t ≠ .ok r := by
  intro h
  have a := imetaParse_ok t r h
  simp only [List.mem_cons, List.not_mem_nil, or_false] at hk
  rcases hk with rfl | rfl | rfl | rfl | rfl | rfl
  · obtain ⟨i, m, e⟩ := a.url; exact hmiss i m _ e
  · obtain ⟨i, m, _, e, _⟩ := a.mime; exact hmiss i m _ e
  · obtain ⟨i, m, e⟩ := a.filename; exact hmiss i m _ e
  · obtain ⟨i, m, _, e, _⟩ := a.hash; exact hmiss i m _ e
  · obtain ⟨i, m, _, e, _⟩ := a.nonce; exact hmiss i m _ e
  · obtain ⟨i, m, e⟩ := a.versionItem; exact hmiss i m _ e

theorem imeta_reject_wrong_name (t : Tag) (h : t.name ≠ .imeta) (r : MediaRef) : imetaParse t ≠ .ok r :=
  fun hk => h (imetaParse_ok t r hk).name

theorem imeta_reject_version (t : Tag) (r : MediaRef) (h : imetaParse t = .ok r) :
    r.version = Generated.defaultSchemeVersion := by
  have := (imetaParse_ok t r h).version
  have hs : Generated.supportedSchemeVersions = [Generated.defaultSchemeVersion] := by decide
  rw [hs] at this
  simpa using this

end MdkVerif.Props.C15
