import MdkVerif.Model.Lru
import MdkVerif.Model.MemLru
import MdkVerif.Proofs.Lru
import MdkVerif.Proofs.MemLru
import MdkVerif.Proofs.MemLruVis
/-
  C10 (and the storage side of C08 / C09) for the memory backend AS IT IS BUILT: nine `lru::LruCache`s of
  `cache_size` entries each plus a per-group message cap (`Model/Lru.lean`, `Model/MemLru.lean`).

  (a) `lru_refines_map`      while at most `cap` distinct keys are in play a cache IS the unbounded map;
  (b) `lru_evicts_lru`       at capacity a `put` of a new key evicts exactly the least recently used key;
      `lru_size_le_cap`      never more than `cap` entries, for ALL operation sequences;
  (c) `mem_within_capacity_eq_unbounded`  the memory backend with its caches agrees, observation by
      observation, with the unbounded `.mem` model of `Model/Store.lean` on every history that stays within
      the capacities (`WithinCapRun`, decidable), whatever order the `HashMap`s iterate in;
      `backends_equal_lru_partial`        hence C10's `backends_equal_partial` holds for the REAL memory backend;
  (d) `index_consistent`     over ALL histories — beyond the capacities too — whatever
      `find_group_by_nostr_group_id` answers is the record `find_group_by_mls_group_id` holds for that group and
      carries the id asked for, PROVIDED no rollback brings back a nostr id another held group carries
      (`NoCollisionRun`; that collision is the open finding restore-nostr-id-collision);
      `index_full_false`     without the proviso and beyond the capacity the statement is false
      (`witness_index_ghost`, replayed on the implementation: corpus/C10lru/index_ghost_after_collision.trace).
  Beyond the capacities (outside C10's "documented limits") the backend forgets: the last section records what that does to
  C09 and C08 as closed witnesses.
-/
namespace MdkVerif.Props.C10Lru
open MdkVerif MdkVerif.Store MdkVerif.Lru MdkVerif.MemLru

/-! ### (a) refinement of one cache to the unbounded association list -/

/-- from ANY well-formed cache, for ALL operation sequences over a key set `T` of at most `cap` keys that also
    contains the keys already held: every `get` / `peek` / `contains` / `pop` answers as the plain association list
    does, and no `put` evicts anything -/
theorem lru_refines_map {κ α : Type} [DecidableEq κ] (c : Lru κ α) (T : List κ) (ops : List (LOp κ α))
    (hwf : c.WF) (hT : T.length ≤ c.cap) (hc : ∀ k ∈ keys c.items, k ∈ T) (ho : ∀ o ∈ ops, o.key ∈ T) :
    c.observe ops = mapObserve c.items ops :=
  observe_sim ops c c.items T hwf hT (fun _ => rfl) hc ho

/-- from the empty cache: at most `cap` DISTINCT keys touched -/
theorem lru_refines_map_fresh {κ α : Type} [DecidableEq κ] (cap : Nat) (hcap : 0 < cap) (ops : List (LOp κ α))
    (h : (ops.map LOp.key).eraseDups.length ≤ cap) :
    (Lru.empty cap : Lru κ α).observe ops = mapObserve [] ops :=
  lru_refines_map (Lru.empty cap) ((ops.map LOp.key).eraseDups) ops (wf_empty cap hcap) h
    (fun _ hk => by simp [Lru.empty, keys] at hk)
    (fun o ho => List.mem_eraseDups.mpr (List.mem_map_of_mem ho))

/-- non-vacuity: three keys in a cache of three, with re-puts, a pop and promoting reads -/
example : ((([LOp.put 1 10, .put 2 20, .get 1, .put 3 30, .put 2 21, .pop 1, .put 1 11, .peek 2, .contains 3] :
    List (LOp Nat Nat)).map LOp.key).eraseDups.length ≤ 3) := by decide

/-- one key more than the capacity and the cache is NOT the map any more -/
theorem lru_refines_map_needs_bound :
    (Lru.empty 2 : Lru Nat Nat).observe [.put 1 10, .put 2 20, .put 3 30, .peek 1] ≠
      mapObserve [] [.put 1 10, .put 2 20, .put 3 30, .peek 1] := by decide

/-! ### (b) eviction -/

/-- a NEW key put into a FULL cache pushes out exactly the last entry of the recency order — the entry whose last
    `get` / `put` lies furthest back — and nothing else: every other key keeps its value, the new key has its value,
    the order of the survivors is kept with the new key in front -/
theorem lru_evicts_lru {κ α : Type} [DecidableEq κ] (c : Lru κ α) (h : c.WF) (k : κ) (v : α)
    (hnew : c.contains k = false) (hfull : c.len = c.cap) :
    ∃ e, c.items.getLast? = some e ∧ (c.put k v).2 = some e ∧ e.1 ≠ k ∧
      (c.put k v).1.items = (k, v) :: c.items.dropLast ∧
      (c.put k v).1.peek k = some v ∧ (c.put k v).1.peek e.1 = none ∧
      ∀ k', k' ≠ k → k' ≠ e.1 → (c.put k v).1.peek k' = c.peek k' := by
  have hn : lookup k c.items = none := by
    simp only [Lru.contains] at hnew
    cases hl : lookup k c.items with
    | none => rfl
    | some x => rw [hl] at hnew; simp at hnew
  exact put_full c h k v hn hfull

/-- a `put` of a held key, or into a cache that is not full, evicts nothing and touches no other key -/
theorem lru_put_keeps_others {κ α : Type} [DecidableEq κ] (c : Lru κ α) (k : κ) (v : α)
    (h : c.contains k = true ∨ c.len < c.cap) (k' : κ) :
    (c.put k v).2 = none ∧ (c.put k v).1.peek k' = if k' = k then some v else c.peek k' :=
  peek_put_noevict c k v h k'

/-- for ALL operation sequences: never more than `cap` entries, keys pairwise distinct -/
theorem lru_size_le_cap {κ α : Type} [DecidableEq κ] (cap : Nat) (hcap : 0 < cap) (ops : List (LOp κ α)) :
    ((Lru.empty cap : Lru κ α).run ops).len ≤ cap ∧ (keys ((Lru.empty cap : Lru κ α).run ops).items).Nodup := by
  have h := wf_run (Lru.empty cap : Lru κ α) (wf_empty cap hcap) ops
  have hs := h.size
  rw [run_cap] at hs
  exact ⟨hs, h.nodup⟩

/-- the way `Model/MemLru.lean` carries a cache — content table plus recency queue of its keys — is the same
    cache: the keys of the recency-ordered list follow `qTouch` / `qPromote` / `qRemove`, the evicted key is the one
    the queue pushes out, and the content is the plain map update minus that key -/
theorem lru_layered {κ α : Type} [DecidableEq κ] (c : Lru κ α) (h : c.WF) (k : κ) (v : α) :
    keys (c.put k v).1.items = (qTouch c.cap k (keys c.items)).1 ∧
    (c.put k v).2.map Prod.fst = (qTouch c.cap k (keys c.items)).2 ∧
    (∀ k', lookup k' (c.put k v).1.items =
      if (c.put k v).2.map Prod.fst = some k' then none else lookup k' (Lru.insert k v c.items)) ∧
    keys (c.get k).1.items = qPromote k (keys c.items) ∧
    keys (c.pop k).1.items = qRemove k (keys c.items) :=
  ⟨(keys_put c k v).1, (keys_put c k v).2, fun k' => lookup_put c h k v k', keys_get c k, keys_pop c k⟩

/-! ### (c) within the capacities the memory backend is the unbounded `.mem` model -/

/-- for EVERY history whose unbounded run stays within the capacities (`WithinCapRun`: at most `cap` group records,
    index entries, relay sets, exporter secrets, welcomes, processed welcomes, processed messages and groups with
    messages, at most `msgCap` messages per group, after every operation) and for EVERY resolution `ch` of the map-order choice of a restore: the observations are those of the unbounded `.mem` store, and so is the content -/
theorem mem_within_capacity_eq_unbounded (cap msgCap : Nat) (ops : List (Op × List Nat))
    (hw : WithinCapRun cap msgCap (Store.empty .mem) (ops.map (·.1)) = true) :
    MemLru.observe (MemStore.empty cap msgCap) ops = (Store.observe (Store.empty .mem, []) (ops.map (·.1))).2 ∧
    (MemLru.run (MemStore.empty cap msgCap) ops).u = (Store.observe (Store.empty .mem, []) (ops.map (·.1))).1 :=
  observe_within ops (MemStore.empty cap msgCap) (cinv_empty cap msgCap) hw

/-- C10 for the real memory backend: within the capacities and within both backends' limits (`WLrun`, Props/C10)
    the LRU-backed memory backend and the SQLite backend give the same observations -/
theorem backends_equal_lru_partial (cap msgCap : Nat) (ops : List (Op × List Nat))
    (hc : WithinCapRun cap msgCap (Store.empty .mem) (ops.map (·.1)) = true)
    (hw : WLrun (Store.empty .mem) (ops.map (·.1)) = true) :
    MemLru.observe (MemStore.empty cap msgCap) ops = (Store.observe (Store.empty .sql, []) (ops.map (·.1))).2 := by
  rw [(mem_within_capacity_eq_unbounded cap msgCap ops hc).1]
  exact (observe_agree (ops.map (·.1)) _ _ [] agree_empty hw).1

def grp (gid nid : Nat) : Group :=
  { gid := gid, nid := nid, nameLen := 1, descLen := 0, admins := 1, img := 0, lastId := none, lastAt := none,
    lastProc := none, epoch := 0, state := 0, selfUpd := 0 }

def msg (id gid created : Nat) : Msg :=
  { id := id, gid := gid, pk := 0, kind := 9, created := created, processed := created, content := 1, contentLen := 8,
    tag := 0, wrapper := id, epoch := some 1, state := 1 }

/-- non-vacuity: two groups, relays, two secrets, a message, a snapshot, a rotation of the nostr id, a rollback,
    lookups and a dump fit `cache_size` 2 / one message per group, and are within `WL` -/
def exWithin : List Op :=
  [.saveGroup (grp 1 11), .saveGroup (grp 2 12), .replaceRelays 1 [3, 1], .saveSecret 1 0 7, .saveMessage (msg 1 1 100),
   .snapCreate 1 1 1000, .saveSecret 1 1 8, .saveGroup (grp 1 15), .snapRollback 1 1, .findGroupNostr 11,
   .messages 1 none none none, .dump]

example : WithinCapRun 2 1 (Store.empty .mem) exWithin = true ∧ WLrun (Store.empty .mem) exWithin = true := by decide

/-- the hypothesis is needed: one group more than `cache_size` and the backend answers differently from the
    unbounded model (the first group is gone) -/
theorem mem_beyond_capacity_differs :
    MemLru.observe (MemStore.empty 1 10) [(.saveGroup (grp 1 11), []), (.saveGroup (grp 2 12), []), (.findGroup 1, [])] ≠
      (Store.observe (Store.empty .mem, []) [.saveGroup (grp 1 11), .saveGroup (grp 2 12), .findGroup 1]).2 ∧
    WithinCapRun 1 10 (Store.empty .mem) [.saveGroup (grp 1 11), .saveGroup (grp 2 12), .findGroup 1] = false := by decide

/-! ### (d) the two group caches never disagree — all histories, beyond the capacities too -/

/-- what a caller of the two lookups may rely on -/
def IndexOK (s : MemStore) : Prop :=
  ∀ n g, (findGroupNostr s.u n = some g → g.nid = n ∧ findGroup s.u g.gid = some g) ∧
         (findGroup s.u n = some g → findGroupNostr s.u g.nid = some g)

/-- for ALL histories and ALL choices, any `cache_size ≥ 1`, any message cap: if no rollback brings back a nostr id
    that another held group carries (`NoCollisionRun`, decidable), then
    * whatever `find_group_by_nostr_group_id n` returns carries the id `n` and is exactly the record
      `find_group_by_mls_group_id` returns for its group — never another group's record, never a stale copy, never a
      group the primary cache has dropped;
    * every group the primary cache holds is found under the nostr id its record carries.
    Evictions do not disturb this: the two caches evict in step (`Paired`). -/
theorem index_consistent (cap msgCap : Nat) (hcap : 0 < cap) (ops : List (Op × List Nat))
    (hnc : NoCollisionRun (MemStore.empty cap msgCap) ops = true) :
    IndexOK (MemLru.run (MemStore.empty cap msgCap) ops) :=
  fun n g => paired_lookups _ (run_paired ops _ (pinv_empty cap msgCap hcap) hnc) n g

/-- non-vacuity: cache_size 1, three groups saved in turn (each save evicts the previous record from BOTH
    caches), a rotation, a snapshot and a rollback of a group that was evicted in between -/
def exPaired : List (Op × List Nat) :=
  [(.saveGroup (grp 1 11), []), (.snapCreate 1 1 1000, []), (.saveGroup (grp 2 12), []), (.saveGroup (grp 2 13), []),
   (.saveGroup (grp 3 14), []), (.snapRollback 1 1, []), (.findGroupNostr 11, [])]

example : NoCollisionRun (MemStore.empty 1 1) exPaired = true ∧
    (MemLru.run (MemStore.empty 1 1) exPaired).evlog.length = 6 := by decide

/-- the full statement (no proviso) … -/
def index_full : Prop :=
  ∀ (cap msgCap : Nat), 0 < cap → ∀ ops : List (Op × List Nat), IndexOK (MemLru.run (MemStore.empty cap msgCap) ops)

/-- … fails: after a rollback onto a nostr id that another group has taken (the restore's `put` REPLACES that
    group's index entry, so the index holds one entry fewer than the primary cache) the next new group pushes the
    oldest record out of the primary cache but nothing out of the index — the index still answers with a group the
    primary cache no longer holds.  cache_size 3; corpus/C10lru/index_ghost_after_collision.trace -/
def wGhost : List (Op × List Nat) :=
  [(.saveGroup (grp 3 13), []), (.saveGroup (grp 1 11), []), (.snapCreate 1 1 1000, []),
   (.saveGroup { grp 1 15 with epoch := 1 }, []), (.saveGroup (grp 2 11), []), (.snapRollback 1 1, []),
   (.saveGroup (grp 4 14), [])]

theorem witness_index_ghost :
    findGroupNostr (MemLru.run (MemStore.empty 3 10000) wGhost).u 13 = some (grp 3 13) ∧
    findGroup (MemLru.run (MemStore.empty 3 10000) wGhost).u 3 = none ∧
    NoCollisionRun (MemStore.empty 3 10000) wGhost = false := by decide

theorem index_full_false : ¬ index_full := by
  intro h
  have := (h 3 10000 (by decide) wGhost 13 (grp 3 13)).1 witness_index_ghost.1
  have h3 : findGroup (MemLru.run (MemStore.empty 3 10000) wGhost).u 3 = some (grp 3 13) := this.2
  rw [witness_index_ghost.2.1] at h3
  cases h3

/-! ### beyond the capacities: what eviction does to C09 and to the dependants of a group (closed witnesses,
    every one replayed on the implementation by the `lru` profile's corpus / generator) -/

/-- C09 beyond the capacity: rolling group 1 back (its record had been evicted meanwhile) puts the record into a
    full cache and DESTROYS group 2's record — a rollback of one group that changes another group -/
theorem witness_rollback_evicts_other_group :
    let s := MemLru.run (MemStore.empty 1 10) [(.saveGroup (grp 1 11), []), (.snapCreate 1 1 1000, []), (.saveGroup (grp 2 12), [])]
    findGroup s.u 2 = some (grp 2 12) ∧ findGroup (MemLru.step s (.snapRollback 1 1) []).1.u 2 = none ∧
    findGroup (MemLru.step s (.snapRollback 1 1) []).1.u 1 = some (grp 1 11) := by decide

/-- the record of a group is evicted while its messages, relays and secrets stay cached: listings of that group are
    refused, `find_message_by_event_id` still answers, and saving the record again brings the dependants back -/
theorem witness_evicted_group_keeps_dependants :
    let s := MemLru.run (MemStore.empty 1 10) [(.saveGroup (grp 1 11), []), (.replaceRelays 1 [2], []), (.saveSecret 1 0 7, []),
      (.saveMessage (msg 5 1 100), []), (.saveGroup (grp 2 12), [])]
    (MemLru.step s (.messages 1 none none none) []).2 = "err" ∧
    (MemLru.step s (.relays 1) []).2 = "err" ∧
    findMessage s.u 1 5 = some (msg 5 1 100) ∧
    (MemLru.step (MemLru.step s (.saveGroup (grp 1 11)) []).1 (.relays 1) []).2 = "[2]" ∧
    (MemLru.step (MemLru.step s (.saveGroup (grp 1 11)) []).1 (.getSecret 1 0) []).2 = "some:7" := by decide

/-- since /repo 3a82aa4 the per-group message cap evicts THE last message of the default listing order
    (`created_at`, then `processed_at`, then id — regenerated facts `memCapVictimKeys`, `memCapVictimIsMin`): among
    equally old messages the one with the smallest id, whatever `ch` (before: whichever the map yielded first) -/
theorem witness_message_cap_victim (ch : List Nat) :
    let s := MemLru.run (MemStore.empty 4 2) [(.saveGroup (grp 1 11), []), (.saveMessage (msg 2 1 100), []), (.saveMessage (msg 1 1 100), [])]
    findMessage (MemLru.step s (.saveMessage (msg 3 1 101)) ch).1.u 1 1 = none ∧
    findMessage (MemLru.step s (.saveMessage (msg 3 1 101)) ch).1.u 1 2 = some (msg 2 1 100) ∧
    findMessage (MemLru.step s (.saveMessage (msg 3 1 101)) ch).1.u 1 3 = some (msg 3 1 101) := by
  have hch : ∀ (s : MemStore) (m : Msg), MemLru.step s (.saveMessage m) ch = MemLru.step s (.saveMessage m) [] := fun _ _ => rfl
  simp only [hch]
  decide

/-- reads never promote: after reading the oldest record a new record still pushes it out; a write does promote -/
theorem witness_reads_do_not_promote :
    let s := MemLru.run (MemStore.empty 2 10) [(.saveGroup (grp 1 11), []), (.saveGroup (grp 2 12), [])]
    findGroup (MemLru.run s [(.findGroup 1, []), (.findGroupNostr 11, []), (.allGroups, []), (.saveGroup (grp 3 13), [])]).u 1 = none ∧
    findGroup (MemLru.run s [(.saveGroup (grp 1 11), []), (.saveGroup (grp 3 13), [])]).u 1 = some (grp 1 11) ∧
    findGroup (MemLru.run s [(.saveGroup (grp 1 11), []), (.saveGroup (grp 3 13), [])]).u 2 = none := by decide

/-! ### `messages_cache` is write-only, and what a rollback can never touch -/

/-- `messages_cache` (by message id) is written by `save_message` / `invalidate_messages_after_epoch` and read by no
    trait method: for ALL histories, two backends that differ only in that cache (content, recency order) and in the
    eviction log give the same observations and still differ only there.  So its capacity, its evictions and the
    unobservable map order in which `invalidate_messages_after_epoch` promotes its entries cannot matter. -/
theorem messages_cache_unobservable (ops : List (Op × List Nat)) (a b : MemStore) (h : vis a = vis b) :
    MemLru.observe a ops = MemLru.observe b ops ∧ vis (MemLru.run a ops) = vis (MemLru.run b ops) := by
  induction ops generalizing a b with
  | nil => exact ⟨rfl, h⟩
  | cons oc os ih =>
    obtain ⟨o, ch⟩ := oc
    obtain ⟨h1, h2⟩ := vis_step a b h o ch
    obtain ⟨i1, i2⟩ := ih _ _ h2
    exact ⟨by simp only [MemLru.observe, h1, i1], i2⟩

/-- C09's frame, the part that survives beyond the capacities: whatever the fill level and whatever a rollback
    evicts, it never changes a stored message, a dedup record, a welcome or a processed-welcome record, nor the
    recency order of their caches (what it CAN evict beyond the capacity: other groups' records, relay sets and
    exporter secrets — `witness_rollback_evicts_other_group`) -/
theorem rollback_keeps_messages_and_records (s : MemStore) (hb : s.u.backend = .mem) (gid name : Nat) (ch : List Nat)
    (s' : MemStore) (h : MemLru.snapRollback s gid name ch = some s') :
    s'.u.msgs = s.u.msgs ∧ s'.u.pms = s.u.pms ∧ s'.u.welcomes = s.u.welcomes ∧ s'.u.pws = s.u.pws ∧
    s'.qMsgGroups = s.qMsgGroups ∧ s'.qPms = s.qPms ∧ s'.qWelcomes = s.qWelcomes ∧ s'.qPws = s.qPws := by
  have f := rframe_snapRollback s hb gid name ch s' h
  exact ⟨f.msgs, f.pms, f.welcomes, f.pws, f.q1, f.q2, f.q3, f.q4⟩

end MdkVerif.Props.C10Lru
