import MdkVerif.Model.Ffi
import MdkVerif.Proofs.Ffi
/-
  C06, first sentence — "… or (through the foreign-language bindings) any string argument, the library returns a
  result instead of panicking": the PARSE layer of crates/mdk-uniffi (Model/Ffi.lean).

  What is proved here is the decision logic of the parse helpers for ALL byte strings: which strings are
  accepted, which error class the others get, and that what is accepted is never a default value.  That the
  Rust code does not panic is a runtime fact searched by the harness (`vh ffi`), not a theorem; the tie between
  this model and the code is (a) the correspondence run (same op lines on both sides, parse-level outcome
  compared) and (b) the generated tables `Generated.ffi*` / `…State…` the theorems below are stated about.
-/
namespace MdkVerif.Props.C06Ffi
open MdkVerif MdkVerif.Ffi MdkVerif.Codec

/-! ### hex -/

/-- Every string gets exactly one of three answers, and none of them is a default: bytes that re-encode to the
    (lower-cased) input, `OddLength` for an odd number of bytes, or `InvalidHexCharacter` naming the FIRST
    byte that is not a hex digit together with its index.  `InvalidStringLength` is never produced. -/
theorem hex_decode_total (s : Bytes) :
    (∃ b, hexDecode s = .ok b ∧ s.length = 2 * b.length ∧ isBytes b = true ∧ hexEnc b = s.map lowerC) ∨
    (hexDecode s = .error .oddLength ∧ s.length % 2 = 1) ∨
    (∃ c k, hexDecode s = .error (.invalidChar c k) ∧ s.length % 2 = 0 ∧ s[k]? = some c ∧ hexVal c = none ∧
      ∀ j, j < k → ∃ d, s[j]? = some d ∧ (hexVal d).isSome = true) := by
  rcases hexDecode_cases s with ⟨hodd, h⟩ | ⟨heven, h⟩ <;> rw [h]
  · exact Or.inr (Or.inl ⟨rfl, hodd⟩)
  · cases h : hexPairs 0 s with
    | ok b => exact Or.inl ⟨b, rfl, hexPairs_ok_spec s 0 b h⟩
    | error e =>
      obtain ⟨c, k, rfl, hk⟩ := hexPairs_error_spec s 0 e heven h
      exact Or.inr (Or.inr ⟨c, k, by rw [Nat.zero_add], heven, hk⟩)

/-- decode ∘ encode is the identity on byte lists; encode ∘ decode lower-cases -/
theorem hex_round_trip :
    (∀ b : Bytes, isBytes b = true → hexDecode (hexEnc b) = .ok b) ∧
    (∀ s b : Bytes, hexDecode s = .ok b → hexEnc b = s.map lowerC) := by
  refine ⟨fun b hb => ?_, fun s b h => ?_⟩
  · rcases hexDecode_cases (hexEnc b) with ⟨hodd, _⟩ | ⟨_, h⟩
    · rw [hexEnc_length, Nat.mul_mod_right] at hodd; cases hodd
    · rw [h]; exact (hexPairs_ok_iff _ 0 b).mpr (hexDec_hexEnc b hb)
  · rcases hexDecode_cases s with ⟨_, h'⟩ | ⟨_, h'⟩ <;> rw [h'] at h
    · cases h
    · exact (hexPairs_ok_spec s 0 b h).2.2

/-- the binding's hex decoder and the C15 model of the same crate accept the same strings with the same value -/
theorem hex_decode_agrees_with_codec (s b : Bytes) : hexDecode s = .ok b ↔ hexDec s = some b := by
  rcases hexDecode_cases s with ⟨hodd, h⟩ | ⟨_, h⟩ <;> rw [h]
  · refine ⟨nofun, fun hd => ?_⟩
    rw [hexDec_length s b hd, Nat.mul_mod_right] at hodd; cases hodd
  · exact hexPairs_ok_iff s 0 b

/-- either case is accepted and means the same bytes (an id has 2^k spellings; `hex_round_trip` says which one
    the library itself prints) -/
theorem hex_case_insensitive (s b : Bytes) (h : hexDecode s = .ok b) : hexDecode (s.map upperC) = .ok b := by
  rcases hexDecode_cases s with ⟨_, h'⟩ | ⟨heven, h'⟩ <;> rw [h'] at h
  · cases h
  · rcases hexDecode_cases (s.map upperC) with ⟨hodd, _⟩ | ⟨_, hu⟩
    · rw [List.length_map, heven] at hodd; cases hodd
    · rw [hu]; exact hexPairs_upper s 0 b h

/-! ### ids and keys -/

/-- `parse_group_id`: any even number of hex digits, also none at all -/
theorem parse_group_id_accept_iff (s : Bytes) :
    (∃ b, parseGroupId s = .ok b) ↔ s.length % 2 = 0 ∧ ∀ c ∈ s, isHexChar c = true := by
  unfold parseGroupId
  rcases hexDecode_cases s with ⟨hodd, h⟩ | ⟨_, h⟩ <;> rw [h]
  · exact ⟨nofun, fun hh => by rw [hh.1] at hodd; cases hodd⟩
  · exact hexPairs_isOk_iff s 0

theorem decodeToSlice_accept_iff (n : Nat) (s : Bytes) :
    (∃ b, decodeToSlice n s = .ok b) ↔ s.length = 2 * n ∧ ∀ c ∈ s, isHexChar c = true := by
  rcases decodeToSlice_cases n s with ⟨hodd, h⟩ | ⟨_, hne, h⟩ | ⟨hlen, h⟩ <;> rw [h]
  · exact ⟨nofun, fun hh => by rw [hh.1, Nat.mul_mod_right] at hodd; cases hodd⟩
  · exact ⟨nofun, fun hh => absurd hh.1 hne⟩
  · rw [hexPairs_isOk_iff s 0]
    exact ⟨fun hh => ⟨hlen, hh.2⟩, fun hh => ⟨by rw [hlen, Nat.mul_mod_right], hh.2⟩⟩

theorem decodeToSlice_value (n : Nat) (s b : Bytes) (h : decodeToSlice n s = .ok b) :
    b.length = n ∧ isBytes b = true ∧ hexEnc b = s.map lowerC := by
  rcases decodeToSlice_cases n s with ⟨_, h'⟩ | ⟨_, _, h'⟩ | ⟨hlen, h'⟩ <;> rw [h'] at h
  · cases h
  · cases h
  · obtain ⟨h1, h2, h3⟩ := hexPairs_ok_spec s 0 b h
    exact ⟨Nat.eq_of_mul_eq_mul_left (by decide : 0 < 2) (h1.symm.trans hlen), h2, h3⟩

/-- which error a refused id gets: parity first, then the length, then the first bad character -/
theorem decodeToSlice_errors (n : Nat) (s : Bytes) :
    (s.length % 2 = 1 → decodeToSlice n s = .error .oddLength) ∧
    (s.length % 2 = 0 → s.length ≠ 2 * n → decodeToSlice n s = .error .invalidStringLength) ∧
    (s.length = 2 * n → ∀ e, decodeToSlice n s = .error e →
      ∃ c k, e = .invalidChar c k ∧ s[k]? = some c ∧ hexVal c = none ∧ ∀ j, j < k → ∃ d, s[j]? = some d ∧ (hexVal d).isSome = true) := by
  rcases decodeToSlice_cases n s with ⟨hodd, h⟩ | ⟨heven, hne, h⟩ | ⟨hlen, h⟩
  · refine ⟨fun _ => h, fun h0 => ?_, fun hl => ?_⟩
    · rw [h0] at hodd; cases hodd
    · rw [hl, Nat.mul_mod_right] at hodd; cases hodd
  · refine ⟨fun h1 => ?_, fun _ _ => h, fun hl => absurd hl hne⟩
    rw [h1] at heven; cases heven
  · have heven : s.length % 2 = 0 := by rw [hlen, Nat.mul_mod_right]
    refine ⟨fun h1 => ?_, fun _ hne => absurd hlen hne, fun _ e he => ?_⟩
    · rw [h1] at heven; cases heven
    · rw [h] at he
      obtain ⟨c, k, rfl, hk⟩ := hexPairs_error_spec s 0 e heven he
      exact ⟨c, k, by rw [Nat.zero_add], hk⟩

/-- `parse_event_id` (= `EventId::from_hex`): exactly the strings of 64 hex digits, and the id is their value -/
theorem parse_event_id_accept_iff (s : Bytes) :
    (∃ b, parseEventId s = .ok b) ↔ s.length = 64 ∧ ∀ c ∈ s, isHexChar c = true := by
  unfold parseEventId; exact decodeToSlice_accept_iff 32 s

/-- `parse_public_key` (= `PublicKey::from_hex`): exactly the strings of 64 hex digits — NOTHING else is
    demanded at this layer: see `public_key_not_checked_against_curve` -/
theorem parse_public_key_accept_iff (s : Bytes) :
    (∃ b, parsePublicKey s = .ok b) ↔ s.length = 64 ∧ ∀ c ∈ s, isHexChar c = true := by
  unfold parsePublicKey; exact decodeToSlice_accept_iff 32 s

/-- 32 zero bytes (not the x coordinate of a curve point) are accepted as a public key by the parser: the
    shape theorem above is all there is (the harness observes what mdk-core then does with such a key) -/
theorem public_key_not_checked_against_curve :
    parsePublicKey (List.replicate 64 48) = .ok (List.replicate 32 0) := by rfl

/-! ### sort order, tags, fixed-size vectors -/

/-- the hand-written `parseSortOrder` accepts exactly the strings of the table regenerated from the match arms
    of `parse_message_sort_order`, with the variant the table gives; an absent argument stays absent -/
theorem sort_order_accept_iff (s : Bytes) (o : Nat) :
    parseSortOrder (some s) = .ok (some o) ↔ (s, o) ∈ Generated.ffiSortOrderTable := by
  have ht : Generated.ffiSortOrderTable = [(createdAtFirst, 0), (processedAtFirst, 1)] := by decide +kernel
  have hne : createdAtFirst ≠ processedAtFirst := by decide
  rw [ht, parseSortOrder]
  simp only [List.mem_cons, List.not_mem_nil, or_false, Prod.mk.injEq]
  by_cases h1 : s = createdAtFirst
  · rw [if_pos h1]
    exact ⟨fun h => Or.inl ⟨h1, (Option.some.inj (Except.ok.inj h)).symm⟩,
      fun h => h.elim (fun h => by rw [h.2]) (fun h => absurd (h1.symm.trans h.1) hne)⟩
  rw [if_neg h1]
  by_cases h2 : s = processedAtFirst
  · rw [if_pos h2]
    exact ⟨fun h => Or.inr ⟨h2, (Option.some.inj (Except.ok.inj h)).symm⟩,
      fun h => h.elim (fun h => absurd h.1 h1) (fun h => by rw [h.2])⟩
  · rw [if_neg h2]
    exact ⟨nofun, fun h => h.elim (fun h => absurd h.1 h1) (fun h => absurd h.1 h2)⟩

/-- `Tag::parse` refuses exactly the empty tag; what is accepted is the tag itself -/
theorem parse_tags_accept_iff (ts ts' : List (List Bytes)) :
    parseTags ts = .ok ts' ↔ (∀ t ∈ ts, t ≠ []) ∧ ts' = ts := by
  induction ts generalizing ts' with
  | nil => exact ⟨fun h => ⟨nofun, (Except.ok.inj h).symm⟩, fun h => by rw [h.2]; rfl⟩
  | cons t r ih =>
    rw [parseTags, parseTag, List.forall_mem_cons]
    cases t with
    | nil => exact ⟨nofun, fun h => absurd rfl h.1.1⟩
    | cons x xs =>
      cases hr : parseTags r with
      | error e => exact ⟨nofun, fun h => by rw [(ih r).mpr ⟨h.1.2, rfl⟩] at hr; cases hr⟩
      | ok r' =>
        obtain ⟨h1, rfl⟩ := (ih r').mp hr
        exact ⟨fun h => ⟨⟨nofun, h1⟩, (Except.ok.inj h).symm⟩, fun h => by rw [h.2]; rfl⟩

theorem vec_to_array_accept_iff (n : Nat) (o : Option Nat) :
    (∃ r, vecToArray n o = .ok r) ↔ (o = none ∨ o = some n) := by
  cases o with
  | none => simp [vecToArray]
  | some l => by_cases h : l = n <;> simp [vecToArray, h]

/-! ### the state string tables -/

/-- `as_str` and `from_str` of the three state enums (tables regenerated from the source on every run) are
    inverse on their domains, and `from_str` accepts nothing that `as_str` does not produce.  The binding
    prints `Group.state`, `Message.state`, `Welcome.state` with `as_str` and reads `Welcome.state` back with
    `from_str`, so a record obtained from the binding is accepted by the binding. -/
theorem state_tables_round_trip :
    ((∀ v s, welcomeStateAsStr v = some s → welcomeStateFromStr s = some v) ∧
     (∀ s v, welcomeStateFromStr s = some v → welcomeStateAsStr v = some s)) ∧
    ((∀ v s, messageStateAsStr v = some s → messageStateFromStr s = some v) ∧
     (∀ s v, messageStateFromStr s = some v → messageStateAsStr v = some s)) ∧
    ((∀ v s, groupStateAsStr v = some s → groupStateFromStr s = some v) ∧
     (∀ s v, groupStateFromStr s = some v → groupStateAsStr v = some s)) :=
  ⟨tables_round_trip _ _ (by decide +kernel), tables_round_trip _ _ (by decide +kernel), tables_round_trip _ _ (by decide +kernel)⟩

/-! ### the parse plans -/

/-- the hand-written plan of every exported function lists the same parse steps, in the same order, as
    `tools/gen_model.py` reads off the current source -/
theorem plans_follow_source (m : Method) : lookupPlan m.name = some (planCodes (plan m)) := by
  cases m <;> decide +kernel

/-- every `#[uniffi::export]` function of the source is a `Method` of the model (a newly exported function
    breaks this theorem until the engine covers it) -/
theorem every_export_modelled :
    ∀ p ∈ Generated.ffiPlans, p.1 = [119, 101, 108, 99, 111, 109, 101, 95, 102, 114, 111, 109, 95, 117, 110, 105, 102, 102, 105] ∨
      Method.all.any (fun m => m.name == p.1) = true := by
  decide +kernel

/-- when every step is decided, a call has ONE parse-level answer: the refusal of the first refusing step,
    or "past parsing" when there is none -/
theorem first_refusal_wins (l : List (Stage × V3)) (h : ∀ p ∈ l, p.2 ≠ .unk) :
    alts l = [match l.find? (fun p => p.2 = .rej) with | some p => .refuse p.1 | none => .past] := by
  induction l with
  | nil => rfl
  | cons p r ih =>
    obtain ⟨s, v⟩ := p
    have hr := ih (fun q hq => h q (by simp [hq]))
    cases v with
    | acc => simp [alts, hr]
    | rej => simp [alts]
    | unk => exact absurd rfl (h (s, .unk) (by simp))

/-- non-vacuity: a call whose every step is decided, with a refusal in the middle -/
example : alts [(.gid, .acc), (.eid, .rej), (.lock, .acc)] = [.refuse .eid] := by decide
example : parseEventId (List.replicate 63 97) = .error .oddLength := by rfl
example : parseEventId (List.replicate 62 97) = .error .invalidStringLength := by rfl
example : parseEventId (List.replicate 62 97 ++ [122, 122]) = .error (.invalidChar 122 62) := by rfl
example : parseGroupId [] = .ok [] := by rfl
example : hexDecode [65, 98] = .ok [171] ∧ hexDecode [97, 66] = .ok [171] := ⟨rfl, rfl⟩
/-- the hypotheses of `hex_round_trip`, `hex_case_insensitive`, `decodeToSlice_value`, `parse_*_value` are satisfiable -/
example : isBytes [171, 0, 255] = true ∧ hexDecode (hexEnc [171, 0, 255]) = .ok [171, 0, 255] := ⟨rfl, rfl⟩
example : parseEventId (List.replicate 32 [65, 98]).flatten = .ok (List.replicate 32 171) := by rfl
example : parseSortOrder (some createdAtFirst) = .ok (some 0) ∧ parseSortOrder (some processedAtFirst) = .ok (some 1) := ⟨rfl, rfl⟩
example : parseTags [[[112], []], [[]]] = .ok [[[112], []], [[]]] ∧ parseTags [[[112]], []] = .error () := ⟨rfl, rfl⟩
example : welcomeStateFromStr [112, 101, 110, 100, 105, 110, 103] = some 0 ∧ welcomeStateFromStr [80, 101, 110, 100, 105, 110, 103] = none := ⟨rfl, rfl⟩
example : relayVerdict [119, 115, 115, 58, 47, 47, 97, 46, 98] = .acc ∧ relayVerdict [104, 116, 116, 112, 58, 47, 47, 97, 46, 98] = .rej ∧
    relayVerdict [119, 115, 115, 58, 47, 47, 91, 58, 58, 49, 93] = .unk := by decide +kernel

end MdkVerif.Props.C06Ffi
