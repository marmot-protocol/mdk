import MdkVerif.Props.C08Inv
import MdkVerif.Props.C06Wrap
import MdkVerif.Proofs.Store
/-
  C08 — The stored group record always mirrors the MLS state (`sync_inv`, over the invariant `Inv` of Props/C08Inv.lean),
  and incoming events are routed by the nostr group id in force.
-/
namespace MdkVerif.Props.C08
open MdkVerif MdkVerif.Client

/-- **sync_inv**: after every API call of every history — deliveries in all branches incl. rollback, re-processing
    and eviction, create_message, self-update, group-data updates, add / remove members, accepting a welcome, leave,
    merge / clear pending, restart — the stored record of an ACTIVE group mirrors the MLS state in every field the
    model tracks: epoch, name, description, admins, relays, nostr group id.  (An evicted member's record is frozen by
    `handle_local_member_eviction`: see `eviction_freezes_record`.) -/
theorem sync_inv (id : Nat) (p : Bool) (r : Nat) (ms as : List Nat) (name : Nat) (ops : List COp)
    (ha : (ops.foldl cstep (initCl id p r ms as name)).g.active = true) :
    Synced (ops.foldl cstep (initCl id p r ms as name)).g := by
  exact (foldl_invariant (cstep_keeps (inv_deliverN 3) inv_join (fun _ _ => inv_local)) ops _ (inv_init id p r ms as name)).1 ha

/-! ## routing: incoming events are looked up by the nostr group id IN FORCE

  `process_message` finds the group by the event's `h` tag (`find_group_by_nostr_group_id`); with one group held
  that is `routes c e`: the tag equals the id in the stored record now.  The record's id follows the MLS state
  (`sync_inv`), so it changes when a rotation commit is applied, comes back when a rollback restores the snapshot
  taken before it, and survives a restart. -/

theorem routes_def (c : Cl) (e : Ev) : routes c e = true ↔ (c.hasGroup = true ∧ e.tag = c.g.recNid) := by
  simp [routes]

/-- no Failed / EpochInvalidated record blocks the event at the dedup step -/
def NotBlocked (c : Cl) (e : Ev) : Prop := ∀ r, getRec c e.n = some r → r.state ≠ 3 ∧ r.state ≠ 4

theorem notBlocked_of_none (c : Cl) (e : Ev) (h : getRec c e.n = none) : NotBlocked c e := by
  intro r hr; rw [h] at hr; cases hr

theorem deliverOnce_notBlocked (retry : Cl → Option (Cl × Res)) (nx : Nat) (c : Cl) (e : Ev) (h : NotBlocked c e) :
    deliverOnce retry nx c e = step1 retry nx c e := by
  unfold deliverOnce
  cases hr : getRec c e.n with
  | none => rfl
  | some r =>
    obtain ⟨h3, h4⟩ := h r hr
    simp [h3, h4]

theorem ownMessage_ne_gnf (c : Cl) (e : Ev) : (ownMessage c e).2 ≠ .err eGroupNotFound := by
  have hs := ownMessage_spec c e
  generalize ownMessage c e = r at hs
  cases hs with
  | same h => rcases h with rfl | rfl <;> simp [eMessage, eGroupNotFound]
  | confirmed | echo => simp [returnOwnCommit]

/-- one pass past the group lookup, with no rollback triggered, never reports GroupNotFound -/
theorem step1_routed_ne_gnf (retry : Cl → Option (Cl × Res)) (nx : Nat) (c : Cl) (e : Ev)
    (hr : routes c e = true) (hnb : isBetter c (epochOf e.path) e = false) :
    (step1 retry nx c e).2 ≠ .err eGroupNotFound := by
  have hs := step1_spec retry (R := fun _ _ => True) (fun _ _ _ => trivial) nx c e
  generalize step1 retry nx c e = r at hs
  cases hs with
  | unrouted h => rw [hr] at h; cases h
  | retried _ _ _ hb => rw [hnb] at hb; cases hb
  | own => exact ownMessage_ne_gnf _ e
  | committed =>
    unfold processCommit
    split
    · simp [eNonAdmin, eGroupNotFound]
    · split <;> simp
  | _ => simp [failUnprocessable, returnOwnCommit, mergeOwn, autoCommit, queueLeave, storeApp, eGroupNotFound, eExportSecret, eMessage]

/-- **routes_iff_current_id**.  For every client state, event and fuel, an event that is not blocked by its
    dedup record is looked up by its `h` tag:
    * tag ≠ the id in force (or no group held): the call returns `GroupNotFound` and changes NOTHING but the
      failure record — which carries neither group id nor epoch;
    * tag = the id in force: the call gets past the lookup — it never returns `GroupNotFound`, provided the event
      does not trigger a rollback (`isBetter … = false`; without that the statement is false of the code:
      `routed_full_false`, finding `retagged-commit-rollback`). -/
theorem routes_iff_current_id (fuel nx : Nat) (c : Cl) (e : Ev) (hb : NotBlocked c e) :
    (routes c e = false → deliverN fuel nx c e = (recordFailure c e.n false none, .err eGroupNotFound)) ∧
    (routes c e = true → isBetter c (epochOf e.path) e = false → (deliverN fuel nx c e).2 ≠ .err eGroupNotFound) := by
  constructor
  · intro hr
    cases fuel <;> simp only [deliverN] <;> rw [deliverOnce_notBlocked _ nx c e hb] <;> unfold step1 <;> simp [hr]
  · intro hr hnb
    cases fuel <;> simp only [deliverN] <;> rw [deliverOnce_notBlocked _ nx c e hb] <;>
      exact step1_routed_ne_gnf _ nx c e hr hnb

/-- … and a blocked event is answered from its record alone; which answer tells whether its tag is in force -/
theorem blocked_result (fuel nx : Nat) (c : Cl) (e : Ev) (r : Rec) (h : getRec c e.n = some r) (hs : r.state = 3 ∨ r.state = 4) :
    deliverN fuel nx c e = (c, if routes c e then .unprocessable else .previouslyFailed) :=
  deliverN_blocked fuel nx c e r h hs

/-- the unrouted event leaves the projection (and everything but its record) alone -/
theorem unrouted_frame (fuel nx : Nat) (c : Cl) (e : Ev) (hb : NotBlocked c e) (hr : routes c e = false) :
    proj (deliverN fuel nx c e).1 = proj c ∧ (deliverN fuel nx c e).1.g = c.g ∧ (deliverN fuel nx c e).1.mgr = c.mgr ∧
    getRec (deliverN fuel nx c e).1 e.n =
      some { state := 3, epoch := (getRec c e.n).bind (·.epoch), hasGroup := ((getRec c e.n).map (·.hasGroup)).getD false, mid := (getRec c e.n).bind (·.mid) } := by
  rw [(routes_iff_current_id fuel nx c e hb).1 hr]
  refine ⟨rfl, rfl, rfl, ?_⟩
  simp [recordFailure, setRec, getRec, Store.alookup_ainsert_self]

/-- **rollback_restores_routing**: a rollback to epoch `ep` puts back the group state saved in the snapshot of
    `ep` — record included — so from then on events are routed by the id that snapshot holds (the id that was in
    force when the commit leaving `ep` was applied), whatever id was in force before the rollback -/
theorem rollback_restores_routing (c c1 : Cl) (ep : Nat) (h : rollbackTo c ep = some c1) :
    ∃ s ∈ c.mgr, s.epoch = ep ∧ c1.g = s.saved ∧ c1.hasGroup = c.hasGroup ∧
      ∀ e, routes c1 e = (c.hasGroup && e.tag == s.saved.recNid) := by
  obtain ⟨i, s, rest, _, hd, hs, rfl⟩ := rollbackTo_spec h
  exact ⟨s, List.mem_of_mem_drop (by rw [hd]; exact List.mem_cons_self), hs, rfl, rfl, fun e => rfl⟩

/-- **restart_keeps_routing**: reopening the database changes neither the id in force nor, therefore, which
    events are routed -/
theorem restart_keeps_routing (c : Cl) (e : Ev) :
    (restart c).1.g.recNid = c.g.recNid ∧ routes (restart c).1 e = routes c e := by
  unfold restart; split <;> exact ⟨rfl, rfl⟩

/-- applying a commit (that leaves the receiver in the group) moves the id in force to the commit's (`setData`)
    or keeps it (anything else) -/
theorem processCommit_routing (c : Cl) (e : Ev) (b : Body) (sw : List Nat) (hk : e.kind = .commit b sw)
    (ha : (isAdmin c.g e.sender || isPureSelfUpdate b sw) = true) (hme : removesMe c.id b sw = false) :
    (processCommit c e b sw).1.g.recNid = (match b with | .setData d => d.nid | _ => c.g.nid) := by
  unfold processCommit
  simp only [ha, hme, Bool.not_true, Bool.false_eq_true, if_false]
  simp only [setRec, syncRec, ensureSecret_nid]
  cases b <;> simp [mergeCommit, hk, applyBody, mgrCreate]

/-- **eviction_freezes_record**: a commit that removes the receiver is merged (the MLS state moves on, the
    roster no longer contains the receiver's removal target) but the stored record is NOT synced: it keeps its
    epoch and every data field, the group becomes inactive, the dedup record says Processed under the OLD epoch,
    and the snapshot of the state before is taken as for any commit -/
theorem eviction_freezes_record (c : Cl) (e : Ev) (b : Body) (sw : List Nat) (hk : e.kind = .commit b sw)
    (ha : (isAdmin c.g e.sender || isPureSelfUpdate b sw) = true) (hme : removesMe c.id b sw = true) :
    (processCommit c e b sw).2 = .commit ∧ (processCommit c e b sw).1.g.active = false ∧
    (processCommit c e b sw).1.g.path = c.g.path ++ [e.cipher] ∧
    (processCommit c e b sw).1.g.recEpoch = c.g.recEpoch ∧ (processCommit c e b sw).1.g.recName = c.g.recName ∧
    (processCommit c e b sw).1.g.recDesc = c.g.recDesc ∧ (processCommit c e b sw).1.g.recAdmins = c.g.recAdmins ∧
    (processCommit c e b sw).1.g.recRelays = c.g.recRelays ∧ (processCommit c e b sw).1.g.recNid = c.g.recNid ∧
    getRec (processCommit c e b sw).1 e.n = some { state := 1, epoch := some c.g.recEpoch, hasGroup := true, mid := none } ∧
    (processCommit c e b sw).1.msgs = c.msgs := by
  unfold processCommit
  rw [if_neg (by simp [ha]), if_pos hme]
  refine ⟨rfl, rfl, ?_, ?_, ?_, ?_, ?_, ?_, ?_, by simp [setRec, getRec, Store.alookup_ainsert_self], rfl⟩
  -- the merge appends to the path and touches no field of the record, whatever the body
  all_goals cases b <;> simp [setRec, mergeCommit, hk, applyBody, mgrCreate]

theorem step1_evicted (retry : Cl → Option (Cl × Res)) (nx : Nat) (c : Cl) (e : Ev) (ha : c.g.active = false) :
    step1 retry nx c e = if routes c e then (recordFailure c e.n true none, .err eExportSecret)
                         else (recordFailure c e.n false none, .err eGroupNotFound) := by
  unfold step1
  cases hr : routes c e <;> simp [ha]

/-- **evicted_deliver**: an evicted member processes nothing any more: whatever is delivered, for every fuel, the
    call is refused (blocked by its record, not routed, or `ExportSecret` — the inactive MLS group cannot export the
    current epoch's secret, which `process_message` asks for first) and nothing changes but the event's failure record -/
theorem evicted_deliver (fuel nx : Nat) (c : Cl) (e : Ev) (ha : c.g.active = false) :
    ((deliverN fuel nx c e).1 = c ∨ ∃ hg, (deliverN fuel nx c e).1 = recordFailure c e.n hg none) ∧
    ((deliverN fuel nx c e).2 = .unprocessable ∨ (deliverN fuel nx c e).2 = .previouslyFailed ∨
     (deliverN fuel nx c e).2 = .err eGroupNotFound ∨ (deliverN fuel nx c e).2 = .err eExportSecret) ∧
    proj (deliverN fuel nx c e).1 = proj c := by
  refine deliverN_induct (P := fun c r => c.g.active = false → (r.1 = c ∨ ∃ hg, r.1 = recordFailure c e.n hg none) ∧
      (r.2 = .unprocessable ∨ r.2 = .previouslyFailed ∨ r.2 = .err eGroupNotFound ∨ r.2 = .err eExportSecret) ∧
      proj r.1 = proj c) nx e ?_ ?_ fuel c ha
  · intro c r _ _ _
    refine ⟨.inl rfl, ?_, rfl⟩
    exact ite_elim (P := fun x => x = Res.unprocessable ∨ x = .previouslyFailed ∨ x = .err eGroupNotFound ∨ x = .err eExportSecret)
      (fun _ => .inl rfl) (fun _ => .inr (.inl rfl))
  -- every outcome past the second check needs an active group
  · intro c r _ hs ha
    cases hs with
    | unrouted => exact ⟨.inr ⟨false, rfl⟩, .inr (.inr (.inl rfl)), rfl⟩
    | evicted => exact ⟨.inr ⟨true, rfl⟩, .inr (.inr (.inr rfl)), rfl⟩
    | «sealed» _ h => rw [ha] at h; cases h
    | refused ho | own ho | echoed ho | retried ho | mergedOwn ho | committed ho | autoCommitted ho | queued ho | stored ho =>
      have := ho.active
      rw [ha] at this; cases this

/-- **evicted_cannot_act**: … and every local operation that would publish something is refused without any effect:
    create_message, self-update / remove / add (commit staging), leave — `OwnLeafNotFound`; update_group_data the same
    (or, first, the complaint about its admin list); merge_pending_commit is refused too -/
theorem evicted_cannot_act (c : Cl) (hg : c.hasGroup = true) (ha : c.g.active = false) :
    (∀ n ts idn mid mts tok, send c n ts idn mid mts tok = (c, .err eOwnLeaf)) ∧
    (∀ n ts idn b na, stageCommit c n ts idn b na = (c, .err eOwnLeaf)) ∧
    (∀ n ts idn who, removeMembers c n ts idn who = (c, .err eOwnLeaf)) ∧
    (∀ n ts idn who, addMembers c n ts idn who = (c, .err eOwnLeaf)) ∧
    (∀ n ts idn, leave c n ts idn = (c, .err eOwnLeaf)) ∧
    (∀ n ts idn u, updateData c n ts idn u = (c, .err eOwnLeaf) ∨ updateData c n ts idn u = (c, .err eUpdExts)) ∧
    merge c = (c, .err eMergePending) := by
  refine ⟨?_, ?_, ?_, ?_, ?_, ?_, ?_⟩
  · intro n ts idn mid mts tok; simp [send, hg, ha]
  · intro n ts idn b na; simp [stageCommit, hg, ha]
  · intro n ts idn who; simp [removeMembers, hg, ha]
  · intro n ts idn who; simp [addMembers, hg, ha]
  · intro n ts idn; simp [leave, hg, ha]
  · intro n ts idn u
    unfold updateData
    simp only [hg, Bool.not_true, Bool.false_eq_true, if_false]
    split
    · exact Or.inr rfl
    · left; simp [stageCommit, hg, ha]
  · simp [merge, hg, ha]

/-! ### closed witnesses (replayed on the implementation: corpus/C08/rotation_in_flight.trace,
    corpus/C06/retagged_commit_rollback.trace) -/

def wc0 : Cl := initCl 2 false 5 [0, 1, 2] [0, 1] 1
/-- admin 0 rotates the id 0 → 8 -/
def wRot : Ev := { n := 1, ts := 20, idnum := 5, cipher := 1, sender := 0, path := [], kind := .commit (.setData { initData [0, 1] 1 with nid := 8 }) [] }
/-- a message of member 1 sent BEFORE the rotation (state `[]`, tag 0) … -/
def wOld : Ev := { n := 2, ts := 15, idnum := 3, cipher := 2, sender := 1, path := [], kind := .app 0 101 1 }
/-- … and one sent after it (state `[1]`, tag 8) -/
def wNew : Ev := { n := 3, ts := 25, idnum := 4, cipher := 3, sender := 1, path := [1], kind := .app 1 102 2, tag := 8 }
/-- member 1's sibling of the rotation commit, earlier wrapper timestamp, re-published under the NEW id 8 -/
def wSibRetag : Ev := { n := 4, ts := 19, idnum := 9, cipher := 4, sender := 1, path := [], kind := .commit .selfUpdate [], tag := 8 }
def wOld2 : Ev := { wOld with n := 5, cipher := 5, kind := .app 2 103 3 }

/-- `h-rotation-in-flight`: after the rotation commit the in-flight message under the old id is not routed:
    GroupNotFound, a Failed record without group and epoch, PreviouslyFailed on every later offer; the message
    published under the new id is processed -/
theorem witness_rotation_in_flight :
    let c1 := (deliver wc0 wRot 0).1
    c1.g.recNid = 8 ∧ (deliver c1 wOld 0).2 = .err eGroupNotFound ∧
    getRec (deliver c1 wOld 0).1 2 = some { state := 3, epoch := none, hasGroup := false, mid := none } ∧
    (deliver (deliver c1 wOld 0).1 wOld 0).2 = .previouslyFailed ∧ (deliver c1 wOld 0).1.msgs = [] ∧
    (deliver c1 wNew 0).2 = .app 1 ∧
    -- before the rotation commit the same message is routed and stored
    (deliver wc0 wOld 0).2 = .app 0 := by decide

/-- routing follows a ROLLBACK: the retagged better sibling makes the client roll back to the snapshot taken
    before the rotation; the id in force is 0 again: an event under 0 is processed, one under 8 no longer is.
    (The retagged sibling itself is looked up again after the rollback — under the restored id — and refused:
    a routed event that ends in GroupNotFound, and a refusal with an effect: `retagged-commit-rollback`.) -/
theorem witness_rollback_restores_routing :
    let c1 := (deliver wc0 wRot 0).1
    let c2 := (deliver c1 wSibRetag 0).1
    routes c1 wSibRetag = true ∧ (deliver c1 wSibRetag 0).2 = .err eGroupNotFound ∧
    c2.g.path = [] ∧ c2.g.recNid = 0 ∧ c2.mgr = [] ∧
    (deliver c2 wOld2 0).2 = .app 2 ∧ (deliver c2 wNew 0).2 = .err eGroupNotFound ∧
    (deliver c2 wRot 0).2 = .unprocessable := by decide

/-- the statement of `routes_iff_current_id` without the no-rollback hypothesis -/
def routed_full : Prop :=
  ∀ (c : Cl) (e : Ev) (nx : Nat), NotBlocked c e → routes c e = true → (deliver c e nx).2 ≠ .err eGroupNotFound

theorem routed_full_false : ¬ routed_full := by
  intro h
  have := h (deliver wc0 wRot 0).1 wSibRetag 0 (notBlocked_of_none _ _ (by decide)) (by decide)
  revert this; decide

/-- non-vacuity of `routes_iff_current_id`: both cases occur -/
example : NotBlocked (deliver wc0 wRot 0).1 wOld ∧ routes (deliver wc0 wRot 0).1 wOld = false ∧
    NotBlocked (deliver wc0 wRot 0).1 wNew ∧ routes (deliver wc0 wRot 0).1 wNew = true ∧
    isBetter (deliver wc0 wRot 0).1 (epochOf wNew.path) wNew = false := by
  exact ⟨notBlocked_of_none _ _ (by decide), by decide, notBlocked_of_none _ _ (by decide), by decide, by decide⟩

/-! ### routing (second half of the property): incoming events are matched to the group by the nostr group id
    currently in force and never to a different group — proved in Props/C06Wrap.lean over Model.Wrap (several groups
    per client), re-exported here so that they are obligations of this property -/
theorem wrap_accept_iff : type_of% @C06Wrap.wrap_accept_iff := @C06Wrap.wrap_accept_iff
theorem wrap_accept_unique : type_of% @C06Wrap.wrap_accept_unique := @C06Wrap.wrap_accept_unique
theorem wrap_routes_only_by_current_id : type_of% @C06Wrap.wrap_routes_only_by_current_id := @C06Wrap.wrap_routes_only_by_current_id
theorem wrap_old_id_no_longer_routes : type_of% @C06Wrap.wrap_old_id_no_longer_routes := @C06Wrap.wrap_old_id_no_longer_routes

end MdkVerif.Props.C08
