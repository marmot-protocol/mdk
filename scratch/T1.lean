example {α : Type} (a b : Option α) (h : ∀ x, a = some x ↔ b = some x) : a = b := Option.ext h
example {α : Type} (X : List α) (s : α) (j : Nat) (h : j ≤ X.length) : (X ++ [s]).drop j = X.drop j ++ [s] := List.drop_append_of_le_length h
example {a b : Nat} (h : a ≠ b) : (b == a) = false := beq_false_of_ne (Ne.symm h)
example {a b : Nat} (h : a ≠ b) : (b == a) = false := by simp [Ne.symm h]
example {b r : Nat} (q : Nat) (h : r < b) : (q * b + r) / b = q := by rw [Nat.mul_comm, Nat.mul_add_div (by omega), Nat.div_eq_of_lt h]; rfl
example {l : List Nat} {n x : Nat} : x ∈ l.filter (· != n) ↔ x ∈ l ∧ x ≠ n := by simp
example (k a : Nat) (S : List Nat) : List.replicate k a ++ a :: S = a :: (List.replicate k a ++ S) := by
  rw [← List.cons_append, ← List.replicate_succ, List.replicate_succ', List.append_assoc]; rfl
#check @List.forall_mem_pair
#check @List.replicate_append_cons
