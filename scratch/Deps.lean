import Lean
import MdkVerif.Generated
import MdkVerif.GeneratedLeak
import MdkVerif.Model.AppMsg
import MdkVerif.Model.Basic
import MdkVerif.Model.Client
import MdkVerif.Model.Codec
import MdkVerif.Model.Crash
import MdkVerif.Model.CrashCore
import MdkVerif.Model.CrashSeq
import MdkVerif.Model.Ffi
import MdkVerif.Model.Handled
import MdkVerif.Model.Identity
import MdkVerif.Model.Keyring
import MdkVerif.Model.Knowledge
import MdkVerif.Model.Leak
import MdkVerif.Model.Locks
import MdkVerif.Model.Lru
import MdkVerif.Model.Media
import MdkVerif.Model.MediaEpoch
import MdkVerif.Model.MemLru
import MdkVerif.Model.OpenMatrix
import MdkVerif.Model.Proposal
import MdkVerif.Model.Ratchet
import MdkVerif.Model.Snapshots
import MdkVerif.Model.Store
import MdkVerif.Model.StoreLimits
import MdkVerif.Model.Tags
import MdkVerif.Model.Welcome
import MdkVerif.Model.Wrap
import MdkVerif.Proofs.Chain
import MdkVerif.Proofs.ChainMsg
import MdkVerif.Proofs.Client
import MdkVerif.Proofs.Codec
import MdkVerif.Proofs.Crash
import MdkVerif.Proofs.Ffi
import MdkVerif.Proofs.Fork
import MdkVerif.Proofs.ForkInv
import MdkVerif.Proofs.Identity
import MdkVerif.Proofs.Insert
import MdkVerif.Proofs.Ite
import MdkVerif.Proofs.Keyring
import MdkVerif.Proofs.Locks
import MdkVerif.Proofs.LocksNested
import MdkVerif.Proofs.LocksNestedStore
import MdkVerif.Proofs.LocksStore
import MdkVerif.Proofs.Lru
import MdkVerif.Proofs.Media
import MdkVerif.Proofs.MediaEpoch
import MdkVerif.Proofs.MemLru
import MdkVerif.Proofs.MemLruVis
import MdkVerif.Proofs.Proposal
import MdkVerif.Proofs.Ratchet
import MdkVerif.Proofs.Refine
import MdkVerif.Proofs.Restart
import MdkVerif.Proofs.RestartSim
import MdkVerif.Proofs.SnapBound
import MdkVerif.Proofs.Sort
import MdkVerif.Proofs.Store
import MdkVerif.Proofs.Tags
import MdkVerif.Proofs.Welcome
import MdkVerif.Proofs.WelcomeNid
import MdkVerif.Proofs.Wrap
import MdkVerif.Props.C01
import MdkVerif.Props.C01Chain
import MdkVerif.Props.C01Fork
import MdkVerif.Props.C02
import MdkVerif.Props.C02Chain
import MdkVerif.Props.C02Win
import MdkVerif.Props.C03
import MdkVerif.Props.C04
import MdkVerif.Props.C05
import MdkVerif.Props.C06
import MdkVerif.Props.C06Ffi
import MdkVerif.Props.C06Wrap
import MdkVerif.Props.C07
import MdkVerif.Props.C08
import MdkVerif.Props.C08Inv
import MdkVerif.Props.C09
import MdkVerif.Props.C10
import MdkVerif.Props.C10Limits
import MdkVerif.Props.C10Lru
import MdkVerif.Props.C11
import MdkVerif.Props.C12
import MdkVerif.Props.C13
import MdkVerif.Props.C14
import MdkVerif.Props.C15
import MdkVerif.Props.C16
import MdkVerif.Props.C17
import MdkVerif.Props.C18
import MdkVerif.Props.C19
import MdkVerif.Props.C20
open Lean Meta
set_option maxHeartbeats 0 in
run_cmd Elab.Command.liftTermElabM do
  let env ← getEnv
  let mut out := ""
  for (n, ci) in env.constants.map₁.toList do
    let some mi := env.getModuleIdxFor? n | continue
    let mod := env.header.moduleNames[mi.toNat]!
    unless (`MdkVerif).isPrefixOf mod do continue
    let deps := (ci.type.getUsedConstantsAsSet).union (match ci.value? (allowOpaque := true) with | some v => v.getUsedConstantsAsSet | none => {})
    for d in deps.toList do
      if d != n && (`MdkVerif).isPrefixOf d then out := out ++ s!"{n}\t{d}\n"
  IO.FS.writeFile "/root/wt/dup/scratch/deps.tsv" out
