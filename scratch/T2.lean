#check @List.prefix_concat_iff
example {p q : List Nat} {x : Nat} (h1 : ¬ q <+: p) (h2 : q ≠ p ++ [x]) : ¬ q <+: p ++ [x] :=
  fun h => (List.prefix_concat_iff.mp h).elim h2 h1
example {p q : List Nat} {x y : Nat} (h : p ++ [x] <+: q ++ [y]) : (p = q ∧ x = y) ∨ p ++ [x] <+: q :=
  (List.prefix_concat_iff.mp h).imp_left (fun e => ⟨List.append_inj_left' e rfl, by simpa using List.append_inj_right' e rfl⟩)
